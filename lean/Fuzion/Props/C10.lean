/-
  Fuzion.Props.C10 — "Every fee charged reaches the community pool exactly once".

  Property text:  Each fee recorded at a purchase is deposited into the chain's community pool in
  full and exactly once, by a well-formed fund-community-pool message whose depositor is the
  marketplace and whose amount is the recorded fee, no later than when that side's proceeds leave
  the marketplace.  It is never dropped, duplicated, paid to a user, or lost when the record is
  traded again before being withdrawn.

  (The byte-level format of the message is `Fuzion/Props/C10Proto.lean`.)

  The ledger of pending fees (`C10_execute_pending`): per denomination, what is recorded as pending
  after an accepted call plus what the call's fund-community-pool messages deposit equals what was
  pending before plus what the call charges (`charged`: zero except for `buy`, where it is the two
  fees `calc_fee_coin` computes).  So a pending fee leaves the records only by being deposited, in
  full, in the same response: never dropped, never duplicated, never turned into a payment to a user
  (`poolPaid` counts pool deposits only; C01 shows that the coins of every bank send come out of
  goods, not of fees).  At world level this becomes `pool balance + pending = initial + Σ charged`
  along every history (`C10_conservation`).
-/
import Fuzion.Lemmas.AcctLemmas
namespace Fuzion

/-! ## handler level -/

section handler
variable {m m' : Market} {env : Env} {out : List OutMsg} {j u : Nat}
  {sender : Nat} {funds : List Coin} {msg : ExecMsg}

/-- "deposited … in full and exactly once … never dropped, duplicated, paid to a user, or lost when
    the record is traded again": the pending-fee ledger of every accepted call balances.  Only
    fund-community-pool messages are counted on the left (`poolPaid`), only a purchase adds on the
    right (`charged`). -/
theorem C10_execute_pending (hI : IdsInv m) (hW : WFInv j u m)
    (h : execute m env sender funds msg = .ok (m', out)) :
    ∀ d, pendingFee m' d + poolPaid out d = pendingFee m d + charged m env sender msg d :=
  fun d => execute_pending d hI hW h

example : IdsInv AcctEx.mkt ∧ WFInv 1 2 AcctEx.mkt ∧
    ∃ r, execute AcctEx.mkt AcctEx.env0 2 [] (.buy 3 8) = .ok r := ⟨AcctEx.ids, AcctEx.wf, _, rfl⟩
example : IdsInv AcctEx.mkt ∧ WFInv 1 2 AcctEx.mkt ∧
    ∃ r, execute AcctEx.mkt AcctEx.env0 2 [] (.removeBucket 8) = .ok r := ⟨AcctEx.ids, AcctEx.wf, _, rfl⟩
/-- the numbers of the sample purchase in denomination 1: 4 pending before; the purchase charges 5
    (on the goods) and deposits the bucket's old 4 -/
example : pendingFee AcctEx.mkt 1 = 4 ∧ charged AcctEx.mkt AcctEx.env0 2 (.buy 3 8) 1 = 5 := by decide

/-- `WFInv` cannot be dropped: on an ill-formed record — a never-traded listing that carries a
    fee — `deleteListing` drops the fee without depositing it. -/
example : IdsInv AcctEx.badMkt ∧ ∃ m' out,
    execute AcctEx.badMkt AcctEx.env0 1 [] (.deleteListing 3) = .ok (m', out) ∧
    pendingFee AcctEx.badMkt 1 = 9 ∧ pendingFee m' 1 = 4 ∧ poolPaid out 1 = 0 ∧
    charged AcctEx.badMkt AcctEx.env0 1 (.deleteListing 3) 1 = 0 :=
  ⟨by constructor <;> decide, _, _, rfl, by decide⟩

/-- nothing but a purchase charges a fee -/
theorem C10_charged_only_buy (d : Nat) (hne : ∀ lid bid, msg ≠ .buy lid bid) :
    charged m env sender msg d = 0 := by
  cases msg with
  | buy lid bid => exact absurd rfl (hne lid bid)
  | _ => rfl

example : ∀ lid bid, ExecMsg.removeBucket 8 ≠ .buy lid bid := by intro _ _ h; cases h

/-- "Each fee recorded at a purchase": what an accepted purchase charges is exactly what it
    records — the `fee` field of the re-filed listing plus the `fee` field of the re-filed
    bucket (each is `calc_fee_coin` of that side's goods in the denomination in force). -/
theorem C10_charged_recorded {buyer lid bid : Nat} (h : buy m env buyer lid bid = .ok (m', out)) :
    ∃ k l l' b', findById lid m.listings = some (k, l) ∧
      findById lid m'.listings = some ((buyer, lid), l') ∧
      alookup (l.creator, bid) m'.buckets = some b' ∧
      ∀ d, chargedBy m env buyer lid bid d = feeAmt l'.fee d + feeAmt b'.fee d := by
  cases buy_effect (a := .funds (.native [])) h with
  | buy hb hl ho hcmp hst hwl hcl hexp hlfee hbfee hra hr1 hr2 =>
    exact ⟨_, _, _, _, hl, (findById_ainsert ..).trans (if_pos (findById_some hl).1),
      alookup_ainsert_self _ _ _, chargedBy_eq hl hb hlfee hbfee⟩

example : ∃ r, buy AcctEx.mkt AcctEx.env0 2 3 8 = .ok r := ⟨_, rfl⟩

/-- "by a well-formed fund-community-pool message whose depositor is the marketplace and whose
    amount is the recorded fee": every pool deposit an accepted call emits names the marketplace as
    depositor and carries the `fee` field of a record of the pre-state; that fee is non-zero and in
    one of the two fee denominations. -/
theorem C10_wellformed (hI : IdsInv m) (hW : WFInv env.junoD env.usdcD m)
    (h : execute m env sender funds msg = .ok (m', out)) :
    ∀ dep c, OutMsg.fundPool dep c ∈ out →
      dep = env.self ∧ RecFee m c ∧ c.amount ≠ 0 ∧ (c.key = env.junoD ∨ c.key = env.usdcD) := by
  intro dep c hm
  obtain ⟨h1, h2⟩ := (execute_out_shape h _ hm).2.pool
  exact ⟨h1, h2, hW.recFee h2⟩

example : IdsInv AcctEx.mkt ∧ WFInv AcctEx.env0.junoD AcctEx.env0.usdcD AcctEx.mkt ∧
    ∃ m', execute AcctEx.mkt AcctEx.env0 2 [] (.buy 3 8) =
      .ok (m', [.fundPool 100 ⟨1, 4⟩, .bankSend 9 [⟨2, 50⟩]]) := ⟨AcctEx.ids, AcctEx.wf, _, rfl⟩

/-! ### timeliness -/

/-- "no later than when that side's proceeds leave the marketplace" (bucket): the response that
    sends a bucket's contents to its owner ends with the deposit of the bucket's pending fee, and
    removes the record. -/
theorem C10_withdrawBucket {user id : Nat} (h : withdrawBucket m env user id = .ok (m', out)) :
    ∃ b, alookup (user, id) m.buckets = some b ∧
      out = sendTokens b.owner b.funds ++ feeMsg env.self b.fee ∧
      m'.buckets = aerase (user, id) m.buckets ∧ alookup (user, id) m'.buckets = none := by
  obtain ⟨b, hb, _, rfl, rfl⟩ := withdrawBucket_ok_iff.1 h
  exact ⟨b, hb, rfl, rfl, alookup_aerase_self _ _⟩

example : ∃ r, withdrawBucket AcctEx.mkt AcctEx.env0 2 8 = .ok r := ⟨_, rfl⟩

/-- "no later than when that side's proceeds leave the marketplace" (purchased listing): the
    response that sends the purchased goods to the claimant ends with the deposit of the listing's
    pending fee, and removes the record. -/
theorem C10_withdrawPurchased {who lid : Nat} (h : withdrawPurchased m env who lid = .ok (m', out)) :
    ∃ k l, findById lid m.listings = some (k, l) ∧ l.claimant = some who ∧
      out = sendTokens who l.forSale ++ feeMsg env.self l.fee ∧
      m'.listings = aerase (who, lid) m.listings := by
  obtain ⟨k, l, hl, hc, _, rfl, rfl⟩ := withdrawPurchased_ok_iff.1 h
  exact ⟨k, l, hl, hc, rfl, rfl⟩

/-- "or lost when the record is traded again before being withdrawn" (repair of defect D1): a
    purchase paid with a bucket that still carries a pending fee deposits that fee in the same
    response, before the bucket is re-filed with the new fee. -/
theorem C10_buy_pays_old {buyer lid bid : Nat} {b : Bucket} {f : Coin}
    (h : buy m env buyer lid bid = .ok (m', out)) (hb : alookup (buyer, bid) m.buckets = some b)
    (hf : b.fee = some f) : OutMsg.fundPool env.self f ∈ out := by
  cases buy_effect (a := .funds (.native [])) h with
  | buy hb' hl ho hcmp hst hwl hcl hexp hlfee hbfee hra hr1 hr2 =>
    cases hb.symm.trans hb'
    rw [← feeMsg_eq_pendingFeeMsgs]
    exact List.mem_append_left _ (List.mem_append_left _ (mem_feeMsg.2 ⟨f, hf, rfl⟩))

example : (∃ m', buy AcctEx.mkt AcctEx.env0 2 3 8 =
      .ok (m', [.fundPool 100 ⟨1, 4⟩, .bankSend 9 [⟨2, 50⟩]])) ∧
    alookup (2, 8) AcctEx.mkt.buckets = some AcctEx.bkt ∧ AcctEx.bkt.fee = some ⟨1, 4⟩ :=
  ⟨AcctEx.buy_ok, rfl, rfl⟩

/-- a listing can only be traded again after it has been withdrawn (a closed listing is never
    purchasable), so the listing side needs no such payment: the listing a purchase consumes
    carries no fee -/
theorem C10_buy_listing_no_fee {buyer lid bid : Nat} (hI : IdsInv m) (hW : WFInv j u m)
    (h : buy m env buyer lid bid = .ok (m', out)) :
    ∃ k l, findById lid m.listings = some (k, l) ∧ l.fee = none := by
  cases buy_effect (a := .funds (.native [])) h with
  | buy hb hl ho hcmp hst hwl hcl hexp hlfee hbfee hra hr1 hr2 =>
    exact ⟨_, _, hl, (wfListing_finalized (hW.lwf _ (findById_some hl).2) hst).2.2⟩

example : IdsInv AcctEx.mkt ∧ WFInv 1 2 AcctEx.mkt ∧ ∃ r, buy AcctEx.mkt AcctEx.env0 2 3 8 = .ok r :=
  ⟨AcctEx.ids, AcctEx.wf, _, rfl⟩

/-- deleting a listing never emits a pool message — and never needs to: the deleted listing has no
    claimant, hence was never traded and carries no fee -/
theorem C10_delete_no_pool {id : Nat} (hI : IdsInv m) (hW : WFInv j u m)
    (h : deleteListing m env sender id = .ok (m', out)) :
    (∀ dep c, OutMsg.fundPool dep c ∉ out) ∧
    ∃ l, alookup (sender, id) m.listings = some l ∧ l.fee = none := by
  obtain ⟨l, hl, _, hc, _, _, rfl⟩ := deleteListing_ok_iff.1 h
  refine ⟨?_, l, hl, wfListing_fee_none (hW.listing hl) hc⟩
  intro dep c hm
  rcases mem_sendTokens.1 hm with ⟨_, e⟩ | ⟨_, _, e⟩ | ⟨_, _, e⟩ <;> cases e

/-- a never-traded record has no fee: only a closed listing can carry one -/
theorem C10_untraded_no_fee {k : Nat × Nat} {l : Listing} (hW : WFInv j u m)
    (hl : alookup k m.listings = some l) (hs : l.status ≠ .closed) : l.fee = none := by
  cases hf : l.fee with
  | none => rfl
  | some c => exact absurd (wfListing_fee (hW.listing hl) hf).2.2 hs

example : WFInv 1 2 AcctEx.mkt ∧ alookup (1, 3) AcctEx.mkt.listings = some AcctEx.lst ∧
    AcctEx.lst.status ≠ .closed := ⟨AcctEx.wf, rfl, by decide⟩

end handler

private def exDelL : Listing :=
  { AcctEx.lst with finalizedAt := none, expiresAt := none, status := .preparing }
private def exDel : Market := { AcctEx.mkt with listings := [((1, 3), exDelL)] }
/-- for `C10_delete_no_pool`: account 1 deletes its preparing listing -/
example : IdsInv exDel ∧ WFInv 1 2 exDel ∧ ∃ r, deleteListing exDel AcctEx.env0 1 3 = .ok r :=
  ⟨by constructor <;> decide, by constructor <;> decide, _, rfl⟩

private def exClosedL : Listing :=
  { AcctEx.lst with creator := 2, claimant := some 2, status := .closed, fee := some ⟨1, 5⟩ }
private def exClosed : Market := { AcctEx.mkt with listings := [((2, 3), exClosedL)] }
/-- for `C10_withdrawPurchased`: account 2 withdraws the listing it bought, which carries a fee of 5 -/
example : ∃ r, withdrawPurchased exClosed AcctEx.env0 2 3 = .ok r := ⟨_, rfl⟩

/-! ## world level: the ghost ledger -/

def chargedStep (w : World) (op : Op) (d : Nat) : Nat :=
  if (step w op).2.ok then
    (match op.asExec with
     | some (c, _, msg) => charged w.mkt w.env c msg d
     | none => 0)
  else 0

def chargedRun (w : World) : List Op → Nat → Nat
  | [], _ => 0
  | op :: ops, d => chargedStep w op d + chargedRun (step w op).1 ops d

theorem chargedStep_failed {w : World} {op : Op} (h : (step w op).2.ok = false) (d : Nat) :
    chargedStep w op d = 0 := by
  rw [chargedStep, h]
  rfl

theorem chargedStep_ok {w : World} {op : Op} {c : Nat} {f : List Coin} {msg : ExecMsg}
    (ho : op.asExec = some (c, f, msg)) (hok : (step w op).2.ok = true) (d : Nat) :
    chargedStep w op d = charged w.mkt w.env c msg d := by
  rw [chargedStep, if_pos hok, ho]

theorem chargedStep_nonmarket {w : World} {op : Op} (ho : op.asExec = none) (d : Nat) :
    chargedStep w op d = 0 := by
  rw [chargedStep, ho]
  exact ite_self 0

/-- Conservation across one transaction: the community pool's balance plus the fees still recorded
    as pending grows by exactly the fees charged.  Side conditions ("nobody else pays the pool"):
    the pool is not the marketplace, no registry entry pays out to the pool, the operation is not
    signed by the pool and does not register it as payout address. -/
theorem C10_step {w : World} {op : Op} (hI : IdsInv w.mkt) (hW : WFInv w.junoD w.usdcD w.mkt)
    (hpool : w.pool ≠ w.self) (hpay : PayoutsNe w.reg w.pool) (hop : op.avoids w.pool) :
    ∀ d, lget (step w op).1.bank (w.pool, d) + pendingFee (step w op).1.mkt d =
      lget w.bank (w.pool, d) + pendingFee w.mkt d + chargedStep w op d := by
  intro d
  cases ho : op.asExec with
  | some tr =>
    obtain ⟨c, f, msg⟩ := tr
    rcases stepF_pool (fail := noFault) ho (Op.avoids_sender hop ho) hpool hpay with
      ⟨e, h⟩ | ⟨m', msgs, w2, hx, h, rfl, hp⟩
    · rw [chargedStep_failed (by rw [step, h]; rfl), step, h]
      rfl
    · rw [chargedStep_ok ho (by rw [step, h]), step, h]
      have := execute_pending d hI hW hx
      have := hp d
      dsimp only
      omega
  | none =>
    obtain ⟨h1, _, _, h4, _⟩ := stepF_nonmarket (fail := noFault) (w := w) ho
    rw [chargedStep_nonmarket ho, step, h1, h4]
    rfl

example : IdsInv AcctEx.w0.mkt ∧ WFInv AcctEx.w0.junoD AcctEx.w0.usdcD AcctEx.w0.mkt ∧
    AcctEx.w0.pool ≠ AcctEx.w0.self ∧ PayoutsNe AcctEx.w0.reg AcctEx.w0.pool ∧
    ∀ op ∈ AcctEx.ops, op.avoids AcctEx.w0.pool :=
  ⟨IdsInv.init _ _, WFInv.init _ _ _ _, by decide, AcctEx.w0_payouts 101 (by decide), by decide⟩

/-- what `C10_conservation` carries along a history: the two invariants of the records `C10_step`
    needs and the two side conditions on the world, which a transaction keeps under `Op.avoids` -/
structure C10Inv (w : World) : Prop where
  ids : IdsInv w.mkt
  wf : WFInv w.junoD w.usdcD w.mkt
  pool : w.pool ≠ w.self
  payouts : PayoutsNe w.reg w.pool

/-- "Every fee charged reaches the community pool exactly once": along every history, per
    denomination, `pool balance + pending fees = initial pool balance + initial pending fees +
    Σ fees charged`.  Together with `pendingFee = 0` once every traded record has been withdrawn,
    the pool has received every fee, once.  `hIds` / `hWF` ask that `execute` preserves the id and
    well-formedness invariants; both hold outright (`C09_inv_execute`, `C12_inv_execute`), and
    `C10_conservation_closed` (Props/C10Closed.lean) is this theorem with both supplied. -/
theorem C10_conservation
    (hIds : ∀ {m m' : Market} {env : Env} {s : Nat} {f : List Coin} {msg : ExecMsg}
      {out : List OutMsg}, IdsInv m → execute m env s f msg = .ok (m', out) → IdsInv m')
    (hWF : ∀ {m m' : Market} {env : Env} {s : Nat} {f : List Coin} {msg : ExecMsg}
      {out : List OutMsg}, IdsInv m → WFInv env.junoD env.usdcD m →
      execute m env s f msg = .ok (m', out) → WFInv env.junoD env.usdcD m')
    (ops : List Op) : ∀ {w : World}, C10Inv w → (∀ op ∈ ops, op.avoids w.pool) → ∀ d,
      lget (run w ops).bank (w.pool, d) + pendingFee (run w ops).mkt d =
        lget w.bank (w.pool, d) + pendingFee w.mkt d + chargedRun w ops d := by
  -- `chargedRun` follows the list from the front, so this is not of the form `P (run w ops)`
  induction ops with
  | nil => intro w _ _ d; rfl
  | cons op ops ih =>
    intro w h hops d
    have hop := hops op List.mem_cons_self
    have hst : StaticEq w (step w op).1 := stepF_static noFault w op
    have h1 := C10_step h.ids h.wf h.pool h.payouts hop d
    have h' : C10Inv (step w op).1 :=
      ⟨stepF_mkt_inv (P := IdsInv) h.ids (fun hx => hIds h.ids hx),
        hst.junoD ▸ hst.usdcD ▸
          stepF_mkt_inv (P := WFInv w.junoD w.usdcD) h.wf (fun hx => hWF h.ids h.wf hx),
        hst.pool_ne_self h.pool, hst.pool ▸ stepF_payouts h.payouts hop⟩
    have h2 := ih h' (fun o ho => hst.pool ▸ hops o (List.mem_cons_of_mem _ ho)) d
    rw [hst.pool] at h2
    rw [chargedRun, run, h2, h1, Nat.add_assoc]

example : C10Inv AcctEx.w0 :=
  ⟨IdsInv.init _ _, WFInv.init _ _ _ _, by decide, AcctEx.w0_payouts 101 (by decide)⟩
example : ∀ op ∈ AcctEx.ops, op.avoids AcctEx.w0.pool := by decide
/-- in the sample history one fee of 5 (denomination 1) is charged; after the buyer has withdrawn,
    the pool holds 5 and nothing is pending -/
example : chargedRun AcctEx.w0 AcctEx.ops 1 = 5 ∧ chargedRun AcctEx.w0 AcctEx.ops 2 = 0 ∧
    lget (run AcctEx.w0 AcctEx.ops).bank (101, 1) = 5 ∧ pendingFee (run AcctEx.w0 AcctEx.ops).mkt 1 = 0 ∧
    pendingFee (run AcctEx.w0 (AcctEx.ops.take 7)).mkt 1 = 5 ∧
    lget (run AcctEx.w0 (AcctEx.ops.take 7)).bank (101, 1) = 0 := by decide +kernel

#print axioms C10_execute_pending
#print axioms C10_charged_only_buy
#print axioms C10_charged_recorded
#print axioms C10_wellformed
#print axioms C10_withdrawBucket
#print axioms C10_withdrawPurchased
#print axioms C10_buy_pays_old
#print axioms C10_buy_listing_no_fee
#print axioms C10_delete_no_pool
#print axioms C10_untraded_no_fee
#print axioms C10_step
#print axioms C10_conservation
#print axioms chargedStep_failed
#print axioms chargedStep_ok
#print axioms chargedStep_nonmarket

end Fuzion
