/-
  Fuzion.Props.C14Reach — C14 "Royalty entries change only by the collection's admin, within
  bounds", lifted from one handler call / one transaction (Props/C14.lean) to whole histories.

  `run w0 ops` is the state after the history `ops` (any mix of marketplace messages, token sends,
  registry messages, admin hand-overs, clock ticks, by anybody, accepted or refused);
  `run w0 (ops.take i)` is the state in which the `i`-th operation `ops[i]` runs.  The start world
  `w0` is arbitrary: each theorem asks of `w0.reg` only what its hypotheses say (rates within
  bounds, one entry per collection, or `w0.reg = []`) and nothing of the marketplace.

  Lookups read `reg` directly in the model, so `C14_lookup_current_reach` and
  `C14_lookup_follows_reach` hold by definition; `C14_lookup_unique_reach` is the content.
-/
import Fuzion.Props.C14
import Fuzion.Lemmas.AcctLemmas
namespace Fuzion

/-- `f n` is still `f 0`, or some step `i < n` was the last to change the value -/
theorem last_change {α : Type} [DecidableEq α] (f : Nat → α) (n : Nat) :
    f n = f 0 ∨ ∃ i, i < n ∧ f (i + 1) ≠ f i ∧ ∀ j, i < j → j ≤ n → f j = f n := by
  induction n with
  | zero => exact .inl rfl
  | succ n ih =>
    by_cases h : f (n + 1) = f n
    · rw [h]
      rcases ih with h0 | ⟨i, hi, hne, hall⟩
      · exact .inl h0
      · refine .inr ⟨i, Nat.lt_succ_of_lt hi, hne, fun j hij hj => ?_⟩
        rcases Nat.le_succ_iff.1 hj with hj | rfl
        · exact hall j hij hj
        · exact h
    · exact .inr ⟨n, Nat.lt_succ_self n, h, fun j hij hj => Nat.le_antisymm hj hij ▸ rfl⟩

theorem C14_step_stamp_inv {w : World} (op : Op) (hinv : ∀ p ∈ w.reg, p.2.lastUpdated ≤ w.height) :
    ∀ p ∈ (step w op).1.reg, p.2.lastUpdated ≤ (step w op).1.height := by
  rcases C14_step_reg w op with e | ⟨s, m, r, -, hx, e⟩
  · intro p hp
    rw [e] at hp
    exact Nat.le_trans (hinv p hp) (stepF_height noFault w op)
  · rw [e]; exact C14_stamp_inv (env := w.regEnv) hinv hx

/-- "can be created, modified or removed only by the account that is that NFT contract's admin at
    that moment; its rate is always between 10 and 300 bps; … cannot be modified or removed until
    100 blocks after it was created or last modified".
    Who changes an entry, when and to what: if `c`'s entry differs before and after `ops[i]`, then
    `ops[i]` is an accepted registry message naming `c` whose sender is `c`'s admin in the state in
    which it runs; an entry that existed passed the cooldown test there
    (`min (lastUpdated + 100) u64::MAX ≤ height`, so `lastUpdated + 100 ≤ height` below block
    `u64::MAX`); an entry that exists afterwards is stamped with that height and its rate is within
    10..300.  Asked of `w0`: the rates of `w0.reg` are within bounds. -/
theorem C14_history_changes_reach {w0 : World}
    (hinv : ∀ p ∈ w0.reg, MIN_BPS ≤ p.2.bps ∧ p.2.bps ≤ MAX_BPS) (ops : List Op) (i : Nat)
    (hi : i < ops.length) {c : Nat}
    (hch : alookup c (run w0 (ops.take (i + 1))).reg ≠ alookup c (run w0 (ops.take i)).reg) :
    ∃ sender msg, ops[i] = .royalty sender msg ∧ msg.nft = .valid c ∧
      (step (run w0 (ops.take i)) ops[i]).2.ok = true ∧
      (∃ ci, alookup c (run w0 (ops.take i)).contracts = some ci ∧ ci.admin = some sender) ∧
      (∀ e, alookup c (run w0 (ops.take i)).reg = some e →
        min (e.lastUpdated + COOLDOWN) U64MAX ≤ (run w0 (ops.take i)).height ∧
        ((run w0 (ops.take i)).height < U64MAX →
          e.lastUpdated + COOLDOWN ≤ (run w0 (ops.take i)).height)) ∧
      (∀ e', alookup c (run w0 (ops.take (i + 1))).reg = some e' →
        e'.lastUpdated = (run w0 (ops.take i)).height ∧ MIN_BPS ≤ e'.bps ∧ e'.bps ≤ MAX_BPS) := by
  rw [run_take_succ w0 ops i hi] at hch
  obtain ⟨sender, msg, hop, hn, hok, hadm, hcool, hst⟩ := C14_step_change_names hch
  refine ⟨sender, msg, hop, hn, hok, hadm, ?_, ?_⟩
  · intro e he
    exact ⟨hcool e he, fun hH => (min_sat_le_iff (.inr hH)).1 (hcool e he)⟩
  · intro e' he'
    have hb := C14_reach_bps hinv (ops.take (i + 1)) (c, e') (alookup_some_mem he')
    rw [run_take_succ w0 ops i hi] at he'
    exact ⟨hst e' he', hb⟩

/-- … in particular from the empty registry, with no hypothesis at all -/
theorem C14_history_changes_empty_reach {w0 : World} (h0 : w0.reg = []) (ops : List Op) (i : Nat)
    (hi : i < ops.length) {c : Nat}
    (hch : alookup c (run w0 (ops.take (i + 1))).reg ≠ alookup c (run w0 (ops.take i)).reg) :
    ∃ sender msg, ops[i] = .royalty sender msg ∧ msg.nft = .valid c ∧
      (step (run w0 (ops.take i)) ops[i]).2.ok = true ∧
      (∃ ci, alookup c (run w0 (ops.take i)).contracts = some ci ∧ ci.admin = some sender) ∧
      (∀ e, alookup c (run w0 (ops.take i)).reg = some e →
        min (e.lastUpdated + COOLDOWN) U64MAX ≤ (run w0 (ops.take i)).height ∧
        ((run w0 (ops.take i)).height < U64MAX →
          e.lastUpdated + COOLDOWN ≤ (run w0 (ops.take i)).height)) ∧
      (∀ e', alookup c (run w0 (ops.take (i + 1))).reg = some e' →
        e'.lastUpdated = (run w0 (ops.take i)).height ∧ MIN_BPS ≤ e'.bps ∧ e'.bps ≤ MAX_BPS) :=
  C14_history_changes_reach (fun p hp => by rw [h0] at hp; cases hp) ops i hi hch

/-- "its rate is always between 10 and 300 bps", "created or last modified": in every reached
    state (`C14_reach_bps`; no entry is stamped with a future block, `C14_stamp_inv`). -/
theorem C14_entry_bounds_reach {w0 : World}
    (hb : ∀ p ∈ w0.reg, MIN_BPS ≤ p.2.bps ∧ p.2.bps ≤ MAX_BPS)
    (hs : ∀ p ∈ w0.reg, p.2.lastUpdated ≤ w0.height) (ops : List Op) :
    ∀ p ∈ (run w0 ops).reg,
      MIN_BPS ≤ p.2.bps ∧ p.2.bps ≤ MAX_BPS ∧ p.2.lastUpdated ≤ (run w0 ops).height := by
  intro p hp
  obtain ⟨h1, h2⟩ := C14_reach_bps hb ops p hp
  exact ⟨h1, h2, run_invariant (P := fun w => ∀ p ∈ w.reg, p.2.lastUpdated ≤ w.height)
    (fun _ op => C14_step_stamp_inv op) ops hs p hp⟩

/-- `C14_entry_bounds_reach` from the empty registry (bounds only; which operation wrote an entry:
    `C14_entry_written_by_admin_reach`) -/
theorem C14_entry_provenance_reach {w0 : World} (h0 : w0.reg = []) (ops : List Op) :
    ∀ p ∈ (run w0 ops).reg,
      MIN_BPS ≤ p.2.bps ∧ p.2.bps ≤ MAX_BPS ∧ p.2.lastUpdated ≤ (run w0 ops).height :=
  C14_entry_bounds_reach (by simp [h0]) (by simp [h0]) ops

/-- `c`'s entry is the one of `w0`, or was written by the last operation that changed it -/
theorem C14_entry_origin_reach (w0 : World) (ops : List Op) (c : Nat) :
    alookup c (run w0 ops).reg = alookup c w0.reg ∨
    ∃ i, ∃ hi : i < ops.length, ∃ sender msg, ops[i] = .royalty sender msg ∧
      msg.nft = .valid c ∧ (step (run w0 (ops.take i)) ops[i]).2.ok = true ∧
      (∃ ci, alookup c (run w0 (ops.take i)).contracts = some ci ∧ ci.admin = some sender) ∧
      (∀ e, alookup c (run w0 ops).reg = some e → e.lastUpdated = (run w0 (ops.take i)).height) ∧
      (∀ j, i < j → j ≤ ops.length →
        alookup c (run w0 (ops.take j)).reg = alookup c (run w0 ops).reg) := by
  -- the operation in question is the last one that changed `c`'s entry
  have h := last_change (fun j => alookup c (run w0 (ops.take j)).reg) ops.length
  simp only [List.take_length] at h
  rcases h with h | ⟨i, hi, hne, hall⟩
  · exact .inl h
  · rw [run_take_succ w0 ops i hi] at hne
    obtain ⟨sender, msg, h1, h2, h3, h4, -, h6⟩ := C14_step_change_names hne
    refine .inr ⟨i, hi, sender, msg, h1, h2, h3, h4, fun e he => h6 e ?_, hall⟩
    rw [← run_take_succ w0 ops i hi, hall _ (Nat.lt_succ_self i) hi, he]

/-- Provenance: from the empty registry, every entry `e` found for `c` after any history was
    written by an identified `ops[i]` — an accepted registry message naming `c`, sent by `c`'s
    admin in the state in which it ran, stamping `e` with that state's height — and `c`'s entry
    has been `e` after every later operation. -/
theorem C14_entry_written_by_admin_reach {w0 : World} (h0 : w0.reg = []) (ops : List Op) {c : Nat}
    {e : RoyaltyInfo} (he : alookup c (run w0 ops).reg = some e) :
    ∃ i, ∃ hi : i < ops.length, ∃ sender msg, ops[i] = .royalty sender msg ∧
      msg.nft = .valid c ∧ (step (run w0 (ops.take i)) ops[i]).2.ok = true ∧
      (∃ ci, alookup c (run w0 (ops.take i)).contracts = some ci ∧ ci.admin = some sender) ∧
      e.lastUpdated = (run w0 (ops.take i)).height ∧
      (∀ j, i < j → j ≤ ops.length → alookup c (run w0 (ops.take j)).reg = some e) := by
  rcases C14_entry_origin_reach w0 ops c with h | ⟨i, hi, sender, msg, h1, h2, h3, h4, h5, h6⟩
  · rw [he, h0] at h
    cases h
  · exact ⟨i, hi, sender, msg, h1, h2, h3, h4, h5 e he, fun j hij hj => (h6 j hij hj).trans he⟩

/-- "can be created, modified or removed only by …": no marketplace operation (`.exec`,
    `.send20`, `.send721` — accepted or failed, forged hook calls included), no admin hand-over
    and no clock tick changes the registry, along a history and every prefix of it. -/
theorem C14_marketplace_never_changes_registry_reach (w0 : World) (ops : List Op)
    (hops : ∀ op ∈ ops, ∀ s m, op ≠ .royalty s m) :
    (run w0 ops).reg = w0.reg ∧ ∀ n, (run w0 (ops.take n)).reg = w0.reg := by
  have key : ∀ l : List Op, (∀ op ∈ l, ∀ s m, op ≠ .royalty s m) → (run w0 l).reg = w0.reg :=
    fun l h => run_induct (P := fun w => w.reg = w0.reg) (fun _ _ hop hw => (C14_frame hop).trans hw)
      l h rfl
  exact ⟨key ops hops, fun n => key _ fun op ho => hops op (List.mem_of_mem_take ho)⟩

/-- Per collection: a history in which no registry message names `c` — whatever registry traffic
    there is about other collections — leaves `c`'s entry, present or absent, as it was. -/
theorem C14_other_collections_untouched_reach (w0 : World) (ops : List Op) (c : Nat)
    (hops : ∀ op ∈ ops, ∀ s m, op = .royalty s m → m.nft ≠ .valid c) :
    alookup c (run w0 ops).reg = alookup c w0.reg := by
  refine run_induct (P := fun w => alookup c w.reg = alookup c w0.reg)
    (fun w op hop hw => ?_) ops hops rfl
  refine Eq.trans (Decidable.byContradiction fun hne => ?_) hw
  obtain ⟨s, m, hm, hn, _⟩ := C14_step_change_names hne
  exact hop s m hm hn

theorem C14_refused_never_changes_registry_reach (w0 : World) (ops : List Op)
    (hops : ∀ i (hi : i < ops.length), (∃ s m, ops[i] = .royalty s m) →
      (step (run w0 (ops.take i)) ops[i]).2.ok = false) :
    (run w0 ops).reg = w0.reg := by
  rcases last_change (fun j => (run w0 (ops.take j)).reg) ops.length with h | ⟨i, hi, hne, -⟩
  · rwa [List.take_length] at h
  · -- no operation changes the registry
    refine absurd ?_ hne
    rw [run_take_succ w0 ops i hi]
    by_cases hr : ∃ s m, ops[i] = .royalty s m
    · exact congrArg World.reg (stepF_failed_noop noFault _ _ (hops i hi hr))
    · exact C14_frame fun s m h => hr ⟨s, m, h⟩

/-- "Lookups, single or batched, return the current entry (or none) for each requested
    collection, in request order", on the registry of any reached state; so is what the
    marketplace sees through `env.regLookup` (used for the royalties of a purchase); the empty
    batch is rejected. -/
theorem C14_lookup_current_reach (w0 : World) (ops : List Op) :
    (∀ c, regSingle (run w0 ops).reg c = alookup c (run w0 ops).reg) ∧
    (∀ c, (run w0 ops).env.regLookup c = alookup c (run w0 ops).reg) ∧
    (∀ cs, cs ≠ [] →
      regMulti (run w0 ops).reg cs = some (cs.map fun c => alookup c (run w0 ops).reg)) ∧
    (∀ cs out, regMulti (run w0 ops).reg cs = some out →
      out.length = cs.length ∧
      ∀ i (hi : i < cs.length), out[i]? = some (alookup cs[i] (run w0 ops).reg)) ∧
    regMulti (run w0 ops).reg [] = none :=
  ⟨fun c => C14_single _ c, fun _ => rfl, fun _ h => C14_multi _ h,
   fun _ _ h => C14_multi_get h, C14_multi_nil _⟩

/-- "the current entry": from a registry with one entry per collection (e.g. the empty one),
    `(c, e)` is stored exactly when the lookup returns `e` — no stale second entry can hide behind
    the answer. -/
theorem C14_lookup_unique_reach {w0 : World} (hnd : (akeys w0.reg).Nodup) (ops : List Op) (c : Nat)
    (e : RoyaltyInfo) :
    (c, e) ∈ (run w0 ops).reg ↔ regSingle (run w0 ops).reg c = some e :=
  ⟨fun hm => mem_nodup_alookup (C14_reach_nodup hnd ops) hm, fun h => alookup_some_mem h⟩

/-- The lookup follows every change at once: right after the `i`-th operation it returns the entry
    of the state after it.  By definition: the model has no cache, `regSingle` and `env.regLookup`
    read `reg`. -/
theorem C14_lookup_follows_reach (w0 : World) (ops : List Op) (i : Nat) (hi : i < ops.length)
    (c : Nat) :
    regSingle (run w0 (ops.take (i + 1))).reg c =
      alookup c (step (run w0 (ops.take i)) ops[i]).1.reg ∧
    (run w0 (ops.take (i + 1))).env.regLookup c =
      alookup c (step (run w0 (ops.take i)) ops[i]).1.reg := by
  rw [run_take_succ w0 ops i hi]
  exact ⟨rfl, rfl⟩

/-! ### sample worlds and histories for the examples

`AcctEx.w0` (Lemmas/AcctLemmas.lean): height 200, collection 60 administered by account 4, its
entry `⟨0, 250, 9⟩` stored.  In `AcctEx.ops` operation 5 is account 4's `Update` of the payout
address; all other operations are marketplace traffic and a clock tick.

`C14REx.w0` is the same world with the empty registry; in `C14REx.ops` account 4 registers 50 bps
for collection 60, is refused an update 99 blocks later, hands the collection over to account 2
after 100 blocks, is refused again (no longer admin), and account 2 raises the rate to 300 bps;
marketplace traffic in between. -/

namespace C14REx
def w0 : World := { AcctEx.w0 with reg := [] }
def ops : List Op :=
  [ .royalty 4 (.register (.valid 60) (.valid 9) 50),
    .exec 1 [⟨1, 1000⟩] (.createListing 3 ⟨⟨[⟨2, 2000⟩], [], []⟩, none⟩),
    .advance 0 99,
    .royalty 4 (.update (.valid 60) none (some 300)),
    .advance 0 1,
    .setAdmin 4 60 (some 2),
    .royalty 4 (.update (.valid 60) none (some 300)),
    .send721 60 1 7 (some (.addToListing 3)),
    .royalty 2 (.update (.valid 60) none (some 300)),
    .exec 1 [] (.finalize 3 600) ]
/-- the marketplace-only part of the sample history `AcctEx.ops` -/
def mktOps : List Op := AcctEx.ops.take 5 ++ AcctEx.ops.drop 6
end C14REx

-- `C14_history_changes_reach`: hypotheses, and a position at which the entry of 60 changes
example : ∀ p ∈ AcctEx.w0.reg, MIN_BPS ≤ p.2.bps ∧ p.2.bps ≤ MAX_BPS := by decide
example : (5 < AcctEx.ops.length) ∧
    alookup 60 (run AcctEx.w0 (AcctEx.ops.take (5 + 1))).reg ≠
      alookup 60 (run AcctEx.w0 (AcctEx.ops.take 5)).reg ∧
    alookup 60 (run AcctEx.w0 (AcctEx.ops.take 6)).reg = some ⟨200, 250, 6⟩ := by decide +kernel
-- from the empty registry: creation at position 0, modification at position 8 (by the NEW admin,
-- 100 blocks after the creation: 200 + 100 ≤ 300); the refused attempts change nothing
example : C14REx.w0.reg = [] := rfl
example : alookup 60 (run C14REx.w0 (C14REx.ops.take (0 + 1))).reg ≠
      alookup 60 (run C14REx.w0 (C14REx.ops.take 0)).reg ∧
    alookup 60 (run C14REx.w0 (C14REx.ops.take (8 + 1))).reg ≠
      alookup 60 (run C14REx.w0 (C14REx.ops.take 8)).reg ∧
    alookup 60 (run C14REx.w0 (C14REx.ops.take 8)).reg = some ⟨200, 50, 9⟩ ∧
    (run C14REx.w0 (C14REx.ops.take 8)).height = 300 ∧
    (alookup 60 (run C14REx.w0 (C14REx.ops.take 8)).contracts).map (·.admin) = some (some 2) ∧
    (step (run C14REx.w0 (C14REx.ops.take 3)) (.royalty 4 (.update (.valid 60) none (some 300)))).2.err
      = some .cooldown ∧
    (step (run C14REx.w0 (C14REx.ops.take 6)) (.royalty 4 (.update (.valid 60) none (some 300)))).2.err
      = some .notAdmin := by decide +kernel
-- `C14_entry_provenance_reach` / `C14_entry_written_by_admin_reach`: the final state stores an entry
example : (run C14REx.w0 C14REx.ops).reg = [(60, ⟨300, 300, 9⟩)] ∧
    (run C14REx.w0 C14REx.ops).height = 300 ∧
    alookup 60 (run C14REx.w0 C14REx.ops).reg = some ⟨300, 300, 9⟩ := by decide +kernel
-- `C14_entry_bounds_reach`: hypotheses on a non-empty start registry
example : (∀ p ∈ AcctEx.w0.reg, MIN_BPS ≤ p.2.bps ∧ p.2.bps ≤ MAX_BPS) ∧
    (∀ p ∈ AcctEx.w0.reg, p.2.lastUpdated ≤ AcctEx.w0.height) := by decide
-- `C14_marketplace_never_changes_registry_reach`: nine operations, none a registry message, eight
-- of them accepted (a trade with royalty payout among them)
example : (∀ op ∈ C14REx.mktOps, ∀ s m, op ≠ .royalty s m) ∧ C14REx.mktOps.length = 9 ∧
    (run AcctEx.w0 C14REx.mktOps).mkt.listingUsed ≠ AcctEx.w0.mkt.listingUsed := by
  refine ⟨?_, by decide, by decide +kernel⟩
  intro op hop s m h
  subst h
  simp [C14REx.mktOps, AcctEx.ops] at hop
-- `C14_other_collections_untouched_reach`: no message of the second history names collection 61
example : ∀ op ∈ C14REx.ops, ∀ s m, op = .royalty s m → m.nft ≠ .valid 61 := by
  intro op hop s m h
  subst h
  have : m.nft = .valid 60 := by
    revert hop
    simp only [C14REx.ops, List.mem_cons, Op.royalty.injEq, List.not_mem_nil, reduceCtorEq, false_or,
      or_false]
    rintro (⟨_, rfl⟩ | ⟨_, rfl⟩ | ⟨_, rfl⟩ | ⟨_, rfl⟩) <;> rfl
  rw [this]; decide
-- `C14_refused_never_changes_registry_reach`: a stranger's and a too-early message
example : (step C14REx.w0 (.royalty 7 (.register (.valid 60) (.valid 9) 50))).2.ok = false ∧
    (step AcctEx.w0 (.royalty 4 (.remove (.valid 61)))).2.ok = false := by decide
-- `C14_lookup_current_reach`: a batched lookup on the reached state, in request order
example : regMulti (run C14REx.w0 C14REx.ops).reg [61, 60] = some [none, some ⟨300, 300, 9⟩] ∧
    (run C14REx.w0 C14REx.ops).env.regLookup 60 = some ⟨300, 300, 9⟩ := by decide +kernel
-- `C14_lookup_unique_reach`: hypothesis
example : (akeys AcctEx.w0.reg).Nodup ∧ (akeys C14REx.w0.reg).Nodup := by decide

#print axioms C14_history_changes_reach
#print axioms C14_history_changes_empty_reach
#print axioms C14_entry_bounds_reach
#print axioms C14_entry_provenance_reach
#print axioms C14_entry_written_by_admin_reach
#print axioms C14_marketplace_never_changes_registry_reach
#print axioms C14_other_collections_untouched_reach
#print axioms C14_refused_never_changes_registry_reach
#print axioms C14_lookup_current_reach
#print axioms C14_lookup_unique_reach
#print axioms C14_lookup_follows_reach
#print axioms last_change
#print axioms C14_step_stamp_inv
#print axioms C14_entry_origin_reach

end Fuzion
