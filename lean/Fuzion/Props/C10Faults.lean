/-
  Fuzion.Props.C10Faults — C10 ("Every fee charged reaches the community pool exactly once";
  property text: Props/C10.lean) along histories with faults.

  A history with faults (`FOp`, `runF`, `survivors`: Props/C15Reach.lean) runs every operation with
  the dispatch of chosen messages forced to fail (`stepF fail`, Model/Chain.lean).  An aborted
  transaction returns the very same world and reports no message (`C15_abort`,
  `stepF_failed_msgs`); an accepted one is the fault-free transaction (`stepF_ok_eq_step`).  So a
  faulty history is the fault-free history of its survivors (`C15_runF_is_run_of_survivors_reach`),
  and what C10 says along histories carries over to every fault schedule: conservation (with the
  charges summed over the survivors, or along the faulty history itself, `chargedRunF`), the single
  transaction, the shape of the pool message.  A fault never loses or duplicates a fee; if it hits
  the pool deposit itself, the whole transaction is undone and the fee is still recorded.

  Assumed, as in `C10_conservation_reach`: `w0.mkt = instantiate t r`, the pool is not the
  marketplace, no initial registry entry pays out to the pool (all three follow from `Deployed w0`),
  and — for the ledger theorems — no operation of the history, accepted or not, is signed by the pool
  or registers it as payout address ("nobody else pays the pool").
-/
import Fuzion.Props.C15Reach
import Fuzion.Props.C10Reach
import Fuzion.Props.C01Closed
namespace Fuzion

/-- fees charged along a history with faults: what the handler charges (`charged`, zero except for
    `buy`) in every faulty transaction that was accepted; an aborted one charges nothing -/
def chargedRunF (w : World) : List FOp → Nat → Nat
  | [], _ => 0
  | (fail, op) :: r, d =>
    (if (stepF fail w op).2.ok then
      (match op.asExec with
       | some (c, _, msg) => charged w.mkt w.env c msg d
       | none => 0)
     else 0) + chargedRunF (stepF fail w op).1 r d

/-- the charges of a faulty history are the charges of the fault-free replay of its survivors -/
theorem chargedRunF_eq_chargedRun (w : World) (fops : List FOp) (d : Nat) :
    chargedRunF w fops d = chargedRun w (survivors w fops) d := by
  induction fops generalizing w with
  | nil => rfl
  | cons p r ih =>
    obtain ⟨fail, op⟩ := p
    simp only [chargedRunF, survivors]
    cases h : (stepF fail w op).2.ok with
    | true =>
      have e := stepF_ok_eq_step h
      have h' : (step w op).2.ok = true := by rw [← e]; exact h
      simp only [if_true, chargedRun, chargedStep, h']
      rw [ih, e]
      rfl
    | false =>
      simp only [Bool.false_eq_true, if_false, Nat.zero_add]
      rw [ih, C15_abort fail w op h]

section
variable {w0 : World} {t : Nat} {r : Option Nat}

/-- "Every fee charged reaches the community pool exactly once … never dropped,
    duplicated, paid to a user, or lost": along any history with faults from instantiation, per
    denomination, `pool balance + pending fees = initial pool balance + Σ fees charged by the
    operations that went through`.  An aborted transaction contributes nothing to either side:
    a fault never loses or duplicates a fee.  The side conditions are those of
    `C10_conservation_reach`, on the initial world and on all operations of the history (the
    survivors inherit them as a sub-list). -/
theorem C10_conservation_faults_reach (h0 : w0.mkt = instantiate t r) (hpool : w0.pool ≠ w0.self)
    (hpay : PayoutsNe w0.reg w0.pool) (fops : List FOp) (hops : ∀ p ∈ fops, p.2.avoids w0.pool)
    (d : Nat) :
    lget (runF w0 fops).bank (w0.pool, d) + pendingFee (runF w0 fops).mkt d =
      lget w0.bank (w0.pool, d) + chargedRun w0 (survivors w0 fops) d := by
  rw [C15_runF_is_run_of_survivors_reach]
  exact C10_conservation_reach h0 hpool hpay _
    (survivors_forall (P := fun op => op.avoids w0.pool) hops) d

/-- … with the charges summed along the faulty history itself -/
theorem C10_conservation_chargedF_faults_reach (h0 : w0.mkt = instantiate t r)
    (hpool : w0.pool ≠ w0.self) (hpay : PayoutsNe w0.reg w0.pool) (fops : List FOp)
    (hops : ∀ p ∈ fops, p.2.avoids w0.pool) (d : Nat) :
    lget (runF w0 fops).bank (w0.pool, d) + pendingFee (runF w0 fops).mkt d =
      lget w0.bank (w0.pool, d) + chargedRunF w0 fops d := by
  rw [chargedRunF_eq_chargedRun]
  exact C10_conservation_faults_reach h0 hpool hpay fops hops d

/-- … from a deployment (`Deployed`, Props/C01Closed.lean), which supplies the three hypotheses on
    the initial world -/
theorem C10_conservation_deployed_faults_reach (hd : Deployed w0) (fops : List FOp)
    (hops : ∀ p ∈ fops, p.2.avoids w0.pool) (d : Nat) :
    lget (runF w0 fops).bank (w0.pool, d) + pendingFee (runF w0 fops).mkt d =
      lget w0.bank (w0.pool, d) + chargedRun w0 (survivors w0 fops) d ∧
    chargedRun w0 (survivors w0 fops) d = chargedRunF w0 fops d := by
  obtain ⟨t, r, h0⟩ := hd.mkt
  exact ⟨C10_conservation_faults_reach h0 hd.pool (hd.payouts _) fops hops d,
    (chargedRunF_eq_chargedRun w0 fops d).symm⟩

/-- Conservation across one faulty transaction from any state reached under faults: pool balance +
    pending fees grows by exactly the fees the transaction charges if it is accepted, and does not
    move if it is aborted (by the fault or for a reason of its own). -/
theorem C10_step_faults_reach (h0 : w0.mkt = instantiate t r) (hpool : w0.pool ≠ w0.self)
    (hpay : PayoutsNe w0.reg w0.pool) (fops : List FOp) (hops : ∀ p ∈ fops, p.2.avoids w0.pool)
    (fail : Nat → Bool) {op : Op} (hop : op.avoids w0.pool) (d : Nat) :
    lget (stepF fail (runF w0 fops) op).1.bank (w0.pool, d) +
        pendingFee (stepF fail (runF w0 fops) op).1.mkt d =
      lget (runF w0 fops).bank (w0.pool, d) + pendingFee (runF w0 fops).mkt d +
        (if (stepF fail (runF w0 fops) op).2.ok then chargedStep (runF w0 fops) op d else 0) := by
  cases h : (stepF fail (runF w0 fops) op).2.ok with
  | false =>
    rw [C15_abort fail _ op h]
    simp
  | true =>
    rw [stepF_ok_eq_step h]
    simp only [if_true]
    rw [C15_runF_is_run_of_survivors_reach]
    exact C10_step_reach h0 hpool hpay _
      (survivors_forall (P := fun op => op.avoids w0.pool) hops) hop d

/-- "never dropped, duplicated": a faulty transaction from a state reached under faults that is
    not accepted reports no message (so no pool deposit is reported for a transaction that was
    rolled back), returns the very same world, and in particular leaves the pool balance, the
    pending fees and every record's `fee` field as they were.  No hypothesis. -/
theorem C10_aborted_faults_reach (w0 : World) (fops : List FOp) (fail : Nat → Bool) (op : Op)
    (h : (stepF fail (runF w0 fops) op).2.ok = false) :
    (stepF fail (runF w0 fops) op).2.msgs = [] ∧
    (stepF fail (runF w0 fops) op).1 = runF w0 fops ∧
    (∀ d, lget (stepF fail (runF w0 fops) op).1.bank (w0.pool, d) =
      lget (runF w0 fops).bank (w0.pool, d)) ∧
    (∀ d, pendingFee (stepF fail (runF w0 fops) op).1.mkt d = pendingFee (runF w0 fops).mkt d) ∧
    (∀ c, RecFee (stepF fail (runF w0 fops) op).1.mkt c ↔ RecFee (runF w0 fops).mkt c) := by
  have e := C15_abort fail (runF w0 fops) op h
  exact ⟨stepF_failed_msgs fail _ op h, e, fun d => by rw [e], fun d => by rw [e],
    fun c => by rw [e]⟩

/-- "by a well-formed fund-community-pool message whose depositor is the
    marketplace and whose amount is the recorded fee": every fund-community-pool message reported
    by any faulty transaction (any operation, any fault predicate) from any state reached from
    instantiation by a history with faults belongs to an accepted transaction — the fault-free one
    —, names the marketplace as depositor and carries the `fee` field of a record of the pre-state,
    non-zero and in one of the two fee denominations.  (A transaction that is aborted reports no
    message at all: `C10_aborted_faults_reach`.)  No hypothesis other than reachability. -/
theorem C10_wellformed_faults_reach (h0 : w0.mkt = instantiate t r) (fops : List FOp)
    (fail : Nat → Bool) (op : Op) :
    ∀ dep c, OutMsg.fundPool dep c ∈ (stepF fail (runF w0 fops) op).2.msgs →
      (stepF fail (runF w0 fops) op).2.ok = true ∧
      stepF fail (runF w0 fops) op = step (runF w0 fops) op ∧
      dep = w0.self ∧ RecFee (runF w0 fops).mkt c ∧ c.amount ≠ 0 ∧
      (c.key = w0.junoD ∨ c.key = w0.usdcD) := by
  intro dep c hm
  cases h : (stepF fail (runF w0 fops) op).2.ok with
  | false =>
    rw [stepF_failed_msgs fail _ op h] at hm; cases hm
  | true =>
    have e := stepF_ok_eq_step h
    refine ⟨rfl, e, ?_⟩
    rw [e] at hm
    rw [C15_runF_is_run_of_survivors_reach] at hm ⊢
    exact C10_wellformed_step_reach h0 _ op dep c hm

/-- "no later than when that side's proceeds leave the marketplace … never dropped": if the fault
    hits the community-pool deposit itself (position `k` of the messages of the fault-free
    transaction), the whole transaction is undone — the proceeds that precede the deposit in the
    same response do not leave either — and the fee is still the `fee` field of a stored record,
    non-zero and in a fee denomination: it is still owed, and by `C10_conservation_faults_reach`
    still counted as pending. -/
theorem C10_pool_fault_keeps_fee_faults_reach (h0 : w0.mkt = instantiate t r) (fops : List FOp)
    (fail : Nat → Bool) (op : Op) {k : Nat} {dep : Nat} {c : Coin}
    (hk : (step (runF w0 fops) op).2.msgs[k]? = some (.fundPool dep c)) (hf : fail k = true) :
    stepF fail (runF w0 fops) op = (runF w0 fops, .fail .dispatch) ∧
    RecFee (stepF fail (runF w0 fops) op).1.mkt c ∧ dep = w0.self ∧ c.amount ≠ 0 ∧
    (∀ d, pendingFee (stepF fail (runF w0 fops) op).1.mkt d = pendingFee (runF w0 fops).mkt d) := by
  obtain ⟨hlt, hget⟩ := List.getElem?_eq_some_iff.1 hk
  have e := stepF_fault_hit hlt hf
  have hm : OutMsg.fundPool dep c ∈ (step (runF w0 fops) op).2.msgs := by
    rw [← hget]; exact List.getElem_mem hlt
  -- `step` is `stepF noFault`: the fault-free transaction is one of the faulty ones
  obtain ⟨-, -, hdep, hrec, hne, -⟩ := C10_wellformed_faults_reach h0 fops noFault op dep c hm
  refine ⟨e, ?_, hdep, hne, fun d => by rw [e]⟩
  rw [e]; exact hrec

end

/-! ## a sample history with faults

From the sample world `AcctEx.w0` (marketplace 100, pool 101; Lemmas/AcctLemmas.lean) the sample
history `AcctEx.ops` is run with faults: the purchase (one message: the royalty payout) is aborted
once and retried; the buyer's withdrawal (four messages, the pool deposit of the fee of 5 last) is
aborted with the fault on the pool deposit, then retried with a fault that misses; the seller's
bucket removal is aborted once and retried. -/

namespace C10FEx
def failAt (k : Nat) : Nat → Bool := fun i => i == k
def opBuy : Op := .exec 2 [] (.buy 3 8)
def opWd : Op := .exec 2 [] (.withdrawPurchased 3)
def opRm : Op := .exec 1 [] (.removeBucket 8)
/-- up to (excluding) the withdrawal: the purchase is aborted once, then goes through -/
def fopsA : List FOp :=
  (AcctEx.ops.take 6).map (fun op => (noFault, op)) ++
    [(failAt 0, opBuy), (noFault, opBuy), (noFault, .advance NS 1)]
/-- … then the withdrawal with the pool deposit (message 3) failing, its retry, the removal -/
def fops : List FOp :=
  fopsA ++ [(failAt 3, opWd), (failAt 4, opWd), (failAt 0, opRm), (noFault, opRm)]
end C10FEx

example : AcctEx.w0.mkt = instantiate 0 (some 102) := rfl
example : AcctEx.w0.pool ≠ AcctEx.w0.self ∧ PayoutsNe AcctEx.w0.reg AcctEx.w0.pool ∧
    (∀ p ∈ C10FEx.fops, p.2.avoids AcctEx.w0.pool) ∧ C10FEx.opWd.avoids AcctEx.w0.pool :=
  ⟨by decide, AcctEx.w0_payouts 101 (by decide), by decide, by decide⟩
-- three transactions are aborted, the survivors are the sample history; one fee of 5 of denom 1 is
-- charged once although the purchase was attempted twice, and reaches the pool once although the
-- withdrawal was attempted twice
example : survivors AcctEx.w0 C10FEx.fops = AcctEx.ops ∧ C10FEx.fops.length = 13 ∧
    chargedRunF AcctEx.w0 C10FEx.fops 1 = 5 ∧ chargedRun AcctEx.w0 (survivors AcctEx.w0 C10FEx.fops) 1 = 5 ∧
    lget (runF AcctEx.w0 C10FEx.fops).bank (101, 1) = 5 ∧
    pendingFee (runF AcctEx.w0 C10FEx.fops).mkt 1 = 0 ∧ lget AcctEx.w0.bank (101, 1) = 0 := by decide +kernel
-- before the withdrawal the fee is pending, the pool empty
example : pendingFee (runF AcctEx.w0 C10FEx.fopsA).mkt 1 = 5 ∧
    lget (runF AcctEx.w0 C10FEx.fopsA).bank (101, 1) = 0 := by decide +kernel
-- `C10_aborted_faults_reach` / `C10_pool_fault_keeps_fee_faults_reach`: the withdrawal reports the
-- pool deposit as message 3; with the fault there it is aborted …
example : (step (runF AcctEx.w0 C10FEx.fopsA) C10FEx.opWd).2.msgs[3]? = some (.fundPool 100 ⟨1, 5⟩) ∧
    C10FEx.failAt 3 3 = true ∧
    (stepF (C10FEx.failAt 3) (runF AcctEx.w0 C10FEx.fopsA) C10FEx.opWd).2.ok = false := by decide +kernel
-- … `C10_wellformed_faults_reach`: with a fault that misses, the faulty transaction reports it
example : OutMsg.fundPool 100 ⟨1, 5⟩ ∈
    (stepF (C10FEx.failAt 4) (runF AcctEx.w0 C10FEx.fopsA) C10FEx.opWd).2.msgs := by decide +kernel
-- `C10_step_faults_reach`: the accepted purchase under a fault that misses charges 5
example : (stepF (C10FEx.failAt 1) (runF AcctEx.w0 (C10FEx.fopsA.take 6)) C10FEx.opBuy).2.ok = true ∧
    chargedStep (runF AcctEx.w0 (C10FEx.fopsA.take 6)) C10FEx.opBuy 1 = 5 ∧
    (stepF (C10FEx.failAt 0) (runF AcctEx.w0 (C10FEx.fopsA.take 6)) C10FEx.opBuy).2.ok = false := by
  decide +kernel
-- from a deployment: the faulty history of Props/C15Reach.lean
example : Deployed deployedEx := C02WEx.deployedEx_ok
example : ∀ p ∈ C15REx.fopsRetry, p.2.avoids deployedEx.pool := by decide +kernel

#print axioms chargedRunF_eq_chargedRun
#print axioms C10_conservation_faults_reach
#print axioms C10_conservation_chargedF_faults_reach
#print axioms C10_conservation_deployed_faults_reach
#print axioms C10_step_faults_reach
#print axioms C10_aborted_faults_reach
#print axioms C10_wellformed_faults_reach
#print axioms C10_pool_fault_keeps_fee_faults_reach

end Fuzion
