/-
  Fuzion.Props.C08 — "A finalized listing is an immutable, binding offer until it expires".

  Property text:  The owner of a listing still in preparation can finalize it for exactly the
  lifetimes between 600 and 1209600 seconds (bounds included); afterwards the listing's goods,
  ask, whitelist and expiration never change and the seller cannot take it back before the
  expiration time.  A listing's status only moves forward (preparing, finalized, sold, withdrawn;
  or deleted while preparing or once expired): it is never reopened, re-finalized, re-priced or
  extended.

  Hypotheses.  The frame theorems assume `IdsInv m` (storage keys unique, every record filed
  under `(creator, id)`, one live listing per id) — an inductive invariant established by
  `IdsInv.init` and preserved by `execute` (`C09_inv_execute`, Props/C09).  Nothing is assumed
  about senders: every theorem quantifies over the sender and over *all* thirteen message kinds,
  the receive hooks included (a forged hook call is an ordinary `exec` of `.receive` /
  `.receiveNft`).

  NOTE on the boundary.  `deleteListing` is accepted at `now = expiration` and `buy` is accepted
  at `now = expiration` too (`C08_delete_iff`, `now > e` in `buy`): in that single nanosecond
  both are possible.  "Before the expiration time" is therefore proved as `now < e`.
-/
import Fuzion.Props.C04
namespace Fuzion

/-- the order of the life cycle: preparing < finalized < sold.  The driver's monitor of this
    property has the same function as `Cmp.statusRank` (Driver/Compare.lean), which this module
    does not import. -/
def statusRank' : Status → Nat
  | .preparing => 0
  | .finalized => 1
  | .closed => 2

/-- Exact specification of `execute_finalize`. -/
theorem C08_finalize_spec {m m' : Market} {env : Env} {s id secs : Nat} {msgs : List OutMsg} :
    finalize m env s id secs = .ok (m', msgs) ↔
      ∃ l, alookup (s, id) m.listings = some l ∧ s = l.creator ∧ l.finalizedAt = none ∧
        l.status = .preparing ∧ l.claimant = none ∧ MIN_LIFE ≤ secs ∧ secs ≤ TWO_WEEKS ∧
        m' = { m with listings :=
                 (ainsert (s, id) { l with finalizedAt := some env.nowNs,
                                           expiresAt := some (env.nowNs + secs * NS),
                                           status := .finalized } m.listings) } ∧
        msgs = [] :=
  finalize_ok_iff

/-- "The owner of a listing still in preparation can finalize it for exactly the lifetimes
    between 600 and 1209600 seconds (bounds included)". -/
theorem C08_finalize_iff {m : Market} {env : Env} {s id secs : Nat} {l : Listing}
    (hl : alookup (s, id) m.listings = some l) (ho : s = l.creator) (hs : l.status = .preparing)
    (hf : l.finalizedAt = none) (hc : l.claimant = none) :
    (∃ r, finalize m env s id secs = .ok r) ↔ MIN_LIFE ≤ secs ∧ secs ≤ TWO_WEEKS := by
  constructor
  · rintro ⟨⟨m', msgs⟩, h⟩
    obtain ⟨_, _, _, _, _, _, h1, h2, _⟩ := C08_finalize_spec.1 h
    exact ⟨h1, h2⟩
  · rintro ⟨h1, h2⟩
    exact ⟨_, C08_finalize_spec.2 ⟨l, hl, ho, hf, hs, hc, h1, h2, rfl, rfl⟩⟩

theorem C08_finalize_iff_lit {m : Market} {env : Env} {s id secs : Nat} {l : Listing}
    (hl : alookup (s, id) m.listings = some l) (ho : s = l.creator) (hs : l.status = .preparing)
    (hf : l.finalizedAt = none) (hc : l.claimant = none) :
    (∃ r, finalize m env s id secs = .ok r) ↔ 600 ≤ secs ∧ secs ≤ 1209600 :=
  C08_finalize_iff hl ho hs hf hc

theorem C08_finalize_effect {m m' : Market} {env : Env} {s id secs : Nat} {msgs : List OutMsg}
    (h : finalize m env s id secs = .ok (m', msgs)) :
    ∃ l l', alookup (s, id) m.listings = some l ∧ alookup (s, id) m'.listings = some l' ∧
      l'.status = .finalized ∧ l'.finalizedAt = some env.nowNs ∧
      l'.expiresAt = some (env.nowNs + secs * NS) ∧ l'.forSale = l.forSale ∧ l'.ask = l.ask ∧
      l'.whitelist = l.whitelist ∧ l'.creator = l.creator ∧ l'.id = l.id ∧ l'.claimant = none := by
  obtain ⟨l, hl, _, _, _, hc, _, _, rfl, _⟩ := C08_finalize_spec.1 h
  exact ⟨l, _, hl, alookup_ainsert_self _ _ _, rfl, rfl, rfl, rfl, rfl, rfl, rfl, rfl, hc⟩

/-! ### examples: seller 1, listing 7 -/

private def exEnv (nowNs : Nat) : Env :=
  { self := 100, nowNs := nowNs, junoD := 1, usdcD := 2, regAddr := 102,
    isToken20 := fun _ => false, isContract := fun _ => false, regLookup := fun _ => none }

private def exPrep : Listing :=
  { creator := 1, id := 7, finalizedAt := none, expiresAt := none, status := .preparing,
    claimant := none, whitelist := none, forSale := ⟨[⟨1, 1000⟩], [], []⟩,
    ask := ⟨[⟨2, 2000⟩], [], []⟩, fee := none }

/-- finalized at t = 0 for 600 s -/
private def exFin : Listing :=
  { exPrep with finalizedAt := some 0, expiresAt := some (600 * NS), status := .finalized }

private def exSold : Listing :=
  { exFin with creator := 2, claimant := some 2, status := .closed }

private def exM (k : Nat × Nat) (l : Listing) : Market :=
  { listings := [(k, l)], buckets := [((2, 8), ⟨2, ⟨[⟨2, 2000⟩], [], []⟩, none⟩)],
    listingUsed := [7, 0], bucketUsed := [8, 0], feeKind := .juno, feeSince := 0,
    registry := some 102 }

/-- one listing and one bucket: every clause is about a singleton table -/
private theorem exM_ids (k : Nat × Nat) (l : Listing) (hk : k = (l.creator, l.id))
    (hid : l.id = 7) : IdsInv (exM k l) where
  lkeys := List.pairwise_singleton _ _
  bkeys := List.pairwise_singleton _ _
  lfiled := List.forall_mem_singleton.2 hk
  bfiled := List.forall_mem_singleton.2 rfl
  lidInj := fun p hp q hq _ => by rw [List.mem_singleton.1 hp, List.mem_singleton.1 hq]
  bidInj := fun p hp q hq _ => by rw [List.mem_singleton.1 hp, List.mem_singleton.1 hq]
  lused := List.forall_mem_singleton.2 (hid ▸ List.mem_cons_self)
  bused := List.forall_mem_singleton.2 List.mem_cons_self
  zeroL := .tail _ (.head _)
  zeroB := .tail _ (.head _)

example : alookup (1, 7) (exM (1, 7) exPrep).listings = some exPrep := by decide
example : (1 : Nat) = exPrep.creator ∧ exPrep.status = .preparing ∧ exPrep.finalizedAt = none ∧
    exPrep.claimant = none := by decide
-- 600 and 1209600 are accepted, 599 and 1209601 are refused
example : ∃ r, finalize (exM (1, 7) exPrep) (exEnv 5) 1 7 600 = .ok r := ⟨_, rfl⟩
example : ∃ r, finalize (exM (1, 7) exPrep) (exEnv 5) 1 7 1209600 = .ok r := ⟨_, rfl⟩
example : finalize (exM (1, 7) exPrep) (exEnv 5) 1 7 599 = .error .badLifetime := rfl
example : finalize (exM (1, 7) exPrep) (exEnv 5) 1 7 1209601 = .error .badLifetime := rfl
example : (finalize (exM (1, 7) exPrep) (exEnv 5) 1 7 600).isOk = true := by decide
example : (finalize (exM (1, 7) exPrep) (exEnv 5) 1 7 1209600).isOk = true := by decide
example : (finalize (exM (1, 7) exPrep) (exEnv 5) 1 7 599).isOk = false := by decide
example : (finalize (exM (1, 7) exPrep) (exEnv 5) 1 7 1209601).isOk = false := by decide
-- not the owner / already finalized: refused whatever the lifetime
example : finalize (exM (1, 7) exPrep) (exEnv 5) 2 7 600 = .error .notFound := rfl
example : finalize (exM (1, 7) exFin) (exEnv 5) 1 7 600 = .error .notPreparing := rfl

/-- "it is never reopened, re-finalized, re-priced or extended": once a listing has left the
    preparing state, every message by which its owner could edit it — change ask, add coins, add
    an NFT, finalize (again, which would also move the expiration) — is refused. -/
theorem C08_owner_edits_refused {m : Market} {env : Env} {s id : Nat} {l : Listing}
    (hl : alookup (s, id) m.listings = some l) (hs : l.status ≠ .preparing) :
    (∀ ask, ∃ e, changeAsk m s id ask = .error e) ∧
    (∀ secs, ∃ e, finalize m env s id secs = .error e) ∧
    (∀ funds, ∃ e, addToListing m funds s id = .error e) ∧
    (∀ nft, ∃ e, addToListingNft m s nft id = .error e) := by
  -- each of the four handlers accepts only a listing that is still preparing
  have key : ∀ {l0 : Listing}, alookup (s, id) m.listings = some l0 → l0.status ≠ .preparing :=
    fun h0 => by rw [hl] at h0; cases h0; exact hs
  refine ⟨fun ask => ?_, fun secs => ?_, fun funds => ?_, fun nft => ?_⟩ <;>
    refine error_of_not_ok fun ⟨m', out⟩ h => ?_
  · obtain ⟨l0, _, h0, _, _, hst, _⟩ := changeAsk_ok_iff.1 h
    exact key h0 hst
  · obtain ⟨l0, h0, _, _, hst, _⟩ := finalize_ok_iff.1 h
    exact key h0 hst
  · obtain ⟨l0, _, _, h0, _, hst, _⟩ := addToListing_ok_iff.1 h
    exact key h0 hst
  · obtain ⟨l0, h0, _, hst, _⟩ := addToListingNft_ok_iff.1 h
    exact key h0 hst

example : alookup (1, 7) (exM (1, 7) exFin).listings = some exFin ∧ exFin.status ≠ .preparing := by
  decide

/-! ## the offer is binding until it expires -/

theorem C08_delete_iff {m : Market} {env : Env} {s id : Nat} :
    (∃ r, deleteListing m env s id = .ok r) ↔
      ∃ l, alookup (s, id) m.listings = some l ∧ s = l.creator ∧ l.claimant = none ∧
        (l.expiresAt = none ∨ ∃ e, l.expiresAt = some e ∧ e ≤ env.nowNs) := by
  constructor
  · rintro ⟨⟨m', out⟩, h⟩
    obtain ⟨l, h1, h2, h3, h4, _⟩ := deleteListing_ok_iff.1 h
    refine ⟨l, h1, h2, h3, ?_⟩
    cases he : l.expiresAt with
    | none => exact .inl rfl
    | some e => exact .inr ⟨e, rfl, h4 e he⟩
  · rintro ⟨l, hl, ho, hc, he⟩
    refine ⟨_, deleteListing_ok_iff.2 ⟨l, hl, ho, hc, fun e h => ?_, rfl, rfl⟩⟩
    rcases he with he | ⟨e', he, hle⟩
    · cases he.symm.trans h
    · cases he.symm.trans h
      exact hle

/-- "(… or deleted while preparing or once expired)": the same in terms of the life cycle, when
    the records are well-formed (C12: a record is filed under its creator; it has a claimant iff
    it is closed; it has no expiration iff it is preparing).  The delete of `s` is accepted iff
    `s` holds a listing under this id that is still **preparing**, or **finalized with the
    expiration reached**. -/
theorem C08_delete_iff_wf {m : Market} {env : Env} {s id j u : Nat} (hW : WFInv j u m) :
    (∃ res, deleteListing m env s id = .ok res) ↔
      ∃ l, alookup (s, id) m.listings = some l ∧
        (l.status = .preparing ∨
         (l.status = .finalized ∧ ∃ e, l.expiresAt = some e ∧ e ≤ env.nowNs)) := by
  rw [C08_delete_iff]
  refine exists_congr fun l => and_congr_right fun hl => ?_
  have hwf := hW.listing hl
  have hcr : s = l.creator := (Prod.mk.inj (wfListing_iff.1 hwf).1).1
  cases hs : l.status with
  | preparing =>
    obtain ⟨_, hnoexp, hnocl, _⟩ := wfListing_preparing hwf hs
    simp [hcr, hnoexp, hnocl]
  | finalized =>
    obtain ⟨ht, hnocl, _⟩ := wfListing_finalized hwf hs
    obtain ⟨f, e, _, hexp, _⟩ := wfTimes_spec ht
    simp [hcr, hexp, hnocl]
  | closed =>
    have hcl : l.claimant = some l.creator := (wfListing_closed hwf hs).2.1
    simp [hcl]

/-- "the seller cannot take it back before the expiration time": while the block time is before
    the expiration, the delete message of the listing's holder is refused. -/
theorem C08_binding {m : Market} {env : Env} {s id e : Nat} {l : Listing}
    (hl : alookup (s, id) m.listings = some l) (he : l.expiresAt = some e) (hnow : env.nowNs < e) :
    ∃ err, deleteListing m env s id = .error err := by
  refine error_of_not_ok fun ⟨m', out⟩ h => ?_
  obtain ⟨l2, hl2, _, _, hexp, _⟩ := deleteListing_ok_iff.1 h
  rw [hl] at hl2
  cases hl2
  exact absurd (hexp e he) (Nat.not_le.2 hnow)

theorem C08_binding_others {m : Market} {env : Env} {s id : Nat} {k : Nat × Nat} {l : Listing}
    (hI : IdsInv m) (hf : findById id m.listings = some (k, l)) (hs : s ≠ l.creator) :
    deleteListing m env s id = .error .notFound :=
  (C04_refused_listing hI hf hs).2.2.1

theorem C08_binding_all {m : Market} {env : Env} {id e : Nat} {k : Nat × Nat} {l : Listing}
    (hI : IdsInv m) (hf : findById id m.listings = some (k, l)) (he : l.expiresAt = some e)
    (hnow : env.nowNs < e) (s : Nat) : ∃ err, deleteListing m env s id = .error err := by
  by_cases hs : s = l.creator
  · obtain ⟨rfl, _, hal⟩ := hI.findById_key hf
    exact C08_binding (hs ▸ hal) he hnow
  · exact ⟨_, C08_binding_others hI hf hs⟩

-- finalized at 0 for 600 s: refused one nanosecond before the expiration, accepted at it
example : alookup (1, 7) (exM (1, 7) exFin).listings = some exFin ∧
    exFin.expiresAt = some (600 * NS) ∧ (exEnv (600 * NS - 1)).nowNs < 600 * NS := by decide
example : deleteListing (exM (1, 7) exFin) (exEnv (600 * NS - 1)) 1 7 = .error .notExpired := rfl
example : ∃ r, deleteListing (exM (1, 7) exFin) (exEnv (600 * NS)) 1 7 = .ok r := ⟨_, rfl⟩
example : findById 7 (exM (1, 7) exFin).listings = some ((1, 7), exFin) ∧ 3 ≠ exFin.creator := by
  decide
example : IdsInv (exM (1, 7) exFin) := exM_ids _ _ rfl rfl

/-! ## frame: nobody can change a listing that has left the preparing state -/

/-- "afterwards the listing's goods, ask, whitelist and expiration never change … A listing's
    status only moves forward":  for a listing that is no longer preparing, whatever message
    `msg` whichever account `s` sends (forged receive hooks included), if it is accepted then
    afterwards the listing is either gone, or still found under its id with the same ask,
    whitelist, expiration, finalization stamp and id, a status that is not lower — and it is
    either the very same record under the very same key, or `msg` was a purchase of this
    finalized listing, which closes it and re-files it under the buyer `s` (the goods then change
    by exactly the fee and royalties withheld: C02 / C17). -/
theorem C08_frame {m m' : Market} {env : Env} {s : Nat} {f : List Coin} {msg : ExecMsg}
    {out : List OutMsg} {lid : Nat} {k : Nat × Nat} {l : Listing} (hI : IdsInv m)
    (hfind : findById lid m.listings = some (k, l)) (hst : l.status ≠ .preparing)
    (hx : execute m env s f msg = .ok (m', out)) :
    findById lid m'.listings = none ∨
    ∃ k' l', findById lid m'.listings = some (k', l') ∧ l'.ask = l.ask ∧
      l'.whitelist = l.whitelist ∧ l'.expiresAt = l.expiresAt ∧ l'.finalizedAt = l.finalizedAt ∧
      l'.id = l.id ∧ statusRank' l.status ≤ statusRank' l'.status ∧
      ((k' = k ∧ l' = l) ∨
       ((∃ bid, msg = .buy lid bid) ∧ l.status = .finalized ∧ l'.status = .closed ∧
         k' = (s, lid) ∧ l'.creator = s ∧ l'.claimant = some s)) := by
  cases execute_fate hI hfind hx with
  | kept h => exact .inr ⟨k, l, h, rfl, rfl, rfl, rfl, rfl, Nat.le_refl _, .inl ⟨rfl, rfl⟩⟩
  | edited l' hp => exact absurd hp hst
  | deleted _ _ _ _ h => exact .inl h
  | bought bid l' hmsg hs _ _ h hid hask hwl hex hfin hst' hcr' hcl' =>
    refine .inr ⟨_, l', h, hask, hwl, hex, hfin, hid, ?_, .inr ⟨⟨bid, hmsg⟩, hs, hst', rfl, hcr', hcl'⟩⟩
    rw [hs, hst']; decide
  | withdrawn _ _ _ _ h => exact .inl h

theorem C08_goods_frame {m m' : Market} {env : Env} {s : Nat} {f : List Coin} {msg : ExecMsg}
    {out : List OutMsg} {lid : Nat} {k k' : Nat × Nat} {l l' : Listing} (hI : IdsInv m)
    (hfind : findById lid m.listings = some (k, l)) (hst : l.status ≠ .preparing)
    (hx : execute m env s f msg = .ok (m', out))
    (hfind' : findById lid m'.listings = some (k', l')) (hnb : ∀ bid, msg ≠ .buy lid bid) :
    k' = k ∧ l' = l := by
  rcases C08_frame hI hfind hst hx with h | ⟨k2, l2, h, _, _, _, _, _, _, h2⟩
  · rw [h] at hfind'
    cases hfind'
  · rw [h] at hfind'
    cases hfind'
    exact h2.resolve_right fun ⟨⟨bid, hb⟩, _⟩ => hnb bid hb

/-- "A listing's status only moves forward (preparing, finalized, sold …): it is never
    reopened": for *any* live listing, preparing ones included, the status found under its id
    after an accepted message is not lower than before. -/
theorem C08_status_forward {m m' : Market} {env : Env} {s : Nat} {f : List Coin} {msg : ExecMsg}
    {out : List OutMsg} {lid : Nat} {k k' : Nat × Nat} {l l' : Listing} (hI : IdsInv m)
    (hfind : findById lid m.listings = some (k, l))
    (hx : execute m env s f msg = .ok (m', out))
    (hfind' : findById lid m'.listings = some (k', l')) :
    statusRank' l.status ≤ statusRank' l'.status := by
  by_cases hst : l.status = .preparing
  · rw [hst]
    exact Nat.zero_le _
  · rcases C08_frame hI hfind hst hx with h | ⟨k2, l2, h, _, _, _, _, _, hr, _⟩
    · rw [h] at hfind'
      cases hfind'
    · rw [h] at hfind'
      cases hfind'
      exact hr

/-- "(preparing, finalized, sold, withdrawn; or deleted while preparing or once expired)": the
    complete one-message transition relation of the listing stored under `lid`.  It stays as it
    is; or it is preparing and its owner edits it (possibly finalizing it: `C08_finalize_spec`);
    or its owner deletes it — unclaimed and with no expiration or an expiration that has been
    reached; or it is finalized, unclaimed, not past its expiration and `s` buys it; or it is
    sold and its claimant withdraws it. -/
theorem C08_transitions {m m' : Market} {env : Env} {s : Nat} {f : List Coin} {msg : ExecMsg}
    {out : List OutMsg} {lid : Nat} {k : Nat × Nat} {l : Listing} (hI : IdsInv m)
    (hfind : findById lid m.listings = some (k, l))
    (hx : execute m env s f msg = .ok (m', out)) :
    findById lid m'.listings = some (k, l) ∨
    (l.status = .preparing ∧ actor msg s = l.creator ∧ ∃ l', findById lid m'.listings = some (k, l') ∧
      (l'.status = .preparing ∨ l'.status = .finalized) ∧ l'.creator = l.creator) ∨
    (msg = .deleteListing lid ∧ s = l.creator ∧ l.claimant = none ∧
      (∀ e, l.expiresAt = some e → e ≤ env.nowNs) ∧ findById lid m'.listings = none) ∨
    (l.status = .finalized ∧ l.claimant = none ∧ (∀ e, l.expiresAt = some e → env.nowNs ≤ e) ∧
      ∃ bid l', msg = .buy lid bid ∧ findById lid m'.listings = some ((s, lid), l') ∧
        l'.status = .closed ∧ l'.claimant = some s) ∨
    (l.status = .closed ∧ msg = .withdrawPurchased lid ∧ l.claimant = some s ∧ s = l.creator ∧
      findById lid m'.listings = none) := by
  cases execute_fate hI hfind hx with
  | kept h => exact .inl h
  | edited l' hp _ hact h _ hcr _ hst' =>
    exact .inr (.inl ⟨hp, hact, l', h, hst'.imp_right And.left, hcr⟩)
  | deleted hmsg hown hcl hexp h => exact .inr (.inr (.inl ⟨hmsg, hown, hcl, hexp, h⟩))
  | bought bid l' hmsg hs hcl hexp h _ _ _ _ _ hst' _ hcl' =>
    exact .inr (.inr (.inr (.inl ⟨hs, hcl, hexp, bid, l', hmsg, h, hst', hcl'⟩)))
  | withdrawn hmsg hcl hs hown h => exact .inr (.inr (.inr (.inr ⟨hs, hmsg, hcl, hown, h⟩)))

/-! ## how a listing disappears -/

/-- WF-free form of `C08_when_removed`: a listing that has left the preparing state disappears
    only by its owner's delete — unclaimed, expiration reached — or by its claimant's (= current
    holder's) withdrawal. -/
theorem C08_when_removed' {m m' : Market} {env : Env} {s : Nat} {f : List Coin} {msg : ExecMsg}
    {out : List OutMsg} {lid : Nat} {k : Nat × Nat} {l : Listing} (hI : IdsInv m)
    (hfind : findById lid m.listings = some (k, l)) (hst : l.status ≠ .preparing)
    (hx : execute m env s f msg = .ok (m', out)) (hgone : findById lid m'.listings = none) :
    (l.claimant = none ∧ (∀ e, l.expiresAt = some e → e ≤ env.nowNs) ∧
      msg = .deleteListing lid ∧ s = l.creator) ∨
    (l.status = .closed ∧ msg = .withdrawPurchased lid ∧ l.claimant = some s ∧ s = l.creator) := by
  cases execute_fate hI hfind hx with
  | kept h => rw [h] at hgone; cases hgone
  | edited l' hp => exact absurd hp hst
  | deleted hmsg hown hcl hexp _ => exact .inl ⟨hcl, hexp, hmsg, hown⟩
  | bought bid l' _ _ _ _ h => rw [h] at hgone; cases hgone
  | withdrawn hmsg hcl hs hown _ => exact .inr ⟨hs, hmsg, hcl, hown⟩

/-- "the seller cannot take it back before the expiration time … or deleted … once expired":
    a finalized listing disappears only by its owner's delete once the expiration has been
    reached, a sold one only by its buyer's withdrawal.  (`hwf`: the record is well-formed in the
    sense of C12 — a sold listing has a claimant — which `WFInv` provides for every record.) -/
theorem C08_when_removed {m m' : Market} {env : Env} {s : Nat} {f : List Coin} {msg : ExecMsg}
    {out : List OutMsg} {lid : Nat} {k : Nat × Nat} {l : Listing} {j u : Nat} (hI : IdsInv m)
    (hwf : wfListing j u k l = true)
    (hfind : findById lid m.listings = some (k, l)) (hst : l.status ≠ .preparing)
    (hx : execute m env s f msg = .ok (m', out)) (hgone : findById lid m'.listings = none) :
    (l.status = .finalized ∧ (∀ e, l.expiresAt = some e → e ≤ env.nowNs) ∧
      msg = .deleteListing lid ∧ s = l.creator) ∨
    (l.status = .closed ∧ msg = .withdrawPurchased lid ∧ l.claimant = some s) := by
  rcases C08_when_removed' hI hfind hst hx hgone with ⟨hcl, hexp, hmsg, hown⟩ | ⟨hs, hmsg, hcl, _⟩
  · refine .inl ⟨?_, hexp, hmsg, hown⟩
    cases hs : l.status with
    | preparing => exact absurd hs hst
    | finalized => rfl
    | closed =>
      cases hcl.symm.trans (wfListing_closed hwf hs).2.1
  · exact .inr ⟨hs, hmsg, hcl⟩

/-- "Gone is forever / never reopened": an id that has been used and has no live listing never
    gets one again, whatever message is accepted. -/
theorem C08_gone_forever {m m' : Market} {env : Env} {s : Nat} {f : List Coin} {msg : ExecMsg}
    {out : List OutMsg} {lid : Nat} (hnone : findById lid m.listings = none)
    (hused : lid ∈ m.listingUsed) (hx : execute m env s f msg = .ok (m', out)) :
    findById lid m'.listings = none ∧ lid ∈ m'.listingUsed := by
  have sh := execute_shape hx
  refine ⟨findById_eq_none_iff.2 fun p hp hid => ?_, sh.used_mono.1 lid hused⟩
  obtain ⟨q, hq, hqid⟩ := sh.live_l hused ⟨p, hp, hid⟩
  exact findById_eq_none_iff.1 hnone q hq hqid

-- the finalized listing 7 of seller 1, buyer 2 with bucket 8 (2000 of denom 2)
example : findById 7 (exM (1, 7) exFin).listings = some ((1, 7), exFin) ∧ exFin.status ≠ .preparing := by
  decide
example : wfListing 1 2 (1, 7) exFin = true := by decide
-- a purchase at t = 5, the owner's delete at the expiration, a stranger's bucket deposit
example : ∃ r, execute (exM (1, 7) exFin) (exEnv 5) 2 [] (.buy 7 8) = .ok r := ⟨_, rfl⟩
example : ∃ r, execute (exM (1, 7) exFin) (exEnv (600 * NS)) 1 [] (.deleteListing 7) = .ok r := ⟨_, rfl⟩
example : ∃ r, execute (exM (1, 7) exFin) (exEnv 5) 3 [⟨2, 5⟩] (.createBucket 9) = .ok r := ⟨_, rfl⟩
-- the sold listing is withdrawn by its buyer
example : findById 7 (exM (2, 7) exSold).listings = some ((2, 7), exSold) ∧ exSold.status ≠ .preparing := by
  decide
example : IdsInv (exM (2, 7) exSold) := exM_ids _ _ rfl rfl
example : wfListing 1 2 (2, 7) exSold = true := by decide
example : ∃ r, execute (exM (2, 7) exSold) (exEnv 5) 2 [] (.withdrawPurchased 7) = .ok r := ⟨_, rfl⟩
-- gone: id 7 is used and free once withdrawn; creating it again is refused
private def exGone : Market := { exM (2, 7) exSold with listings := [] }
example : findById 7 exGone.listings = none ∧ 7 ∈ exGone.listingUsed := by decide
example : execute exGone (exEnv 5) 1 [⟨1, 5⟩] (.createListing 7 ⟨⟨[⟨2, 1⟩], [], []⟩, none⟩) =
    .error .idUsed := rfl
example : ∃ r, execute exGone (exEnv 5) 1 [⟨1, 5⟩] (.createListing 9 ⟨⟨[⟨2, 1⟩], [], []⟩, none⟩) =
    .ok r := ⟨_, rfl⟩

/-! ## the same for one transaction (`step`) and along histories (`run`) -/

/-- `C08_frame` for one transaction `step w op` of any kind. -/
theorem C08_step_frame {w : World} {lid : Nat} {k : Nat × Nat} {l : Listing} (op : Op)
    (hI : IdsInv w.mkt) (hfind : findById lid w.mkt.listings = some (k, l))
    (hst : l.status ≠ .preparing) :
    findById lid (step w op).1.mkt.listings = none ∨
    ∃ k' l', findById lid (step w op).1.mkt.listings = some (k', l') ∧ l'.ask = l.ask ∧
      l'.whitelist = l.whitelist ∧ l'.expiresAt = l.expiresAt ∧ l'.finalizedAt = l.finalizedAt ∧
      l'.id = l.id ∧ statusRank' l.status ≤ statusRank' l'.status ∧
      ((k' = k ∧ l' = l) ∨
       ((∃ c f bid, op = .exec c f (.buy lid bid) ∧ k' = (c, lid) ∧ l'.creator = c ∧
           l'.claimant = some c) ∧ l.status = .finalized ∧ l'.status = .closed)) := by
  unfold step
  rcases stepF_mkt_cases noFault w op with ⟨h, _⟩ | ⟨c, f, msg, ho, _, hx, _⟩
  · rw [h]
    exact .inr ⟨k, l, hfind, rfl, rfl, rfl, rfl, rfl, Nat.le_refl _, .inl ⟨rfl, rfl⟩⟩
  · rcases C08_frame hI hfind hst hx with h | ⟨k', l', h1, h2, h3, h4, h5, h6, h7, h8⟩
    · exact .inl h
    · refine .inr ⟨k', l', h1, h2, h3, h4, h5, h6, h7, h8.imp_right ?_⟩
      rintro ⟨⟨bid, rfl⟩, hs, hs', hk', hcr, hcl⟩
      exact ⟨⟨c, f, bid, asExec_of_noCoins ho rfl, hk', hcr, hcl⟩, hs, hs'⟩

/-- "the seller cannot take it back before the expiration time", as transactions: while the
    clock is before the expiration of listing `lid`, a delete transaction of *any* account fails
    and leaves the world as it was. -/
theorem C08_step_binding {w : World} {lid e : Nat} {k : Nat × Nat} {l : Listing} (s : Nat)
    (f : List Coin) (hI : IdsInv w.mkt) (hfind : findById lid w.mkt.listings = some (k, l))
    (he : l.expiresAt = some e) (hnow : w.nowNs < e) :
    (step w (.exec s f (.deleteListing lid))).2.ok = false ∧
    (step w (.exec s f (.deleteListing lid))).1 = w := by
  obtain ⟨err, herr⟩ := C08_binding_all (env := w.env) hI hfind he hnow s
  cases f with
  | nil => exact stepF_refused rfl herr
  | cons c cs => exact stepF_refused rfl (execute_fundsAttached _ _ _ _ rfl (List.cons_ne_nil c cs))

/-- `C08_when_removed` for one transaction of any kind. -/
theorem C08_step_when_removed {w : World} {lid : Nat} {k : Nat × Nat} {l : Listing} {j u : Nat}
    (op : Op) (hI : IdsInv w.mkt) (hwf : wfListing j u k l = true)
    (hfind : findById lid w.mkt.listings = some (k, l)) (hst : l.status ≠ .preparing)
    (hgone : findById lid (step w op).1.mkt.listings = none) :
    (l.status = .finalized ∧ (∀ e, l.expiresAt = some e → e ≤ w.nowNs) ∧
      ∃ f, op = .exec l.creator f (.deleteListing lid)) ∨
    (l.status = .closed ∧ ∃ c f, op = .exec c f (.withdrawPurchased lid) ∧ l.claimant = some c) := by
  unfold step at hgone
  rcases stepF_mkt_cases noFault w op with ⟨h, _⟩ | ⟨c, f, msg, ho, _, hx, _⟩
  · rw [h, hfind] at hgone; cases hgone
  · rcases C08_when_removed hI hwf hfind hst hx hgone with ⟨hs, hexp, rfl, rfl⟩ | ⟨hs, rfl, hcl⟩
    · exact .inl ⟨hs, hexp, f, asExec_of_noCoins ho rfl⟩
    · exact .inr ⟨hs, c, f, asExec_of_noCoins ho rfl, hcl⟩

/-- the invariant carried along a history: the id is marked used, and the listing is either gone
    or still there, not preparing, with the terms of `l` -/
def Kept (lid : Nat) (l : Listing) (m : Market) : Prop :=
  lid ∈ m.listingUsed ∧
  (findById lid m.listings = none ∨
   ∃ k' l', findById lid m.listings = some (k', l') ∧ l'.status ≠ .preparing ∧ l'.ask = l.ask ∧
     l'.whitelist = l.whitelist ∧ l'.expiresAt = l.expiresAt ∧ l'.finalizedAt = l.finalizedAt ∧
     statusRank' l.status ≤ statusRank' l'.status)

theorem Kept.execute {m m' : Market} {env : Env} {s : Nat} {f : List Coin} {msg : ExecMsg}
    {out : List OutMsg} {lid : Nat} {l : Listing} (hI : IdsInv m) (hk : Kept lid l m)
    (hx : execute m env s f msg = .ok (m', out)) : Kept lid l m' := by
  obtain ⟨hu, hk⟩ := hk
  refine ⟨(execute_shape hx).used_mono.1 lid hu, ?_⟩
  rcases hk with hnone | ⟨k1, l1, hf1, hs1, a1, a2, a3, a4, a5⟩
  · exact .inl (C08_gone_forever hnone hu hx).1
  · rcases C08_frame hI hf1 hs1 hx with h | ⟨k2, l2, hf2, b1, b2, b3, b4, _, b6, b7⟩
    · exact .inl h
    · refine .inr ⟨k2, l2, hf2, ?_, b1.trans a1, b2.trans a2, b3.trans a3, b4.trans a4,
        Nat.le_trans a5 b6⟩
      rcases b7 with ⟨_, rfl⟩ | ⟨_, _, hc, _⟩
      · exact hs1
      · rw [hc]; intro e; cases e

/-- "afterwards the listing's goods, ask, whitelist and expiration never change … never
    reopened, re-finalized, re-priced or extended", along any history: for a listing that is not
    preparing in `w` (finalized, say, with expiration `l.expiresAt`), in every later state the id
    either has no live listing — and then never has one again, see `C08_run_gone` — or still
    carries a non-preparing listing with the same ask, whitelist, expiration and finalization
    stamp and a status that is not lower.  `hpres` is the preservation of `IdsInv` by `execute`
    (`C09_inv_execute`); the invariant carried is `IdsInv` together with `Kept lid l`. -/
theorem C08_run_monotone
    (hpres : ∀ m env s f msg m' out, IdsInv m → execute m env s f msg = .ok (m', out) → IdsInv m')
    {w : World} {lid : Nat} {k : Nat × Nat} {l : Listing} (hI : IdsInv w.mkt)
    (hfind : findById lid w.mkt.listings = some (k, l)) (hst : l.status ≠ .preparing)
    (ops : List Op) :
    findById lid (run w ops).mkt.listings = none ∨
    ∃ k' l', findById lid (run w ops).mkt.listings = some (k', l') ∧ l'.status ≠ .preparing ∧
      l'.ask = l.ask ∧ l'.whitelist = l.whitelist ∧ l'.expiresAt = l.expiresAt ∧
      l'.finalizedAt = l.finalizedAt ∧ statusRank' l.status ≤ statusRank' l'.status := by
  have h0 : Kept lid l w.mkt :=
    ⟨hI.findById_used hfind, .inr ⟨k, l, hfind, hst, rfl, rfl, rfl, rfl, Nat.le_refl _⟩⟩
  exact (run_preserves (P := fun m => IdsInv m ∧ Kept lid l m)
    (fun _ _ _ _ _ _ _ h hx => ⟨hpres _ _ _ _ _ _ _ h.1 hx, h.2.execute h.1 hx⟩) ops ⟨hI, h0⟩).2.2

/-- "Gone is forever", along any history -/
theorem C08_run_gone {w : World} {lid : Nat} (hnone : findById lid w.mkt.listings = none)
    (hused : lid ∈ w.mkt.listingUsed) (ops : List Op) :
    findById lid (run w ops).mkt.listings = none ∧ lid ∈ (run w ops).mkt.listingUsed :=
  run_preserves (P := fun m => findById lid m.listings = none ∧ lid ∈ m.listingUsed)
    (fun _ _ _ _ _ _ _ h hx => C08_gone_forever h.1 h.2 hx) ops ⟨hnone, hused⟩

/-- once a listing is gone at some point of a history, it is gone at every later
    point.  (`hfind` only serves to know that `lid` is logged; `hpres` is not used.) -/
theorem C08_run_gone_stays
    (hpres : ∀ m env s f msg m' out, IdsInv m → execute m env s f msg = .ok (m', out) → IdsInv m')
    {w : World} {lid : Nat} {k : Nat × Nat} {l : Listing} (hI : IdsInv w.mkt)
    (hfind : findById lid w.mkt.listings = some (k, l)) (ops₁ ops₂ : List Op)
    (hgone : findById lid (run w ops₁).mkt.listings = none) :
    findById lid (run w (ops₁ ++ ops₂)).mkt.listings = none := by
  have hused₁ : lid ∈ (run w ops₁).mkt.listingUsed :=
    run_preserves (P := fun m => lid ∈ m.listingUsed)
      (fun _ _ _ _ _ _ _ h hx => (execute_shape hx).used_mono.1 lid h) ops₁ (hI.findById_used hfind)
  rw [run_append]
  exact (C08_run_gone hgone hused₁ ops₂).1

/-! ### examples: the market `exM` in a world whose bank holds the goods of listing 7 and the
coins of bucket 8 -/

private def exW (nowNs : Nat) (k : Nat × Nat) (l : Listing) : World :=
  { self := 100, pool := 101, regAddr := 102, junoD := 1, usdcD := 2, nowNs := nowNs, height := 1,
    mkt := exM k l, reg := [], bank := [((100, 1), 1000), ((100, 2), 2000)], cw20 := [], nft := [],
    contracts := [] }

example : IdsInv (exW 5 (1, 7) exFin).mkt := exM_ids _ _ rfl rfl
example : findById 7 (exW 5 (1, 7) exFin).mkt.listings = some ((1, 7), exFin) := by decide
-- before the expiration: the owner's delete fails, a purchase succeeds …
example : (exW 5 (1, 7) exFin).nowNs < 600 * NS := by decide
example : (step (exW 5 (1, 7) exFin) (.exec 1 [] (.deleteListing 7))).2.ok = false := by decide
example : (step (exW 5 (1, 7) exFin) (.exec 2 [] (.buy 7 8))).2.ok = true := by decide
-- … at the expiration the delete succeeds and the listing is gone, for good
example : (step (exW (600 * NS) (1, 7) exFin) (.exec 1 [] (.deleteListing 7))).2.ok = true := by decide
example : findById 7 (step (exW (600 * NS) (1, 7) exFin) (.exec 1 [] (.deleteListing 7))).1.mkt.listings
    = none := by decide
example : findById 7 (run (exW 5 (1, 7) exFin) [.exec 2 [] (.buy 7 8), .exec 2 [] (.withdrawPurchased 7),
    .exec 1 [⟨1, 5⟩] (.createListing 7 ⟨⟨[⟨2, 1⟩], [], []⟩, none⟩)]).mkt.listings = none := by decide +kernel
-- hypothesis of `C08_run_gone_stays`: gone after purchase + withdrawal
example : findById 7 (run (exW 5 (1, 7) exFin) [.exec 2 [] (.buy 7 8),
    .exec 2 [] (.withdrawPurchased 7)]).mkt.listings = none := by decide
-- the sold listing still shows the published ask after the purchase
example : (findById 7 (run (exW 5 (1, 7) exFin) [.exec 2 [] (.buy 7 8)]).mkt.listings).map
    (fun p => (p.1, p.2.ask, p.2.expiresAt, p.2.status)) =
    some ((2, 7), exFin.ask, exFin.expiresAt, .closed) := by decide

#print axioms C08_finalize_spec
#print axioms C08_finalize_iff
#print axioms C08_finalize_iff_lit
#print axioms C08_finalize_effect
#print axioms C08_owner_edits_refused
#print axioms C08_delete_iff
#print axioms C08_binding
#print axioms C08_binding_others
#print axioms C08_frame
#print axioms C08_goods_frame
#print axioms C08_status_forward
#print axioms C08_transitions
#print axioms C08_when_removed'
#print axioms C08_when_removed
#print axioms C08_gone_forever
#print axioms C08_step_frame
#print axioms C08_step_binding
#print axioms C08_step_when_removed
#print axioms Kept.execute
#print axioms C08_run_monotone
#print axioms C08_run_gone
#print axioms C08_run_gone_stays
#print axioms C08_delete_iff_wf
#print axioms C08_binding_all

end Fuzion
