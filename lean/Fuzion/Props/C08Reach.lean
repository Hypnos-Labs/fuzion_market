/-
  Fuzion.Props.C08Reach — the theorems of Props/C08.lean and Props/C08World.lean (property text
  there) for every state `run w0 ops` reached from `w0.mkt = instantiate t r`.

  The hypotheses `IdsInv`, `WFInv` / `wfListing` of the base theorems are discharged by
  `C09_reach`, `C12_reach`, `closed_wf`.  What remains are hypotheses about the input: which
  listing is looked at, which message was accepted, the block time.  Nothing about the initial
  world other than its marketplace record is assumed, except in the last two theorems (see
  "from a deployment" below).
-/
import Fuzion.Props.C08
import Fuzion.Props.C08Closed
import Fuzion.Props.C08World
import Fuzion.Props.C07Closed
import Fuzion.Lemmas.ClosedLemmas
namespace Fuzion

/-! ## sample reachable states for the examples

Prefixes of `AcctEx.ops` from `AcctEx.w0` (Lemmas/AcctLemmas.lean; the clock starts at 100 s):
listing 3 of seller 1 in preparation [`wPrep`], finalized for 600 s — it expires at 700 s [`wFin`];
bucket 8 of buyer 2 filled and the registry entry updated [`wBkt`]; sold to buyer 2 [`wSold`];
withdrawn by him [`wGone`].  `wExp` is `wFin` 600 s later: the expiration instant. -/

namespace C08REx
def opsPrep : List Op := AcctEx.ops.take 3
def opsFin : List Op := AcctEx.ops.take 4
def opsBkt : List Op := AcctEx.ops.take 6
def opsExp : List Op := AcctEx.ops.take 4 ++ [.advance (600 * NS) 0]
def opsSold : List Op := AcctEx.ops.take 7
def opsGone : List Op := AcctEx.ops.take 9
def wPrep : World := run AcctEx.w0 opsPrep
def wFin : World := run AcctEx.w0 opsFin
def wBkt : World := run AcctEx.w0 opsBkt
def wExp : World := run AcctEx.w0 opsExp
def wSold : World := run AcctEx.w0 opsSold
def wGone : World := run AcctEx.w0 opsGone
end C08REx

example : AcctEx.w0.mkt = instantiate 0 (some 102) := rfl
example :
    C08REx.wPrep.mkt.listings.map (fun p => (p.1, p.2.status, p.2.expiresAt)) =
      [((1, 3), .preparing, none)] ∧
    C08REx.wFin.mkt.listings.map (fun p => (p.1, p.2.status, p.2.expiresAt)) =
      [((1, 3), .finalized, some (700 * NS))] ∧
    C08REx.wSold.mkt.listings.map (fun p => (p.1, p.2.status, p.2.expiresAt)) =
      [((2, 3), .closed, some (700 * NS))] ∧
    C08REx.wGone.mkt.listings = [] ∧
    C08REx.wFin.nowNs = 100 * NS ∧ C08REx.wExp.nowNs = 700 * NS := by decide +kernel

section
variable {w0 : World} {t : Nat} {r : Option Nat}

/-- "(… or deleted while preparing or once expired)", in every reachable state: `C08_delete_iff`
    with "sender = creator", "no claimant", "no expiration, or expiration reached" rewritten by
    the consistency of a reached record (`C08_delete_iff_wf`). -/
theorem C08_delete_iff_reach (h0 : w0.mkt = instantiate t r) (ops : List Op) {env : Env}
    {s id : Nat} :
    (∃ res, deleteListing (run w0 ops).mkt env s id = .ok res) ↔
      ∃ l, alookup (s, id) (run w0 ops).mkt.listings = some l ∧
        (l.status = .preparing ∨
         (l.status = .finalized ∧ ∃ e, l.expiresAt = some e ∧ e ≤ env.nowNs)) :=
  C08_delete_iff_wf (C12_reach h0 ops)

/-- both sides occur: the preparing listing can be deleted at once; the finalized one (expiring at
    700 s) not at 100 s, but at 700 s; the sold one never -/
example :
    C12Ex.errOf (deleteListing C08REx.wPrep.mkt C08REx.wPrep.env 1 3) = none ∧
    C12Ex.errOf (deleteListing C08REx.wFin.mkt C08REx.wFin.env 1 3) = some .notExpired ∧
    C12Ex.errOf (deleteListing C08REx.wExp.mkt C08REx.wExp.env 1 3) = none ∧
    C12Ex.errOf (deleteListing C08REx.wSold.mkt C08REx.wSold.env 2 3) = some .hasClaimant := by
  decide +kernel

/-- "the seller cannot take it back before the expiration time", in every reachable state: the
    delete message of every sender, the seller included, is refused (`C08_binding_all`). -/
theorem C08_binding_reach (h0 : w0.mkt = instantiate t r) (ops : List Op) {env : Env}
    {id e : Nat} {k : Nat × Nat} {l : Listing}
    (hf : findById id (run w0 ops).mkt.listings = some (k, l)) (he : l.expiresAt = some e)
    (hnow : env.nowNs < e) (s : Nat) :
    ∃ err, deleteListing (run w0 ops).mkt env s id = .error err :=
  C08_binding_all (C09_reach h0 ops) hf he hnow s

/-- listing 3 of `wFin` expires at 700 s and it is 100 s; the seller's delete is refused one
    nanosecond before the expiration, accepted at it -/
example : (findById 3 C08REx.wFin.mkt.listings).map (fun p => p.2.expiresAt) = some (some (700 * NS)) ∧
    C08REx.wFin.env.nowNs < 700 * NS ∧
    C12Ex.errOf (deleteListing C08REx.wFin.mkt { C08REx.wFin.env with nowNs := 700 * NS - 1 } 1 3) =
      some .notExpired ∧
    C12Ex.errOf (deleteListing C08REx.wFin.mkt { C08REx.wFin.env with nowNs := 700 * NS } 1 3) =
      none := by decide +kernel

/-- … and so is everybody else's, at any time: nobody but the creator has a record under this id. -/
theorem C08_binding_others_reach (h0 : w0.mkt = instantiate t r) (ops : List Op) {env : Env}
    {s id : Nat} {k : Nat × Nat} {l : Listing}
    (hf : findById id (run w0 ops).mkt.listings = some (k, l)) (hs : s ≠ l.creator) :
    deleteListing (run w0 ops).mkt env s id = .error .notFound :=
  C08_binding_others (C09_reach h0 ops) hf hs

example : (findById 3 C08REx.wFin.mkt.listings).map (fun p => p.2.creator) = some 1 ∧ (9 : Nat) ≠ 1 := by
  decide +kernel

/-- "afterwards the listing's goods, ask, whitelist and expiration never change … A listing's
    status only moves forward", in every reachable state, for any accepted message of any account
    (forged receive hooks included): the listing is gone, or the very same record under the same
    key, or — `msg` being a purchase of it — closed and re-filed under the buyer `s`. -/
theorem C08_frame_reach (h0 : w0.mkt = instantiate t r) (ops : List Op) {m' : Market} {env : Env}
    {s : Nat} {f : List Coin} {msg : ExecMsg} {out : List OutMsg} {lid : Nat} {k : Nat × Nat}
    {l : Listing} (hfind : findById lid (run w0 ops).mkt.listings = some (k, l))
    (hst : l.status ≠ .preparing) (hx : execute (run w0 ops).mkt env s f msg = .ok (m', out)) :
    findById lid m'.listings = none ∨
    ∃ k' l', findById lid m'.listings = some (k', l') ∧ l'.ask = l.ask ∧
      l'.whitelist = l.whitelist ∧ l'.expiresAt = l.expiresAt ∧ l'.finalizedAt = l.finalizedAt ∧
      l'.id = l.id ∧ statusRank' l.status ≤ statusRank' l'.status ∧
      ((k' = k ∧ l' = l) ∨
       ((∃ bid, msg = .buy lid bid) ∧ l.status = .finalized ∧ l'.status = .closed ∧
         k' = (s, lid) ∧ l'.creator = s ∧ l'.claimant = some s)) :=
  C08_frame (C09_reach h0 ops) hfind hst hx

/-- listing 3 of `wBkt` is finalized; the purchase by 2, a stranger's bucket deposit and (at the
    expiration) the owner's delete are accepted messages -/
example : (findById 3 C08REx.wBkt.mkt.listings).map (fun p => decide (p.2.status ≠ .preparing)) =
      some true ∧
    C12Ex.errOf (execute C08REx.wBkt.mkt C08REx.wBkt.env 2 [] (.buy 3 8)) = none ∧
    C12Ex.errOf (execute C08REx.wBkt.mkt C08REx.wBkt.env 9 [⟨2, 5⟩] (.createBucket 4)) = none ∧
    C12Ex.errOf (execute C08REx.wExp.mkt C08REx.wExp.env 1 [] (.deleteListing 3)) = none := by
  decide +kernel

/-- the goods of a non-preparing listing of a reachable state change only in a purchase of it -/
theorem C08_goods_frame_reach (h0 : w0.mkt = instantiate t r) (ops : List Op) {m' : Market}
    {env : Env} {s : Nat} {f : List Coin} {msg : ExecMsg} {out : List OutMsg} {lid : Nat}
    {k k' : Nat × Nat} {l l' : Listing}
    (hfind : findById lid (run w0 ops).mkt.listings = some (k, l)) (hst : l.status ≠ .preparing)
    (hx : execute (run w0 ops).mkt env s f msg = .ok (m', out))
    (hfind' : findById lid m'.listings = some (k', l')) (hnb : ∀ bid, msg ≠ .buy lid bid) :
    k' = k ∧ l' = l :=
  C08_goods_frame (C09_reach h0 ops) hfind hst hx hfind' hnb

/-- a bucket deposit of account 2 is accepted, is not a purchase, and listing 3 is still there
    afterwards -/
example : C12Ex.errOf (execute C08REx.wBkt.mkt C08REx.wBkt.env 2 [⟨2, 5⟩] (.createBucket 4)) = none ∧
    (∀ bid, ExecMsg.createBucket 4 ≠ .buy 3 bid) ∧
    (findById 3 (step C08REx.wBkt (.exec 2 [⟨2, 5⟩] (.createBucket 4))).1.mkt.listings).isSome =
      true := ⟨by decide +kernel, fun _ h => (by cases h), by decide +kernel⟩

/-- "A listing's status only moves forward (preparing, finalized, sold …): it is never
    reopened", in every reachable state, for any live listing, preparing ones included -/
theorem C08_status_forward_reach (h0 : w0.mkt = instantiate t r) (ops : List Op) {m' : Market}
    {env : Env} {s : Nat} {f : List Coin} {msg : ExecMsg} {out : List OutMsg} {lid : Nat}
    {k k' : Nat × Nat} {l l' : Listing}
    (hfind : findById lid (run w0 ops).mkt.listings = some (k, l))
    (hx : execute (run w0 ops).mkt env s f msg = .ok (m', out))
    (hfind' : findById lid m'.listings = some (k', l')) :
    statusRank' l.status ≤ statusRank' l'.status :=
  C08_status_forward (C09_reach h0 ops) hfind hx hfind'

/-- the owner's finalize of the preparing listing 3 -/
example : (findById 3 C08REx.wPrep.mkt.listings).isSome = true ∧
    C12Ex.errOf (execute C08REx.wPrep.mkt C08REx.wPrep.env 1 [] (.finalize 3 600)) = none ∧
    (findById 3 (step C08REx.wPrep (.exec 1 [] (.finalize 3 600))).1.mkt.listings).map
      (fun p => p.2.status) = some .finalized := by decide +kernel

/-- "(preparing, finalized, sold, withdrawn; or deleted while preparing or once expired)", in
    every reachable state: the complete one-message transition relation of the listing stored
    under `lid`: unchanged; edited or finalized by its owner while preparing; deleted by its owner
    (unclaimed, expiration absent or reached); bought while finalized and not past its expiration;
    withdrawn by its claimant once sold. -/
theorem C08_transitions_reach (h0 : w0.mkt = instantiate t r) (ops : List Op) {m' : Market}
    {env : Env} {s : Nat} {f : List Coin} {msg : ExecMsg} {out : List OutMsg} {lid : Nat}
    {k : Nat × Nat} {l : Listing} (hfind : findById lid (run w0 ops).mkt.listings = some (k, l))
    (hx : execute (run w0 ops).mkt env s f msg = .ok (m', out)) :
    findById lid m'.listings = some (k, l) ∨
    (l.status = .preparing ∧ actor msg s = l.creator ∧ ∃ l', findById lid m'.listings = some (k, l') ∧
      (l'.status = .preparing ∨ l'.status = .finalized) ∧ l'.creator = l.creator) ∨
    (msg = .deleteListing lid ∧ s = l.creator ∧ l.claimant = none ∧
      (∀ e, l.expiresAt = some e → e ≤ env.nowNs) ∧ findById lid m'.listings = none) ∨
    (l.status = .finalized ∧ l.claimant = none ∧ (∀ e, l.expiresAt = some e → env.nowNs ≤ e) ∧
      ∃ bid l', msg = .buy lid bid ∧ findById lid m'.listings = some ((s, lid), l') ∧
        l'.status = .closed ∧ l'.claimant = some s) ∨
    (l.status = .closed ∧ msg = .withdrawPurchased lid ∧ l.claimant = some s ∧ s = l.creator ∧
      findById lid m'.listings = none) :=
  C08_transitions (C09_reach h0 ops) hfind hx

/-- every kind of transition occurs from a reached state: an edit and the finalization of the
    preparing listing, the delete at the expiration, the purchase, the buyer's withdrawal -/
example :
    C12Ex.errOf (execute C08REx.wPrep.mkt C08REx.wPrep.env 1 [] (.changeAsk 3 ⟨[⟨2, 9⟩], [], []⟩)) = none ∧
    C12Ex.errOf (execute C08REx.wPrep.mkt C08REx.wPrep.env 1 [] (.finalize 3 600)) = none ∧
    C12Ex.errOf (execute C08REx.wExp.mkt C08REx.wExp.env 1 [] (.deleteListing 3)) = none ∧
    C12Ex.errOf (execute C08REx.wBkt.mkt C08REx.wBkt.env 2 [] (.buy 3 8)) = none ∧
    C12Ex.errOf (execute C08REx.wSold.mkt C08REx.wSold.env 2 [] (.withdrawPurchased 3)) = none := by
  decide +kernel

/-- "the seller cannot take it back before the expiration time … or deleted … once expired", in
    every reachable state: a finalized listing disappears only by its owner's delete once the
    expiration has been reached, a sold one only by its buyer's withdrawal. -/
theorem C08_when_removed_reach (h0 : w0.mkt = instantiate t r) (ops : List Op) {m' : Market}
    {env : Env} {s : Nat} {f : List Coin} {msg : ExecMsg} {out : List OutMsg} {lid : Nat}
    {k : Nat × Nat} {l : Listing} (hfind : findById lid (run w0 ops).mkt.listings = some (k, l))
    (hst : l.status ≠ .preparing) (hx : execute (run w0 ops).mkt env s f msg = .ok (m', out))
    (hgone : findById lid m'.listings = none) :
    (l.status = .finalized ∧ (∀ e, l.expiresAt = some e → e ≤ env.nowNs) ∧
      msg = .deleteListing lid ∧ s = l.creator) ∨
    (l.status = .closed ∧ msg = .withdrawPurchased lid ∧ l.claimant = some s) :=
  C08_when_removed (C09_reach h0 ops) ((C12_reach h0 ops).lwf (k, l) (findById_some hfind).2) hfind
    hst hx hgone

/-- the owner's delete at the expiration removes the finalized listing; the buyer's withdrawal
    removes the sold one -/
example :
    findById 3 (step C08REx.wExp (.exec 1 [] (.deleteListing 3))).1.mkt.listings = none ∧
    C12Ex.errOf (execute C08REx.wExp.mkt C08REx.wExp.env 1 [] (.deleteListing 3)) = none ∧
    findById 3 (step C08REx.wSold (.exec 2 [] (.withdrawPurchased 3))).1.mkt.listings = none ∧
    C12Ex.errOf (execute C08REx.wSold.mkt C08REx.wSold.env 2 [] (.withdrawPurchased 3)) = none := by
  decide +kernel

/-- "Gone is forever / never reopened", along every history from instantiation.  The hypothesis
    `lid ∈ listingUsed` of `C08_gone_forever` is discharged from the history: a live id is logged
    and the log only grows. -/
theorem C08_gone_forever_reach (h0 : w0.mkt = instantiate t r) (ops₁ ops₂ : List Op) {m' : Market}
    {env : Env} {s : Nat} {f : List Coin} {msg : ExecMsg} {out : List OutMsg} {lid : Nat}
    {k : Nat × Nat} {l : Listing} (hfind : findById lid (run w0 ops₁).mkt.listings = some (k, l))
    (hnone : findById lid (run w0 (ops₁ ++ ops₂)).mkt.listings = none)
    (hx : execute (run w0 (ops₁ ++ ops₂)).mkt env s f msg = .ok (m', out)) :
    findById lid m'.listings = none ∧ lid ∈ m'.listingUsed :=
  C08_gone_forever hnone (reach_found_used h0 ops₁ ops₂ hfind) hx

/-- listing 3 is live after four operations and gone after nine; creating it again is refused
    there, creating listing 4 is accepted -/
example : (findById 3 (run AcctEx.w0 (AcctEx.ops.take 4)).mkt.listings).isSome = true ∧
    findById 3 (run AcctEx.w0 (AcctEx.ops.take 4 ++ (AcctEx.ops.drop 4).take 5)).mkt.listings = none ∧
    C12Ex.errOf (execute C08REx.wGone.mkt C08REx.wGone.env 1 [⟨1, 5⟩]
      (.createListing 3 ⟨⟨[⟨2, 1⟩], [], []⟩, none⟩)) = some .idUsed ∧
    C12Ex.errOf (execute C08REx.wGone.mkt C08REx.wGone.env 1 [⟨1, 5⟩]
      (.createListing 4 ⟨⟨[⟨2, 1⟩], [], []⟩, none⟩)) = none := by decide +kernel

/-- … and it is gone at every later point of the history. -/
theorem C08_run_gone_stays_reach (h0 : w0.mkt = instantiate t r) (ops₁ ops₂ ops₃ : List Op)
    {lid : Nat} {k : Nat × Nat} {l : Listing}
    (hfind : findById lid (run w0 ops₁).mkt.listings = some (k, l))
    (hgone : findById lid (run w0 (ops₁ ++ ops₂)).mkt.listings = none) :
    findById lid (run w0 (ops₁ ++ ops₂ ++ ops₃)).mkt.listings = none ∧
    lid ∈ (run w0 (ops₁ ++ ops₂ ++ ops₃)).mkt.listingUsed := by
  rw [run_append w0 (ops₁ ++ ops₂) ops₃]
  exact C08_run_gone hgone (reach_found_used h0 ops₁ ops₂ hfind) ops₃

/-- the same history, followed by an attempt to re-create the id -/
example : findById 3 (run AcctEx.w0 (AcctEx.ops.take 4 ++ (AcctEx.ops.drop 4).take 5 ++
    [.exec 1 [⟨1, 5⟩] (.createListing 3 ⟨⟨[⟨2, 1⟩], [], []⟩, none⟩)])).mkt.listings = none := by
  decide +kernel

theorem C08_step_frame_reach (h0 : w0.mkt = instantiate t r) (ops : List Op) {lid : Nat}
    {k : Nat × Nat} {l : Listing} (op : Op)
    (hfind : findById lid (run w0 ops).mkt.listings = some (k, l)) (hst : l.status ≠ .preparing) :
    findById lid (step (run w0 ops) op).1.mkt.listings = none ∨
    ∃ k' l', findById lid (step (run w0 ops) op).1.mkt.listings = some (k', l') ∧ l'.ask = l.ask ∧
      l'.whitelist = l.whitelist ∧ l'.expiresAt = l.expiresAt ∧ l'.finalizedAt = l.finalizedAt ∧
      l'.id = l.id ∧ statusRank' l.status ≤ statusRank' l'.status ∧
      ((k' = k ∧ l' = l) ∨
       ((∃ c f bid, op = .exec c f (.buy lid bid) ∧ k' = (c, lid) ∧ l'.creator = c ∧
           l'.claimant = some c) ∧ l.status = .finalized ∧ l'.status = .closed)) :=
  C08_step_frame op (C09_reach h0 ops) hfind hst

example : (findById 3 C08REx.wBkt.mkt.listings).map (fun p => decide (p.2.status ≠ .preparing)) =
    some true := by decide +kernel

/-- "the seller cannot take it back before the expiration time", as transactions from any
    reachable state: a delete transaction of any account fails and leaves the world as it was -/
theorem C08_step_binding_reach (h0 : w0.mkt = instantiate t r) (ops : List Op) {lid e : Nat}
    {k : Nat × Nat} {l : Listing} (s : Nat) (f : List Coin)
    (hfind : findById lid (run w0 ops).mkt.listings = some (k, l)) (he : l.expiresAt = some e)
    (hnow : (run w0 ops).nowNs < e) :
    (step (run w0 ops) (.exec s f (.deleteListing lid))).2.ok = false ∧
    (step (run w0 ops) (.exec s f (.deleteListing lid))).1 = run w0 ops :=
  C08_step_binding s f (C09_reach h0 ops) hfind he hnow

/-- at 100 s listing 3 (expiring at 700 s) cannot be deleted by its seller, while a purchase is
    possible; at 700 s the delete succeeds -/
example : (findById 3 C08REx.wBkt.mkt.listings).map (fun p => p.2.expiresAt) = some (some (700 * NS)) ∧
    C08REx.wBkt.nowNs < 700 * NS ∧
    (step C08REx.wBkt (.exec 1 [] (.deleteListing 3))).2.ok = false ∧
    (step C08REx.wBkt (.exec 2 [] (.buy 3 8))).2.ok = true ∧
    (step C08REx.wExp (.exec 1 [] (.deleteListing 3))).2.ok = true := by decide +kernel

theorem C08_step_when_removed_reach (h0 : w0.mkt = instantiate t r) (ops : List Op) {lid : Nat}
    {k : Nat × Nat} {l : Listing} (op : Op)
    (hfind : findById lid (run w0 ops).mkt.listings = some (k, l)) (hst : l.status ≠ .preparing)
    (hgone : findById lid (step (run w0 ops) op).1.mkt.listings = none) :
    (l.status = .finalized ∧ (∀ e, l.expiresAt = some e → e ≤ (run w0 ops).nowNs) ∧
      ∃ f, op = .exec l.creator f (.deleteListing lid)) ∨
    (l.status = .closed ∧ ∃ c f, op = .exec c f (.withdrawPurchased lid) ∧ l.claimant = some c) :=
  C08_step_when_removed op (C09_reach h0 ops)
    ((C12_reach h0 ops).lwf (k, l) (findById_some hfind).2) hfind hst hgone

example : findById 3 (step C08REx.wExp (.exec 1 [] (.deleteListing 3))).1.mkt.listings = none ∧
    findById 3 (step C08REx.wSold (.exec 2 [] (.withdrawPurchased 3))).1.mkt.listings = none := by
  decide +kernel

/-- "afterwards the listing's goods, ask, whitelist and expiration never change … never reopened,
    re-finalized, re-priced or extended", along every history from instantiation: a non-preparing
    listing keeps its terms along any continuation `ops₂` of the history, unless it is gone (and
    then the id never has a listing again, `C08_run_gone_stays_reach`). -/
theorem C08_run_monotone_reach (h0 : w0.mkt = instantiate t r) (ops₁ ops₂ : List Op) {lid : Nat}
    {k : Nat × Nat} {l : Listing} (hfind : findById lid (run w0 ops₁).mkt.listings = some (k, l))
    (hst : l.status ≠ .preparing) :
    findById lid (run w0 (ops₁ ++ ops₂)).mkt.listings = none ∨
    ∃ k' l', findById lid (run w0 (ops₁ ++ ops₂)).mkt.listings = some (k', l') ∧
      l'.status ≠ .preparing ∧ l'.ask = l.ask ∧ l'.whitelist = l.whitelist ∧
      l'.expiresAt = l.expiresAt ∧ l'.finalizedAt = l.finalizedAt ∧
      statusRank' l.status ≤ statusRank' l'.status := by
  rw [run_append]
  exact C08_run_monotone_closed (C09_reach h0 ops₁) hfind hst ops₂

/-- listing 3 is finalized after four operations; three operations later it is sold and still
    shows the published terms -/
example : (findById 3 (run AcctEx.w0 (AcctEx.ops.take 4)).mkt.listings).map
      (fun p => (p.2.status, p.2.ask, p.2.expiresAt)) =
      some (.finalized, ⟨[⟨2, 2000⟩], [], []⟩, some (700 * NS)) ∧
    (findById 3 (run AcctEx.w0 (AcctEx.ops.take 4 ++ (AcctEx.ops.drop 4).take 3)).mkt.listings).map
      (fun p => (p.2.status, p.2.ask, p.2.expiresAt)) =
      some (.closed, ⟨[⟨2, 2000⟩], [], []⟩, some (700 * NS)) := by decide +kernel

/-- **"The owner of a listing still in preparation can finalize it for exactly the lifetimes
    between 600 and 1209600 seconds (bounds included)"**, for the transaction, in every reachable
    state -/
theorem C08_finalize_step_iff_reach (h0 : w0.mkt = instantiate t r) (ops : List Op)
    {k : Nat × Nat} {l : Listing} (secs : Nat) (hm : (k, l) ∈ (run w0 ops).mkt.listings)
    (hs : l.status = .preparing) :
    (step (run w0 ops) (.exec l.creator [] (.finalize l.id secs))).2.ok = true ↔
      MIN_LIFE ≤ secs ∧ secs ≤ TWO_WEEKS :=
  C08_finalize_step_iff secs (C09_reach h0 ops) (closed_wf h0 ops) hm hs

/-- the same with the literals spelled out -/
theorem C08_finalize_step_iff_lit_reach (h0 : w0.mkt = instantiate t r) (ops : List Op)
    {k : Nat × Nat} {l : Listing} (secs : Nat) (hm : (k, l) ∈ (run w0 ops).mkt.listings)
    (hs : l.status = .preparing) :
    (step (run w0 ops) (.exec l.creator [] (.finalize l.id secs))).2.ok = true ↔
      600 ≤ secs ∧ secs ≤ 1209600 :=
  C08_finalize_step_iff_reach h0 ops secs hm hs

/-- `wPrep` holds the preparing listing 3 of account 1; 600 and 1209600 seconds are accepted, 599
    and 1209601 are refused -/
example : (∃ p ∈ C08REx.wPrep.mkt.listings, p.2.status = .preparing ∧ p.2.creator = 1 ∧ p.2.id = 3) ∧
    (step C08REx.wPrep (.exec 1 [] (.finalize 3 600))).2.ok = true ∧
    (step C08REx.wPrep (.exec 1 [] (.finalize 3 1209600))).2.ok = true ∧
    (step C08REx.wPrep (.exec 1 [] (.finalize 3 599))).2.ok = false ∧
    (step C08REx.wPrep (.exec 1 [] (.finalize 3 1209601))).2.ok = false := by decide +kernel

/-- The accepted finalize returns the old world with exactly this record replaced — stamped with
    the block time, `expiresAt = now + secs·10⁹`, status finalized — and emits no message. -/
theorem C08_finalize_step_effect_reach (h0 : w0.mkt = instantiate t r) (ops : List Op)
    {k : Nat × Nat} {l : Listing} {secs : Nat} (hm : (k, l) ∈ (run w0 ops).mkt.listings)
    (hs : l.status = .preparing) (h1 : MIN_LIFE ≤ secs) (h2 : secs ≤ TWO_WEEKS) :
    step (run w0 ops) (.exec l.creator [] (.finalize l.id secs)) =
      ({ run w0 ops with mkt := { (run w0 ops).mkt with listings :=
          (ainsert k { l with finalizedAt := some (run w0 ops).nowNs,
                              expiresAt := some ((run w0 ops).nowNs + secs * NS),
                              status := .finalized } (run w0 ops).mkt.listings) } },
       ⟨true, none, []⟩) :=
  C08_finalize_step_effect (C09_reach h0 ops) (closed_wf h0 ops) hm hs h1 h2

/-- … in particular "only that listing changes": every other key of the listing table, the
    bucket table, the id logs and all ledgers are as before. -/
theorem C08_finalize_step_only_reach (h0 : w0.mkt = instantiate t r) (ops : List Op)
    {k : Nat × Nat} {l : Listing} {secs : Nat} (hm : (k, l) ∈ (run w0 ops).mkt.listings)
    (hs : l.status = .preparing) (h1 : MIN_LIFE ≤ secs) (h2 : secs ≤ TWO_WEEKS) :
    let w := run w0 ops
    let w' := (step w (.exec l.creator [] (.finalize l.id secs))).1
    (∃ l', alookup k w'.mkt.listings = some l' ∧ l'.status = .finalized ∧
      l'.finalizedAt = some w.nowNs ∧ l'.expiresAt = some (w.nowNs + secs * NS) ∧
      l'.forSale = l.forSale ∧ l'.ask = l.ask ∧ l'.whitelist = l.whitelist ∧
      l'.creator = l.creator ∧ l'.id = l.id ∧ l'.claimant = l.claimant ∧ l'.fee = l.fee) ∧
    (∀ k', k' ≠ k → alookup k' w'.mkt.listings = alookup k' w.mkt.listings) ∧
    w'.mkt.buckets = w.mkt.buckets ∧ w'.mkt.listingUsed = w.mkt.listingUsed ∧
    w'.mkt.bucketUsed = w.mkt.bucketUsed ∧ w'.bank = w.bank ∧ w'.cw20 = w.cw20 ∧ w'.nft = w.nft ∧
    w'.nowNs = w.nowNs :=
  C08_finalize_step_only (C09_reach h0 ops) (closed_wf h0 ops) hm hs h1 h2

/-- with `secs = 600`: the finalized listing expires at 100 s + 600 s -/
example : (∃ p ∈ C08REx.wPrep.mkt.listings, p.2.status = .preparing) ∧ MIN_LIFE ≤ 600 ∧
    600 ≤ TWO_WEEKS ∧
    (step C08REx.wPrep (.exec 1 [] (.finalize 3 600))).1.mkt.listings.map
      (fun p => (p.1, p.2.status, p.2.finalizedAt, p.2.expiresAt)) =
      [((1, 3), .finalized, some (100 * NS), some (700 * NS))] := by decide +kernel

/-- the finalize transaction of any account other than the creator is refused, whatever the
    lifetime -/
theorem C08_finalize_step_others_reach (h0 : w0.mkt = instantiate t r) (ops : List Op)
    {k : Nat × Nat} {l : Listing} (s secs : Nat) (hm : (k, l) ∈ (run w0 ops).mkt.listings)
    (hne : s ≠ l.creator) :
    (step (run w0 ops) (.exec s [] (.finalize l.id secs))).2.ok = false :=
  C08_finalize_step_others s secs (C09_reach h0 ops) hm hne

example : (∃ p ∈ C08REx.wPrep.mkt.listings, p.2.id = 3 ∧ 2 ≠ p.2.creator) ∧
    (step C08REx.wPrep (.exec 2 [] (.finalize 3 600))).2.ok = false := by decide +kernel

/-- the `.finalized` arm of `C12_listing_consistent_reach`, in the form the delete theorems below
    take their `he` from -/
theorem C08_finalized_has_expiry_reach (h0 : w0.mkt = instantiate t r) (ops : List Op)
    {k : Nat × Nat} {l : Listing} (hm : (k, l) ∈ (run w0 ops).mkt.listings)
    (hs : l.status = .finalized) :
    ∃ f e, l.finalizedAt = some f ∧ l.expiresAt = some e ∧ f ≤ e :=
  wfTimes_spec (wfListing_finalized ((C12_reach h0 ops).lwf (k, l) hm) hs).1

example : ∃ p ∈ C08REx.wFin.mkt.listings, p.2.status = .finalized := by decide +kernel

/-- the refused half of "the seller cannot take it back before the expiration time"
    (`C08_delete_step_iff_reach`), with its effect; it needs no deployment -/
theorem C08_delete_step_refused_reach (h0 : w0.mkt = instantiate t r) (ops : List Op)
    {k : Nat × Nat} {l : Listing} {e : Nat} (hm : (k, l) ∈ (run w0 ops).mkt.listings)
    (he : l.expiresAt = some e) (hnow : (run w0 ops).nowNs < e) :
    (step (run w0 ops) (.exec l.creator [] (.deleteListing l.id))).2.ok = false ∧
    (step (run w0 ops) (.exec l.creator [] (.deleteListing l.id))).1 = run w0 ops :=
  C08_delete_step_refused (C09_reach h0 ops) hm he hnow

example : (∃ p ∈ C08REx.wFin.mkt.listings, p.2.expiresAt = some (700 * NS) ∧ p.2.creator = 1 ∧
      p.2.id = 3) ∧ C08REx.wFin.nowNs < 700 * NS ∧
    (step C08REx.wFin (.exec 1 [] (.deleteListing 3))).2.ok = false := by decide +kernel

end

/-! ## from a deployment

That the delete succeeds from the expiration on needs the chain to deliver the goods: the
marketplace must hold what it recorded (`C01Inv`) and the recorded assets must be honest tokens
(`CleanRecords`).  Both are invariants of the world, not of the marketplace record; they hold from
a deployment (`Deployed`, Props/C01Closed.lean) along every history without operations signed by
the marketplace and without forged hook calls (`Reach_from_deployment`). -/

/-- **"The seller cannot take it back before the expiration time"** — and can from then on, in
    every state reached from a deployment (`C01Inv`, `CleanRecords` discharged). -/
theorem C08_delete_step_iff_reach {w0 : World} (hD : Deployed w0) (ops : List Op)
    (hops : ∀ op ∈ ops, op.avoids w0.self ∧ op.unforged) {k : Nat × Nat} {l : Listing} {e : Nat}
    (hm : (k, l) ∈ (run w0 ops).mkt.listings) (hs : l.status = .finalized)
    (he : l.expiresAt = some e) :
    (step (run w0 ops) (.exec l.creator [] (.deleteListing l.id))).2.ok = true ↔
      e ≤ (run w0 ops).nowNs :=
  C08_delete_step_iff (Reach_from_deployment hD ops hops).inv
    (Reach_from_deployment hD ops hops).clean hm hs he

/-- From the expiration on, the seller's delete transaction returns exactly the listing's goods to
    the seller (no fee: an unsold listing carries none), removes exactly this record and changes
    nothing but the three ledgers and the record table. -/
theorem C08_delete_step_effect_reach {w0 : World} (hD : Deployed w0) (ops : List Op)
    (hops : ∀ op ∈ ops, op.avoids w0.self ∧ op.unforged) {k : Nat × Nat} {l : Listing} {e : Nat}
    (hm : (k, l) ∈ (run w0 ops).mkt.listings) (hs : l.status = .finalized)
    (he : l.expiresAt = some e) (hle : e ≤ (run w0 ops).nowNs) :
    (step (run w0 ops) (.exec l.creator [] (.deleteListing l.id))).2.msgs =
      sendTokens l.creator l.forSale ∧
    (step (run w0 ops) (.exec l.creator [] (.deleteListing l.id))).1.mkt =
      { (run w0 ops).mkt with listings := aerase k (run w0 ops).mkt.listings } ∧
    CoreEq (run w0 ops) (step (run w0 ops) (.exec l.creator [] (.deleteListing l.id))).1 :=
  -- `.2`: the first conjunct, "the transaction succeeds", is `C08_delete_step_iff_reach`
  (C08_delete_step_effect (Reach_from_deployment hD ops hops).inv
    (Reach_from_deployment hD ops hops).clean hm hs he hle).2

/-! From the concrete deployment `deployedEx` (Props/C01Closed.lean; account 1 holds 10 of denom
    0), account 1 lists 10 of denom 0 and finalizes for 600 s: `C08REx.dFin` is that state,
    `C08REx.dExp` the same 600 s later. -/

namespace C08REx
def dOps : List Op :=
  [ .exec 1 [⟨0, 10⟩] (.createListing 5 ⟨⟨[⟨2, 3⟩], [], []⟩, none⟩), .exec 1 [] (.finalize 5 600) ]
def dFin : World := run deployedEx dOps
def dExp : World := run deployedEx (dOps ++ [.advance (600 * NS) 0])
end C08REx

example : Deployed deployedEx := C02WEx.deployedEx_ok

example : (∀ op ∈ C08REx.dOps ++ [.advance (600 * NS) 0], op.avoids deployedEx.self ∧ op.unforged) ∧
    (∃ p ∈ C08REx.dFin.mkt.listings, p.2.status = .finalized ∧ p.2.creator = 1 ∧ p.2.id = 5 ∧
      p.2.expiresAt = some (C08REx.dFin.nowNs + 600 * NS)) ∧
    (step C08REx.dFin (.exec 1 [] (.deleteListing 5))).2.ok = false ∧
    C08REx.dExp.nowNs = C08REx.dFin.nowNs + 600 * NS ∧
    (step C08REx.dExp (.exec 1 [] (.deleteListing 5))).2.ok = true ∧
    (step C08REx.dExp (.exec 1 [] (.deleteListing 5))).2.msgs = [.bankSend 1 [⟨0, 10⟩]] := by
  decide +kernel

#print axioms C08_delete_iff_reach
#print axioms C08_binding_reach
#print axioms C08_binding_others_reach
#print axioms C08_frame_reach
#print axioms C08_goods_frame_reach
#print axioms C08_status_forward_reach
#print axioms C08_transitions_reach
#print axioms C08_when_removed_reach
#print axioms C08_gone_forever_reach
#print axioms C08_run_gone_stays_reach
#print axioms C08_step_frame_reach
#print axioms C08_step_binding_reach
#print axioms C08_step_when_removed_reach
#print axioms C08_run_monotone_reach
#print axioms C08_finalize_step_iff_reach
#print axioms C08_finalize_step_iff_lit_reach
#print axioms C08_finalize_step_effect_reach
#print axioms C08_finalize_step_only_reach
#print axioms C08_finalize_step_others_reach
#print axioms C08_finalized_has_expiry_reach
#print axioms C08_delete_step_refused_reach
#print axioms C08_delete_step_iff_reach
#print axioms C08_delete_step_effect_reach

end Fuzion
