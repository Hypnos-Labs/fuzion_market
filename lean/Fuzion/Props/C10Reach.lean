/-
  Fuzion.Props.C10Reach — the theorems of Props/C10.lean for every state `run w0 ops` with
  `w0.mkt = instantiate t r` and `ops` arbitrary: `IdsInv` and `WFInv` are discharged by `C09_reach`,
  `C12_reach`.  What remains are hypotheses about the input: which call was accepted, which record
  is looked at; for the world-level ledger the side conditions of `C10_step` on the initial world
  and the operations (the pool account is not the marketplace, nobody registers the pool as royalty
  payout address or signs for it).

  The three timeliness theorems `C10_withdrawBucket`, `C10_withdrawPurchased`, `C10_buy_pays_old`
  have no invariant hypothesis; their `_reach` forms state the original conclusion and add what
  only reachability gives: the record paid out is *the* record with that id (so the payout is the
  last one — "exactly once"), the deposited fee is well-formed, and the call deposits exactly the
  recorded fee, no more (`poolPaid`).
-/
import Fuzion.Props.C10
import Fuzion.Props.C10Closed
import Fuzion.Lemmas.ClosedLemmas
namespace Fuzion

/-! ### sample reachable states for the examples

From the sample deployment `AcctEx.w0` (fee denomination: denom 1).  `C10REx.ops`: account 2 lists
1000 of denom 2 for 1000 of denom 1 and finalizes; account 1 fills bucket 8 with the price and
buys — bucket 8 is re-filed under the seller 2 with 995 of denom 1 and a **pending fee of 5**;
account 5 lists 77 of token 50 for exactly 995 of denom 1 and finalizes.  In the reached state
`C10REx.w` the fee-bearing proceeds bucket (2, 8) can be withdrawn — or used to buy listing 6: the
record is traded again before being withdrawn.  `C10REx.wSold` is the state after seven operations
of the sample history `AcctEx.ops`: the closed listing (2, 3) carries a pending fee of 5. -/

namespace C10REx
def ops : List Op :=
  [ .exec 2 [⟨2, 1000⟩] (.createListing 4 ⟨⟨[⟨1, 1000⟩], [], []⟩, none⟩),
    .exec 2 [] (.finalize 4 600),
    .exec 1 [⟨1, 1000⟩] (.createBucket 8),
    .exec 1 [] (.buy 4 8),
    .send20 50 5 77 (some (.createListing 6 ⟨⟨[⟨1, 995⟩], [], []⟩, none⟩)),
    .exec 5 [] (.finalize 6 600) ]
def w : World := run AcctEx.w0 ops
def wSold : World := run AcctEx.w0 (AcctEx.ops.take 7)
end C10REx

example : AcctEx.w0.mkt = instantiate 0 (some 102) := rfl
example :
    C10REx.w.mkt.listings.map (fun p => (p.1, p.2.status, p.2.fee)) =
      [((5, 6), .finalized, none), ((1, 4), .closed, none)] ∧
    C10REx.w.mkt.buckets.map (fun p => (p.1, p.2.fee, p.2.funds)) =
      [((2, 8), some ⟨1, 5⟩, ⟨[⟨1, 995⟩], [], []⟩)] ∧
    C10REx.wSold.mkt.listings.map (fun p => (p.1, p.2.status, p.2.fee)) =
      [((2, 3), .closed, some ⟨1, 5⟩)] := by decide +kernel

section
variable {w0 : World} {t : Nat} {r : Option Nat}

/-- "deposited … in full and exactly once … never dropped, duplicated, paid to a user, or lost
    when the record is traded again", in every reachable state: the pending-fee ledger of every
    accepted call balances (`C10_execute_pending`; `IdsInv`, `WFInv` discharged). -/
theorem C10_execute_pending_reach (h0 : w0.mkt = instantiate t r) (ops : List Op) {m' : Market}
    {env : Env} {out : List OutMsg} {sender : Nat} {funds : List Coin} {msg : ExecMsg}
    (h : execute (run w0 ops).mkt env sender funds msg = .ok (m', out)) :
    ∀ d, pendingFee m' d + poolPaid out d =
      pendingFee (run w0 ops).mkt d + charged (run w0 ops).mkt env sender msg d :=
  C10_execute_pending (C09_reach h0 ops) (C12_reach h0 ops) h

/-- in the sample state the second purchase with the fee-bearing bucket and the withdrawal of that
    bucket are accepted calls; the numbers of the purchase in denom 1: 5 pending before, the
    purchase charges 4 (on the 995) … -/
example :
    C12Ex.errOf (execute C10REx.w.mkt C10REx.w.env 2 [] (.buy 6 8)) = none ∧
    C12Ex.errOf (execute C10REx.w.mkt C10REx.w.env 2 [] (.removeBucket 8)) = none ∧
    pendingFee C10REx.w.mkt 1 = 5 ∧ charged C10REx.w.mkt C10REx.w.env 2 (.buy 6 8) 1 = 4 := by decide +kernel
/-- … deposits the old 5 and leaves 4 pending -/
example : (step C10REx.w (.exec 2 [] (.buy 6 8))).2.msgs = [.fundPool 100 ⟨1, 5⟩] ∧
    pendingFee (step C10REx.w (.exec 2 [] (.buy 6 8))).1.mkt 1 = 4 := by decide +kernel

/-- "by a well-formed fund-community-pool message whose depositor is the marketplace and whose
    amount is the recorded fee", in every reachable state.  `hj`, `hu`: the handler environment
    shows the world's two fee denominations (for whole transactions it does:
    `C10_wellformed_step_reach`). -/
theorem C10_wellformed_reach (h0 : w0.mkt = instantiate t r) (ops : List Op) {m' : Market}
    {env : Env} {out : List OutMsg} {sender : Nat} {funds : List Coin} {msg : ExecMsg}
    (hj : env.junoD = w0.junoD) (hu : env.usdcD = w0.usdcD)
    (h : execute (run w0 ops).mkt env sender funds msg = .ok (m', out)) :
    ∀ dep c, OutMsg.fundPool dep c ∈ out →
      dep = env.self ∧ RecFee (run w0 ops).mkt c ∧ c.amount ≠ 0 ∧
      (c.key = env.junoD ∨ c.key = env.usdcD) :=
  C10_wellformed (C09_reach h0 ops) (hj ▸ hu ▸ C12_reach h0 ops) h

/-- the environment of the reached world shows the initial denominations, and the second purchase
    emits a pool deposit -/
example : C10REx.w.env.junoD = AcctEx.w0.junoD ∧ C10REx.w.env.usdcD = AcctEx.w0.usdcD ∧
    C12Ex.errOf (execute C10REx.w.mkt C10REx.w.env 2 [] (.buy 6 8)) = none ∧
    (step C10REx.w (.exec 2 [] (.buy 6 8))).2.msgs = [.fundPool 100 ⟨1, 5⟩] :=
  ⟨rfl, rfl, by decide +kernel, by decide +kernel⟩

/-- **every** fund-community-pool message reported by **any** transaction from **any** reachable
    state names the marketplace as depositor and carries a recorded, non-zero fee in one of the
    two fee denominations.  No hypothesis other than reachability. -/
theorem C10_wellformed_step_reach (h0 : w0.mkt = instantiate t r) (ops : List Op) (op : Op) :
    ∀ dep c, OutMsg.fundPool dep c ∈ (step (run w0 ops) op).2.msgs →
      dep = w0.self ∧ RecFee (run w0 ops).mkt c ∧ c.amount ≠ 0 ∧
      (c.key = w0.junoD ∨ c.key = w0.usdcD) := by
  intro dep c hm
  obtain ⟨_, _, _, _, _, hx, hm⟩ := mem_step_msgs hm
  obtain ⟨h1, h2, h3, h4⟩ := C10_wellformed (C09_reach h0 ops) (closed_wf h0 ops) hx dep c hm
  have hd := run_static w0 ops
  exact ⟨h1.trans hd.self, h2, h3, h4.imp (·.trans hd.junoD) (·.trans hd.usdcD)⟩

/-- it is not vacuous: the transactions of the sample state that report a pool deposit -/
example : (step C10REx.w (.exec 2 [] (.buy 6 8))).2.msgs = [.fundPool 100 ⟨1, 5⟩] ∧
    (step C10REx.w (.exec 2 [] (.removeBucket 8))).2.msgs =
      [.bankSend 2 [⟨1, 995⟩], .fundPool 100 ⟨1, 5⟩] ∧
    (step C10REx.wSold (.advance NS 1)).2.msgs = [] := by decide +kernel

/-- "no later than when that side's proceeds leave the marketplace" (bucket), in every reachable
    state: the response that sends a bucket's contents to its owner ends with the deposit of the
    bucket's pending fee, and removes the record.  From reachability: the bucket belongs to the
    caller, its fee (if any) is non-zero and in a fee denomination, the response deposits exactly
    that fee — `poolPaid out d = feeAmt b.fee d`, after which that much less is pending — and no
    bucket with this id is left under *any* key, so this was the last payout of this record:
    "in full and exactly once". -/
theorem C10_withdrawBucket_reach (h0 : w0.mkt = instantiate t r) (ops : List Op) {m' : Market}
    {env : Env} {out : List OutMsg} {user id : Nat}
    (h : withdrawBucket (run w0 ops).mkt env user id = .ok (m', out)) :
    ∃ b, alookup (user, id) (run w0 ops).mkt.buckets = some b ∧
      out = sendTokens b.owner b.funds ++ feeMsg env.self b.fee ∧
      m'.buckets = aerase (user, id) (run w0 ops).mkt.buckets ∧
      alookup (user, id) m'.buckets = none ∧
      -- from reachability
      b.owner = user ∧ wfFee w0.junoD w0.usdcD b.fee = true ∧
      (∀ who, alookup (who, id) m'.buckets = none) ∧
      (∀ d, poolPaid out d = feeAmt b.fee d) ∧
      (∀ d, pendingFee m' d + feeAmt b.fee d = pendingFee (run w0 ops).mkt d) := by
  obtain ⟨b, hb, rfl, hm', hnone⟩ := C10_withdrawBucket h
  obtain ⟨ho, _, hfee⟩ := wfBucket_iff.1 ((C12_reach h0 ops).bucket hb)
  have hpaid := poolPaid_withdrawMsgs env.self b.owner b.funds b.fee
  refine ⟨b, hb, rfl, hm', hnone, ho.symm, hfee,
    fun who => hm' ▸ (C09_reach h0 ops).bucket_erased hb who, hpaid, fun d => ?_⟩
  have := C10_execute_pending_reach h0 ops ((execute_nil_removeBucket _ _ _ _).trans h) d
  -- `hpaid` speaks of `withdrawMsgs`, the model's name for this message list
  rwa [← withdrawMsgs_eq, hpaid d] at this

/-- the owner withdraws the fee-bearing bucket 8; computed: 995 to the owner, then the fee of 5 to
    the pool -/
example : C12Ex.errOf (withdrawBucket C10REx.w.mkt C10REx.w.env 2 8) = none ∧
    (step C10REx.w (.exec 2 [] (.removeBucket 8))).2.msgs =
      [.bankSend 2 [⟨1, 995⟩], .fundPool 100 ⟨1, 5⟩] := by decide +kernel

/-- "no later than when that side's proceeds leave the marketplace" (purchased listing), in every
    reachable state: the response that sends the purchased goods to the claimant ends with the
    deposit of the listing's pending fee, and removes the record.  From reachability: the record
    is the closed one filed under the claimant's own key, the response deposits exactly its fee,
    after which that much less is pending, and no listing with this id is left: "in full and
    exactly once". -/
theorem C10_withdrawPurchased_reach (h0 : w0.mkt = instantiate t r) (ops : List Op) {m' : Market}
    {env : Env} {out : List OutMsg} {who lid : Nat}
    (h : withdrawPurchased (run w0 ops).mkt env who lid = .ok (m', out)) :
    ∃ k l, findById lid (run w0 ops).mkt.listings = some (k, l) ∧ l.claimant = some who ∧
      out = sendTokens who l.forSale ++ feeMsg env.self l.fee ∧
      m'.listings = aerase (who, lid) (run w0 ops).mkt.listings ∧
      -- from reachability
      k = (who, lid) ∧ l.creator = who ∧ l.status = .closed ∧
      wfFee w0.junoD w0.usdcD l.fee = true ∧ findById lid m'.listings = none ∧
      (∀ d, poolPaid out d = feeAmt l.fee d) ∧
      (∀ d, pendingFee m' d + feeAmt l.fee d = pendingFee (run w0 ops).mkt d) := by
  obtain ⟨k, l, hl, hc, rfl, hm'⟩ := C10_withdrawPurchased h
  have hwf : wfListing _ _ k l = true := (C12_reach h0 ops).lwf (k, l) (findById_some hl).2
  obtain ⟨hs, rfl⟩ := wfListing_claimant hwf hc
  obtain ⟨rfl, _, _⟩ := (C09_reach h0 ops).findById_key hl
  have hpaid := poolPaid_withdrawMsgs env.self l.creator l.forSale l.fee
  refine ⟨_, l, hl, hc, rfl, hm', rfl, rfl, hs, (wfListing_closed hwf hs).2.2,
    hm' ▸ ((C09_reach h0 ops).lids.findById_aerase hl _).trans (if_pos rfl), hpaid, fun d => ?_⟩
  have := C10_execute_pending_reach h0 ops ((execute_nil_withdrawPurchased _ _ _ _).trans h) d
  rwa [← withdrawMsgs_eq, hpaid d] at this

/-- buyer 2 withdraws the purchased listing 3, which carries a fee of 5; computed: the goods (995
    of denom 1, the tokens, the NFT), then the fee -/
example : C12Ex.errOf (withdrawPurchased C10REx.wSold.mkt C10REx.wSold.env 2 3) = none ∧
    (step C10REx.wSold (.exec 2 [] (.withdrawPurchased 3))).2.msgs =
      [.bankSend 2 [⟨1, 995⟩], .cw20Transfer 50 2 400, .nftTransfer 60 7 2, .fundPool 100 ⟨1, 5⟩] := by
  decide +kernel

/-- "or lost when the record is traded again before being withdrawn" (repair of defect D1), in
    every reachable state: a purchase paid with a bucket that still carries a pending fee deposits
    that fee in the same response, before the bucket is re-filed with the new fee.  From
    reachability: the fee is non-zero and in a fee denomination, and the response deposits
    **exactly** that fee into the pool — nothing is duplicated, and nothing else can be lost,
    because the listing a purchase consumes carries no fee (`C10_buy_listing_no_fee_reach`). -/
theorem C10_buy_pays_old_reach (h0 : w0.mkt = instantiate t r) (ops : List Op) {m' : Market}
    {env : Env} {out : List OutMsg} {buyer lid bid : Nat} {b : Bucket} {f : Coin}
    (h : buy (run w0 ops).mkt env buyer lid bid = .ok (m', out))
    (hb : alookup (buyer, bid) (run w0 ops).mkt.buckets = some b) (hf : b.fee = some f) :
    OutMsg.fundPool env.self f ∈ out ∧
    -- from reachability
    f.amount ≠ 0 ∧ (f.key = w0.junoD ∨ f.key = w0.usdcD) ∧
    (∀ d, poolPaid out d = feeAmt (some f) d) := by
  obtain ⟨h1, h2⟩ := wfBucket_fee ((C12_reach h0 ops).bucket hb) hf
  refine ⟨C10_buy_pays_old h hb hf, h1, h2, fun d => ?_⟩
  rw [poolPaid_buy h hb d, hf]

/-- account 2 pays for listing 6 with the proceeds bucket 8, which still carries the fee of 5 from
    the sale of listing 4 … -/
example : C12Ex.errOf (buy C10REx.w.mkt C10REx.w.env 2 6 8) = none ∧
    (alookup (2, 8) C10REx.w.mkt.buckets).map (·.fee) = some (some ⟨1, 5⟩) := by decide +kernel
/-- … computed: the old fee of 5 is deposited by the purchase, the bucket goes to the seller 5
    with the new fee of 4 (0.5 % of 995), and both fees reach the pool once bucket 8 is finally
    withdrawn: 9 in total, nothing pending -/
example : (step C10REx.w (.exec 2 [] (.buy 6 8))).2.msgs = [.fundPool 100 ⟨1, 5⟩] ∧
    (step C10REx.w (.exec 2 [] (.buy 6 8))).1.mkt.buckets.map (fun p => (p.1, p.2.fee, p.2.funds)) =
      [((5, 8), some ⟨1, 4⟩, ⟨[⟨1, 991⟩], [], []⟩)] ∧
    lget (run C10REx.w [.exec 2 [] (.buy 6 8), .exec 5 [] (.removeBucket 8)]).bank (101, 1) = 9 ∧
    pendingFee (run C10REx.w [.exec 2 [] (.buy 6 8), .exec 5 [] (.removeBucket 8)]).mkt 1 = 0 := by
  decide +kernel

/-- why the listing side needs no such payment -/
theorem C10_buy_listing_no_fee_reach (h0 : w0.mkt = instantiate t r) (ops : List Op) {m' : Market}
    {env : Env} {out : List OutMsg} {buyer lid bid : Nat}
    (h : buy (run w0 ops).mkt env buyer lid bid = .ok (m', out)) :
    ∃ k l, findById lid (run w0 ops).mkt.listings = some (k, l) ∧ l.fee = none :=
  C10_buy_listing_no_fee (C09_reach h0 ops) (C12_reach h0 ops) h

example : C12Ex.errOf (buy C10REx.w.mkt C10REx.w.env 2 6 8) = none := by decide +kernel

theorem C10_delete_no_pool_reach (h0 : w0.mkt = instantiate t r) (ops : List Op) {m' : Market}
    {env : Env} {out : List OutMsg} {sender id : Nat}
    (h : deleteListing (run w0 ops).mkt env sender id = .ok (m', out)) :
    (∀ dep c, OutMsg.fundPool dep c ∉ out) ∧
    ∃ l, alookup (sender, id) (run w0 ops).mkt.listings = some l ∧ l.fee = none :=
  C10_delete_no_pool (C09_reach h0 ops) (C12_reach h0 ops) h

/-- the preparing listing 3 after three operations of the sample history can be deleted by its
    creator -/
example : C12Ex.errOf (deleteListing (run AcctEx.w0 (AcctEx.ops.take 3)).mkt
    (run AcctEx.w0 (AcctEx.ops.take 3)).env 1 3) = none := by decide

/-- **"a never-traded record has no fee"**, as a theorem about reachable states: every listing
    stored in a reachable state that is not closed (never sold) carries no pending fee.  (The
    counterexample `AcctEx.badMkt` of Props/C10.lean, on which `deleteListing` drops a fee, is
    therefore not reachable.) -/
theorem C10_untraded_no_fee_reach (h0 : w0.mkt = instantiate t r) (ops : List Op) {k : Nat × Nat}
    {l : Listing} (hm : (k, l) ∈ (run w0 ops).mkt.listings) (hs : l.status ≠ .closed) :
    l.fee = none :=
  C10_untraded_no_fee (C12_reach h0 ops) (mem_nodup_alookup (C09_reach h0 ops).lkeys hm) hs

/-- the finalized listing 6 of the sample state -/
example : ∃ p ∈ C10REx.w.mkt.listings, p.2.status ≠ .closed := by decide +kernel

/-- … read the other way round: a pending fee on a listing of a reachable state is non-zero, in
    one of the two fee denominations, and sits on a **sold** record — closed, with the buyer as
    holder and claimant — i.e. on a record whose proceeds have not left the marketplace yet. -/
theorem C10_fee_traded_reach (h0 : w0.mkt = instantiate t r) (ops : List Op) {k : Nat × Nat}
    {l : Listing} {c : Coin} (hm : (k, l) ∈ (run w0 ops).mkt.listings) (hf : l.fee = some c) :
    l.status = .closed ∧ l.claimant = some l.creator ∧ c.amount ≠ 0 ∧
    (c.key = w0.junoD ∨ c.key = w0.usdcD) := by
  have hwf := (C12_reach h0 ops).lwf (k, l) hm
  obtain ⟨h1, h2, h3⟩ := wfListing_fee hwf hf
  exact ⟨h3, (wfListing_closed hwf h3).2.1, h1, h2⟩

/-- the sold listing 3 carries the fee of 5 -/
example : ∃ p ∈ C10REx.wSold.mkt.listings, p.2.fee = some ⟨1, 5⟩ := by decide +kernel

/-- the same for buckets: a pending fee on a bucket of a reachable state is non-zero and in one of
    the two fee denominations (whether a bucket has been traded is not recorded on it) -/
theorem C10_bucket_fee_reach (h0 : w0.mkt = instantiate t r) (ops : List Op) {k : Nat × Nat}
    {b : Bucket} {c : Coin} (hm : (k, b) ∈ (run w0 ops).mkt.buckets) (hf : b.fee = some c) :
    c.amount ≠ 0 ∧ (c.key = w0.junoD ∨ c.key = w0.usdcD) :=
  wfBucket_fee ((C12_reach h0 ops).bwf (k, b) hm) hf

example : ∃ p ∈ C10REx.w.mkt.buckets, p.2.fee = some ⟨1, 5⟩ := by decide +kernel

theorem C10Inv_reach (h0 : w0.mkt = instantiate t r) (hpool : w0.pool ≠ w0.self)
    (hpay : PayoutsNe w0.reg w0.pool) (ops : List Op) (hops : ∀ op ∈ ops, op.avoids w0.pool) :
    C10Inv (run w0 ops) := by
  have hd := run_static w0 ops
  refine ⟨C09_reach h0 ops, closed_wf h0 ops, ?_, ?_⟩
  · exact hd.pool_ne_self hpool
  · rw [hd.pool]
    exact run_induct (P := fun w => PayoutsNe w.reg w0.pool) (fun _ _ hq h => stepF_payouts h hq) ops
      hops hpay

/-- what remains of the hypotheses of `C10_step` is "nobody else pays the pool": the pool is not the
    marketplace, no registry entry pays out to it, no operation is signed by it or registers it as
    payout address -/
theorem C10_step_reach (h0 : w0.mkt = instantiate t r) (hpool : w0.pool ≠ w0.self)
    (hpay : PayoutsNe w0.reg w0.pool) (ops : List Op) (hops : ∀ op ∈ ops, op.avoids w0.pool)
    {op : Op} (hop : op.avoids w0.pool) :
    ∀ d, lget (step (run w0 ops) op).1.bank (w0.pool, d) + pendingFee (step (run w0 ops) op).1.mkt d =
      lget (run w0 ops).bank (w0.pool, d) + pendingFee (run w0 ops).mkt d +
        chargedStep (run w0 ops) op d := by
  have hI := C10Inv_reach h0 hpool hpay ops hops
  have hp := (run_static w0 ops).pool
  have := C10_step hI.ids hI.wf hI.pool hI.payouts (op := op) (hp ▸ hop)
  rwa [hp] at this

/-- the sample world, history and the second purchase meet the side conditions (the pool is 101,
    the only payout address is 9) -/
example : AcctEx.w0.pool ≠ AcctEx.w0.self ∧ PayoutsNe AcctEx.w0.reg AcctEx.w0.pool ∧
    (∀ op ∈ C10REx.ops, op.avoids AcctEx.w0.pool) ∧
    (Op.exec 2 [] (.buy 6 8)).avoids AcctEx.w0.pool :=
  ⟨by decide, AcctEx.w0_payouts 101 (by decide), by decide, by decide⟩

/-- "Every fee charged reaches the community pool exactly once", along every history from
    instantiation: per denomination, `pool balance + pending fees = initial pool balance +
    Σ fees charged` (nothing is pending right after instantiation).  So whenever no fee is pending
    — in particular once every traded record has been withdrawn — the pool has received every fee
    charged, once. -/
theorem C10_conservation_reach (h0 : w0.mkt = instantiate t r) (hpool : w0.pool ≠ w0.self)
    (hpay : PayoutsNe w0.reg w0.pool) (ops : List Op) (hops : ∀ op ∈ ops, op.avoids w0.pool)
    (d : Nat) :
    lget (run w0 ops).bank (w0.pool, d) + pendingFee (run w0 ops).mkt d =
      lget w0.bank (w0.pool, d) + chargedRun w0 ops d := by
  -- `C10Inv w0` is `C10Inv_reach` at the empty history: `run w0 []` is `w0` by definition
  have h := C10_conservation_closed ops (w := w0)
    (C10Inv_reach h0 hpool hpay [] (List.forall_mem_nil _)) hops d
  rwa [show pendingFee w0.mkt d = 0 by rw [h0]; rfl] at h

/-- computed on the sample history extended by the second purchase and the final withdrawal of
    bucket 8: fees of 5 and 4 are charged in denom 1, the pool ends up with 9 and nothing is
    pending -/
example : (∀ op ∈ C10REx.ops ++ [.exec 2 [] (.buy 6 8), .exec 5 [] (.removeBucket 8)],
      op.avoids AcctEx.w0.pool) ∧
    chargedRun AcctEx.w0 (C10REx.ops ++ [.exec 2 [] (.buy 6 8), .exec 5 [] (.removeBucket 8)]) 1 = 9 ∧
    lget (run AcctEx.w0 (C10REx.ops ++ [.exec 2 [] (.buy 6 8), .exec 5 [] (.removeBucket 8)])).bank
      (101, 1) = 9 ∧
    pendingFee (run AcctEx.w0 (C10REx.ops ++ [.exec 2 [] (.buy 6 8), .exec 5 [] (.removeBucket 8)])).mkt
      1 = 0 ∧
    lget AcctEx.w0.bank (101, 1) = 0 := by decide +kernel

end

#print axioms C10_execute_pending_reach
#print axioms C10_wellformed_reach
#print axioms C10_wellformed_step_reach
#print axioms C10_withdrawBucket_reach
#print axioms C10_withdrawPurchased_reach
#print axioms C10_buy_pays_old_reach
#print axioms C10_buy_listing_no_fee_reach
#print axioms C10_delete_no_pool_reach
#print axioms C10_untraded_no_fee_reach
#print axioms C10_fee_traded_reach
#print axioms C10_bucket_fee_reach
#print axioms C10Inv_reach
#print axioms C10_step_reach
#print axioms C10_conservation_reach

end Fuzion
