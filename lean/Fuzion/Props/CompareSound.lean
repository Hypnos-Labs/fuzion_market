/-
  Fuzion.Props.CompareSound — the correspondence check's state comparison `Fuzion.Cmp.compDiffs`
  (Driver/Compare.lean, trusted machinery) is COMPLETE — it looks at every field: if it reports no
  difference, the implementation's world and the model's world are the same up to the order of
  list entries — and EXACT — worlds that are the same up to order are never reported as different
  (under distinct-key side conditions that hold in every state the model reaches).

  The comparison works on canonical forms (`Fuzion.Codec.canonListings`, `sortCoins`, `sortNats`,
  `ledgerEq`, …).  "The same up to order" is `WorldEquiv a b`, stated without sorting, field by
  field: lists are permutations of each other, keyed record lists agree `UpToOrder` (a permutation
  followed by a pointwise relation: equal keys, equivalent records), id sets have the same
  elements, bank / cw20 ledgers agree as total functions (`lget`), the NFT ledger as a partial map
  (`alookup`), scalars are equal.

  Each component check of `compDiffs` is an equality of canonical forms and corresponds to one
  clause of `WorldEquiv`; Lemmas/CompareLemmas.lean characterises each canonical form and gives
  `compDiffs` through the values of its checks (`Cmp.Checks`).  Of the abstractions, "a09" and
  "a03" are functions of the equivalence class, "a08" is one among tables with distinct keys, and
  "a01" also reads `self`, which is not part of it.  The state oracles `o09`, `o12`, `o01` do not
  see the order either.  The counterexamples, and the vectors that show every component looked
  at, are evaluated: `cmp_eval` turns every merge sort into the insertion sort it equals and lets
  the kernel compute.
-/
import Fuzion.Lemmas.CompareLemmas
import Fuzion.Lemmas.AcctLemmas
import Fuzion.Props.C09
import Fuzion.Props.C14
namespace Fuzion
open Fuzion.Codec Fuzion.Cmp

def GBalEquiv (a b : GBal) : Prop :=
  a.native.Perm b.native ∧ a.cw20.Perm b.cw20 ∧ a.nfts.Perm b.nfts

def ListingEquiv (a b : Listing) : Prop :=
  a.creator = b.creator ∧ a.id = b.id ∧ a.finalizedAt = b.finalizedAt ∧ a.expiresAt = b.expiresAt ∧
  a.status = b.status ∧ a.claimant = b.claimant ∧ a.whitelist = b.whitelist ∧
  GBalEquiv a.forSale b.forSale ∧ GBalEquiv a.ask b.ask ∧ a.fee = b.fee

def BucketEquiv (a b : Bucket) : Prop :=
  a.owner = b.owner ∧ GBalEquiv a.funds b.funds ∧ a.fee = b.fee

instance (a b : GBal) : Decidable (GBalEquiv a b) := by unfold GBalEquiv; infer_instance
instance (a b : Listing) : Decidable (ListingEquiv a b) := by unfold ListingEquiv; infer_instance
instance (a b : Bucket) : Decidable (BucketEquiv a b) := by unfold BucketEquiv; infer_instance

/-- Two worlds are the same up to the order of list entries.  Every field of `World` and of
    `Market` occurs, except `self`, `pool`, `regAddr`, `junoD`, `usdcD`: configuration constants
    which the model copies from the pre-state (`stepF_static`, `stepF_regAddr`: `stepF` never
    changes them).  `compDiffs` reads none of the five but `self`, through "a01".

    * `listings`, `buckets`: `UpToOrder R l₁ l₂ := ∃ l', l₁.Perm l' ∧ cmpAll2 R l' l₂` — after
      reordering, the two lists have the same length and at every position the storage keys are
      equal and the records equivalent (`cmp_upToOrder_iff_index` is the form with indices:
      `∃ l', l₁.Perm l' ∧ l'.length = l₂.length ∧ ∀ i h₁ h₂, R l'[i] l₂[i]`);
    * `usedL`, `usedB`: the id sets have the same elements (multiplicity is not compared:
      `sortNats` erases duplicates);
    * `bank`, `cw20`: equal as total functions `lget · k` (missing key = 0: a zero entry and a
      missing entry are the same balance);
    * `nft`: the ledger `(collection, token id) ↦ owner` is compared as a partial map (`alookup`,
      what `nftLedgerEq` decides), so that "owned by address 0" and "no such token" differ — as
      `lget` functions they would not (`cmp_nft_owner0_detected`). -/
structure WorldEquiv (a b : World) : Prop where
  listings : UpToOrder (fun p q => p.1 = q.1 ∧ ListingEquiv p.2 q.2) a.mkt.listings b.mkt.listings
  buckets : UpToOrder (fun p q => p.1 = q.1 ∧ BucketEquiv p.2 q.2) a.mkt.buckets b.mkt.buckets
  usedL : ∀ id, id ∈ a.mkt.listingUsed ↔ id ∈ b.mkt.listingUsed
  usedB : ∀ id, id ∈ a.mkt.bucketUsed ↔ id ∈ b.mkt.bucketUsed
  fee : a.mkt.feeKind = b.mkt.feeKind ∧ a.mkt.feeSince = b.mkt.feeSince
  registryItem : a.mkt.registry = b.mkt.registry
  reg : a.reg.Perm b.reg
  bank : ∀ k, lget a.bank k = lget b.bank k
  cw20 : ∀ k, lget a.cw20 k = lget b.cw20 k
  nft : ∀ k, alookup k a.nft = alookup k b.nft
  contracts : a.contracts.Perm b.contracts
  clock : a.nowNs = b.nowNs ∧ a.height = b.height

/-! ### the record equivalences are the kernels of the canonical forms -/

theorem cmp_canonGBal_iff {a b : GBal} : canonGBal a = canonGBal b ↔ GBalEquiv a b := by
  simp only [canonGBal, GBal.mk.injEq, cmp_sortCoins_eq_iff, cmp_sortNfts_eq_iff, GBalEquiv]

theorem cmp_canonListing_iff {a b : Listing} : canonListing a = canonListing b ↔ ListingEquiv a b := by
  cases a; cases b; simp only [canonListing, Listing.mk.injEq, cmp_canonGBal_iff, ListingEquiv]

theorem cmp_canonBucket_iff {a b : Bucket} : canonBucket a = canonBucket b ↔ BucketEquiv a b := by
  cases a; cases b; simp only [canonBucket, Bucket.mk.injEq, cmp_canonGBal_iff, BucketEquiv]

theorem GBalEquiv.refl (a : GBal) : GBalEquiv a a := cmp_canonGBal_iff.1 rfl
theorem GBalEquiv.symm {a b : GBal} (h : GBalEquiv a b) : GBalEquiv b a :=
  cmp_canonGBal_iff.1 (cmp_canonGBal_iff.2 h).symm
theorem GBalEquiv.trans {a b c : GBal} (h : GBalEquiv a b) (h' : GBalEquiv b c) : GBalEquiv a c :=
  cmp_canonGBal_iff.1 ((cmp_canonGBal_iff.2 h).trans (cmp_canonGBal_iff.2 h'))

theorem ListingEquiv.refl (a : Listing) : ListingEquiv a a := cmp_canonListing_iff.1 rfl
theorem ListingEquiv.symm {a b : Listing} (h : ListingEquiv a b) : ListingEquiv b a :=
  cmp_canonListing_iff.1 (cmp_canonListing_iff.2 h).symm
theorem ListingEquiv.trans {a b c : Listing} (h : ListingEquiv a b) (h' : ListingEquiv b c) :
    ListingEquiv a c :=
  cmp_canonListing_iff.1 ((cmp_canonListing_iff.2 h).trans (cmp_canonListing_iff.2 h'))

theorem BucketEquiv.refl (a : Bucket) : BucketEquiv a a := cmp_canonBucket_iff.1 rfl
theorem BucketEquiv.symm {a b : Bucket} (h : BucketEquiv a b) : BucketEquiv b a :=
  cmp_canonBucket_iff.1 (cmp_canonBucket_iff.2 h).symm
theorem BucketEquiv.trans {a b c : Bucket} (h : BucketEquiv a b) (h' : BucketEquiv b c) :
    BucketEquiv a c :=
  cmp_canonBucket_iff.1 ((cmp_canonBucket_iff.2 h).trans (cmp_canonBucket_iff.2 h'))

theorem ListingEquiv.creator {a b : Listing} (h : ListingEquiv a b) : a.creator = b.creator := h.1
theorem ListingEquiv.id {a b : Listing} (h : ListingEquiv a b) : a.id = b.id := h.2.1
theorem ListingEquiv.status {a b : Listing} (h : ListingEquiv a b) : a.status = b.status :=
  h.2.2.2.2.1
theorem ListingEquiv.claimant {a b : Listing} (h : ListingEquiv a b) : a.claimant = b.claimant :=
  h.2.2.2.2.2.1
theorem ListingEquiv.forSale {a b : Listing} (h : ListingEquiv a b) :
    GBalEquiv a.forSale b.forSale := h.2.2.2.2.2.2.2.1
theorem ListingEquiv.fee {a b : Listing} (h : ListingEquiv a b) : a.fee = b.fee :=
  h.2.2.2.2.2.2.2.2.2
theorem BucketEquiv.funds {a b : Bucket} (h : BucketEquiv a b) : GBalEquiv a.funds b.funds := h.2.1
theorem BucketEquiv.fee {a b : Bucket} (h : BucketEquiv a b) : a.fee = b.fee := h.2.2

theorem WorldEquiv.refl (a : World) : WorldEquiv a a where
  listings := cmp_upToOrder_refl (fun p => ⟨rfl, ListingEquiv.refl p.2⟩) _
  buckets := cmp_upToOrder_refl (fun p => ⟨rfl, BucketEquiv.refl p.2⟩) _
  usedL := fun _ => Iff.rfl
  usedB := fun _ => Iff.rfl
  fee := ⟨rfl, rfl⟩
  registryItem := rfl
  reg := .refl _
  bank := fun _ => rfl
  cw20 := fun _ => rfl
  nft := fun _ => rfl
  contracts := .refl _
  clock := ⟨rfl, rfl⟩

theorem WorldEquiv.symm {a b : World} (h : WorldEquiv a b) : WorldEquiv b a where
  listings := h.listings.symm.mono (fun _ _ hpq => ⟨hpq.1.symm, hpq.2.symm⟩)
  buckets := h.buckets.symm.mono (fun _ _ hpq => ⟨hpq.1.symm, hpq.2.symm⟩)
  usedL := fun id => (h.usedL id).symm
  usedB := fun id => (h.usedB id).symm
  fee := ⟨h.fee.1.symm, h.fee.2.symm⟩
  registryItem := h.registryItem.symm
  reg := h.reg.symm
  bank := fun k => (h.bank k).symm
  cw20 := fun k => (h.cw20 k).symm
  nft := fun k => (h.nft k).symm
  contracts := h.contracts.symm
  clock := ⟨h.clock.1.symm, h.clock.2.symm⟩

theorem WorldEquiv.trans {a b c : World} (h : WorldEquiv a b) (h' : WorldEquiv b c) :
    WorldEquiv a c where
  listings := (h.listings.trans h'.listings).mono
    (fun _ _ ⟨_, h1, h2⟩ => ⟨h1.1.trans h2.1, h1.2.trans h2.2⟩)
  buckets := (h.buckets.trans h'.buckets).mono
    (fun _ _ ⟨_, h1, h2⟩ => ⟨h1.1.trans h2.1, h1.2.trans h2.2⟩)
  usedL := fun id => (h.usedL id).trans (h'.usedL id)
  usedB := fun id => (h.usedB id).trans (h'.usedB id)
  fee := ⟨h.fee.1.trans h'.fee.1, h.fee.2.trans h'.fee.2⟩
  registryItem := h.registryItem.trans h'.registryItem
  reg := h.reg.trans h'.reg
  bank := fun k => (h.bank k).trans (h'.bank k)
  cw20 := fun k => (h.cw20 k).trans (h'.cw20 k)
  nft := fun k => (h.nft k).trans (h'.nft k)
  contracts := h.contracts.trans h'.contracts
  clock := ⟨h.clock.1.trans h'.clock.1, h.clock.2.trans h'.clock.2⟩

namespace CmpEx

def l1 : Listing :=
  { creator := 1, id := 1, finalizedAt := none, expiresAt := none, status := .preparing,
    claimant := none, whitelist := none,
    forSale := ⟨[⟨0, 10⟩, ⟨1, 4⟩], [⟨30, 7⟩], [⟨20, 1⟩, ⟨20, 3⟩]⟩,
    ask := ⟨[⟨1, 5⟩, ⟨0, 3⟩], [], []⟩, fee := none }
/-- `l1` with every asset list in another order -/
def l1' : Listing :=
  { l1 with forSale := ⟨[⟨1, 4⟩, ⟨0, 10⟩], [⟨30, 7⟩], [⟨20, 3⟩, ⟨20, 1⟩]⟩,
            ask := ⟨[⟨0, 3⟩, ⟨1, 5⟩], [], []⟩ }
def l2 : Listing :=
  { creator := 2, id := 2, finalizedAt := some 100, expiresAt := some 700000000100, status := .closed,
    claimant := some 2, whitelist := some 1,
    forSale := ⟨[⟨0, 995⟩], [], []⟩, ask := ⟨[], [⟨30, 1⟩], []⟩, fee := some ⟨0, 5⟩ }
def b1 : Bucket := ⟨2, ⟨[⟨0, 3⟩, ⟨1, 5⟩], [⟨30, 2⟩, ⟨31, 1⟩], []⟩, none⟩
/-- `b1` with every asset list in another order -/
def b1' : Bucket := ⟨2, ⟨[⟨1, 5⟩, ⟨0, 3⟩], [⟨31, 1⟩, ⟨30, 2⟩], []⟩, none⟩
def b2 : Bucket := ⟨1, ⟨[], [], [⟨20, 2⟩]⟩, some ⟨1, 2⟩⟩

def mA : Market :=
  { listings := [((1, 1), l1), ((2, 2), l2)], buckets := [((2, 1), b1), ((1, 2), b2)],
    listingUsed := [0, 1, 2], bucketUsed := [0, 1, 2], feeKind := .juno, feeSince := 3,
    registry := some 7 }
def mB : Market :=
  { listings := [((2, 2), l2), ((1, 1), l1')], buckets := [((1, 2), b2), ((2, 1), b1')],
    listingUsed := [2, 0, 1, 2], bucketUsed := [1, 2, 0], feeKind := .juno, feeSince := 3,
    registry := some 7 }

/-- the "implementation's" world -/
def wA : World :=
  { self := 9, pool := 8, regAddr := 7, junoD := 0, usdcD := 1, nowNs := 1000, height := 5,
    mkt := mA,
    reg := [(20, ⟨1, 100, 3⟩), (21, ⟨2, 50, 4⟩)],
    bank := [((9, 0), 1013), ((9, 1), 11), ((1, 0), 5)],
    cw20 := [((30, 9), 9), ((31, 9), 1), ((30, 1), 2)],
    nft := [((20, 1), 9), ((20, 2), 9), ((20, 3), 9), ((20, 4), 1)],
    contracts := [(9, ⟨none, 0, false, false⟩), (20, ⟨some 1, 2, false, false⟩),
                  (30, ⟨none, 1, true, false⟩), (31, ⟨none, 1, true, false⟩)] }

/-- the "model's" world: every list of `wA` in another order (inside the records too), a repeated
    used id, and a zero entry in the bank ledger -/
def wB : World :=
  { wA with
    mkt := mB,
    reg := [(21, ⟨2, 50, 4⟩), (20, ⟨1, 100, 3⟩)],
    bank := [((1, 0), 5), ((9, 1), 11), ((2, 0), 0), ((9, 0), 1013)],
    cw20 := [((30, 1), 2), ((31, 9), 1), ((30, 9), 9)],
    nft := [((20, 4), 1), ((20, 3), 9), ((20, 2), 9), ((20, 1), 9)],
    contracts := [(31, ⟨none, 1, true, false⟩), (30, ⟨none, 1, true, false⟩),
                  (20, ⟨some 1, 2, false, false⟩), (9, ⟨none, 0, false, false⟩)] }

/-- the implementation's messages … -/
def io : ImplOutcome :=
  ⟨true, false,
   [.msg (.bankSend 1 [⟨0, 1⟩, ⟨1, 2⟩]), .msg (.cw20Transfer 30 1 2), .pool true 9 [⟨0, 5⟩]], []⟩
/-- … and the model's: another order, the coins of the bank message in another order -/
def mo : Outcome :=
  ⟨true, none, [.fundPool 9 ⟨0, 5⟩, .cw20Transfer 30 1 2, .bankSend 1 [⟨1, 2⟩, ⟨0, 1⟩]]⟩

/-- a freshly instantiated marketplace in the chain state of `wA` -/
def w0 : World := { wA with mkt := instantiate 0 (some 7) }
/-- a deposit, time, a registry update by the collection's admin, an admin change -/
def ops : List Op :=
  [.exec 1 [⟨0, 5⟩] (.createBucket 1), .advance 0 100,
   .royalty 1 (.update (.valid 20) none (some 200)), .setAdmin 1 20 none]

/-- marketplace at address 0, holding token `(20, 5)` … -/
def wZ1 : World := { wA with self := 0, nft := ((20, 5), 0) :: wA.nft }
/-- … and the same world without that token -/
def wZ2 : World := { wA with self := 0 }
/-- `wB` (= `wA` with every list reordered) with the marketplace at address 0 -/
def wZ3 : World := { wB with self := 0 }

end CmpEx
open CmpEx

/-! ## completeness -/

theorem cmp_complete_L {a b : List ((Nat × Nat) × Listing)} (h : canonListings a = canonListings b) :
    UpToOrder (fun p q => p.1 = q.1 ∧ ListingEquiv p.2 q.2) a b :=
  cmp_canonKeyed_complete canonListing cmp_canonListing_iff _ h

theorem cmp_complete_B {a b : List ((Nat × Nat) × Bucket)} (h : canonBuckets a = canonBuckets b) :
    UpToOrder (fun p q => p.1 = q.1 ∧ BucketEquiv p.2 q.2) a b :=
  cmp_canonKeyed_complete canonBucket cmp_canonBucket_iff _ h

/-- **Completeness of the state comparison.**  If `compDiffs` reports no difference between the
    implementation's post-state `iw` and the model's post-state `mw`, the two worlds are the same
    up to the order of list entries (`WorldEquiv`: every field of `World` / `Market` but the five
    static ones), and both sides emitted the same sorted list of message codes.  Only the twelve
    component checks `L B U F G R K T N A C M` are used; the abstractions `a01 a08 a09 a03` are
    implied by them under the side conditions of `compDiffs_exact`. -/
theorem compDiffs_complete {iw mw : World} {io : ImplOutcome} {mo : Outcome}
    (h : compDiffs iw mw io mo = []) :
    WorldEquiv iw mw ∧ sortCodes (io.msgs.map implMsgCode) = sortCodes (mo.msgs.map outMsgCode) := by
  have c := Checks.of_nil h
  have hU := cmp_beq_and_iff.1 c.U
  exact ⟨{ listings := cmp_complete_L (eq_of_beq c.L)
           buckets := cmp_complete_B (eq_of_beq c.B)
           usedL := cmp_sortNats_eq_iff.1 hU.1
           usedB := cmp_sortNats_eq_iff.1 hU.2
           fee := cmp_beq_and_iff.1 c.F
           registryItem := eq_of_beq c.G
           reg := cmp_perm_of_mergeSort_eq (eq_of_beq c.R)
           bank := cmp_ledgerEq_iff.1 c.K
           cw20 := cmp_ledgerEq_iff.1 c.T
           nft := cmp_nftLedgerEq_iff.1 c.N
           contracts := cmp_perm_of_mergeSort_eq (eq_of_beq c.A)
           clock := cmp_beq_and_iff.1 c.C }, eq_of_beq c.M⟩

theorem compDiffs_complete_msgs {iw mw : World} {io : ImplOutcome} {mo : Outcome}
    (h : compDiffs iw mw io mo = []) :
    (io.msgs.map implMsgCode).Perm (mo.msgs.map outMsgCode) :=
  cmp_sortCodes_eq_iff.1 (compDiffs_complete h).2

/-- messages that mean the same: equal, or bank sends to the same account of the same coins in
    another order -/
def OutMsgEquiv : OutMsg → OutMsg → Prop
  | .bankSend t cs, .bankSend t' cs' => t = t' ∧ cs.Perm cs'
  | a, b => a = b

/-- an implementation message matches a model message: a parsed bank / cw20 / cw721 message that
    means the same, or a well-formed community-pool deposit of exactly one coin by the model's
    depositor; a malformed pool message or an unknown message matches nothing -/
def ImplMsgMatches : ImplMsg → OutMsg → Prop
  | .msg m', m => OutMsgEquiv m' m
  | .pool true d cs, m => ∃ c, cs = [c] ∧ m = .fundPool d c
  | .pool false _ _, _ => False
  | .unknown, _ => False

theorem cmp_outMsgCode_eq_iff {a b : OutMsg} : outMsgCode a = outMsgCode b ↔ OutMsgEquiv a b := by
  cases a with
  | bankSend t cs =>
    cases b with
    | bankSend t' cs' =>
      simp only [outMsgCode, OutMsgEquiv, List.cons.injEq, true_and]
      exact and_congr_right (fun _ => ⟨fun h => cmp_sortCoins_eq_iff.1 (cmp_coinCodes_inj h),
        fun h => by rw [cmp_sortCoins_eq_iff.2 h]⟩)
    | _ => exact iff_of_false (cmp_code_ne (by decide)) OutMsg.noConfusion
  | cw20Transfer t to a =>
    cases b with
    | cw20Transfer =>
      simp only [outMsgCode, OutMsgEquiv, List.cons.injEq, true_and, and_true,
        OutMsg.cw20Transfer.injEq]
    | _ => exact iff_of_false (cmp_code_ne (by decide)) OutMsg.noConfusion
  | nftTransfer c t to =>
    cases b with
    | nftTransfer =>
      simp only [outMsgCode, OutMsgEquiv, List.cons.injEq, true_and, and_true,
        OutMsg.nftTransfer.injEq]
    | _ => exact iff_of_false (cmp_code_ne (by decide)) OutMsg.noConfusion
  | fundPool d c =>
    cases b with
    | fundPool d' c' =>
      cases c; cases c'
      simp only [outMsgCode, OutMsgEquiv, List.cons.injEq, true_and, and_true,
        OutMsg.fundPool.injEq, Coin.mk.injEq]
    | _ => exact iff_of_false (cmp_code_ne (by decide)) OutMsg.noConfusion

theorem cmp_implMsgCode_eq_iff {i : ImplMsg} {m : OutMsg} :
    implMsgCode i = outMsgCode m ↔ ImplMsgMatches i m := by
  cases i with
  | msg m' => exact cmp_outMsgCode_eq_iff
  | unknown => cases m <;> exact iff_of_false (cmp_code_ne (by decide)) id
  | pool wf d cs =>
    cases wf with
    | false => cases m <;> exact iff_of_false (cmp_code_ne (by decide)) id
    | true =>
      cases m with
      | fundPool d' c =>
        simp only [implMsgCode, outMsgCode, ImplMsgMatches, List.cons.injEq, true_and,
          OutMsg.fundPool.injEq]
        constructor
        · rintro ⟨rfl, h⟩
          exact ⟨c, cmp_coinCodes_inj (l' := [c]) (by simpa using h), rfl, rfl⟩
        · rintro ⟨c0, rfl, rfl, rfl⟩
          simp
      | _ => exact iff_of_false (cmp_code_ne (by decide)) (fun ⟨_, _, h⟩ => OutMsg.noConfusion h)

/-- completeness for the messages, stated without codes: after reordering, the implementation's
    messages match the model's one by one (`ImplMsgMatches`) -/
theorem compDiffs_complete_matched {iw mw : World} {io : ImplOutcome} {mo : Outcome}
    (h : compDiffs iw mw io mo = []) : UpToOrder ImplMsgMatches io.msgs mo.msgs :=
  (UpToOrder.of_map_perm (compDiffs_complete_msgs h)).mono (fun _ _ => cmp_implMsgCode_eq_iff.1)

/-- conversely, matching messages have the same multiset of codes (the hypothesis of
    `compDiffs_exact`) -/
theorem cmp_codes_perm_of_matched {io : ImplOutcome} {mo : Outcome}
    (h : UpToOrder ImplMsgMatches io.msgs mo.msgs) :
    (io.msgs.map implMsgCode).Perm (mo.msgs.map outMsgCode) :=
  h.map_perm (f := implMsgCode) (g := outMsgCode) (fun _ _ => cmp_implMsgCode_eq_iff.2)

/-- non-vacuity: the two example worlds differ in the order of every list, and `compDiffs`
    reports nothing -/
theorem CmpEx.nil : compDiffs wA wB io mo = [] := by cmp_eval
example : wA.mkt.listings ≠ wB.mkt.listings ∧ wA.mkt.buckets ≠ wB.mkt.buckets ∧
    wA.mkt.listingUsed ≠ wB.mkt.listingUsed ∧ wA.reg ≠ wB.reg ∧ wA.bank ≠ wB.bank ∧
    wA.cw20 ≠ wB.cw20 ∧ wA.nft ≠ wB.nft ∧ wA.contracts ≠ wB.contracts ∧
    io.msgs.map implMsgCodeE ≠ mo.msgs.map outMsgCodeE := by decide
theorem CmpEx.equiv : WorldEquiv wA wB := (compDiffs_complete CmpEx.nil).1
theorem CmpEx.msgs : (io.msgs.map implMsgCode).Perm (mo.msgs.map outMsgCode) :=
  compDiffs_complete_msgs CmpEx.nil

/-- the example's messages match one by one after reordering; the pool deposit `.pool true 9 [c]`
    matches the model's `.fundPool 9 c` -/
example : UpToOrder ImplMsgMatches io.msgs mo.msgs := compDiffs_complete_matched CmpEx.nil
example : ImplMsgMatches (.pool true 9 [⟨0, 5⟩]) (.fundPool 9 ⟨0, 5⟩) := ⟨_, rfl, rfl⟩
example : ImplMsgMatches (.msg (.bankSend 1 [⟨0, 1⟩, ⟨1, 2⟩])) (.bankSend 1 [⟨1, 2⟩, ⟨0, 1⟩]) :=
  ⟨rfl, by decide⟩

/-! ### every component is looked at: one field changed, the component (and the abstractions
    that read it) is reported -/

-- L: a pending fee (read by the accounting abstraction a01; a08 erases fees)
example : compDiffs wA { wB with mkt := { mB with
    listings := [((2, 2), { l2 with fee := some ⟨0, 6⟩ }), ((1, 1), l1')] } } io mo = ["L", "a01"] := by
  cmp_eval
-- L: a claimant (read by a08 = C08's view and a03 = who may claim)
example : compDiffs wA { wB with mkt := { mB with
    listings := [((2, 2), { l2 with claimant := some 3 }), ((1, 1), l1')] } } io mo =
    ["L", "a08", "a03"] := by cmp_eval
-- L: an ask amount
example : compDiffs wA { wB with mkt := { mB with
    listings := [((2, 2), l2), ((1, 1), { l1' with ask := ⟨[⟨0, 3⟩, ⟨1, 6⟩], [], []⟩ })] } } io mo =
    ["L", "a08"] := by cmp_eval
-- L: the storage key
example : compDiffs wA { wB with mkt := { mB with
    listings := [((2, 2), l2), ((3, 1), l1')] } } io mo = ["L", "a08", "a03"] := by cmp_eval
-- L: a record missing
example : compDiffs wA { wB with mkt := { mB with listings := [((2, 2), l2)] } } io mo =
    ["L", "a01", "a08", "a09", "a03"] := by cmp_eval
-- B: an amount in a bucket
example : compDiffs wA { wB with mkt := { mB with
    buckets := [((1, 2), b2), ((2, 1), { b1' with funds := ⟨[⟨1, 5⟩, ⟨0, 4⟩], [⟨31, 1⟩, ⟨30, 2⟩], []⟩ })] } }
    io mo = ["B", "a01"] := by cmp_eval
-- B: the owner of a bucket
example : compDiffs wA { wB with mkt := { mB with
    buckets := [((1, 2), { b2 with owner := 3 }), ((2, 1), b1')] } } io mo = ["B", "a03"] := by
  cmp_eval

/-- The checks of the example pair.  From here on those that read the changed field are evaluated
    again (`vX`: the value found) and the others kept (`{ CmpEx.checks with X := … }`: see
    `Cmp.Checks`).  (The record tables above are read by "a01" and most of the other abstractions:
    there the whole comparison is evaluated.) -/
theorem CmpEx.checks : Checks wA wB io mo := Checks.of_nil CmpEx.nil

-- U: used listing ids / used bucket ids
example : compDiffs wA { wB with mkt := { mB with listingUsed := [2, 0, 1, 7] } } io mo =
    ["U", "a09"] :=
  Checks.compDiffs_eq (vU := false) (va09 := false)
    { CmpEx.checks with U := by cmp_eval, a09 := by cmp_eval } rfl
example : compDiffs wA { wB with mkt := { mB with bucketUsed := [2, 0] } } io mo = ["U", "a09"] :=
  Checks.compDiffs_eq (vU := false) (va09 := false)
    { CmpEx.checks with U := by cmp_eval, a09 := by cmp_eval } rfl
-- F: fee item
example : compDiffs wA { wB with mkt := { mB with feeSince := 4 } } io mo = ["F"] :=
  Checks.compDiffs_eq (vF := false) { CmpEx.checks with F := by decide } rfl
example : compDiffs wA { wB with mkt := { mB with feeKind := .usdc } } io mo = ["F"] :=
  Checks.compDiffs_eq (vF := false) { CmpEx.checks with F := by decide } rfl
-- G: registry item
example : compDiffs wA { wB with mkt := { mB with registry := none } } io mo = ["G"] :=
  Checks.compDiffs_eq (vG := false) { CmpEx.checks with G := by decide } rfl
-- R: a registry entry
example : compDiffs wA { wB with reg := [(21, ⟨2, 51, 4⟩), (20, ⟨1, 100, 3⟩)] } io mo = ["R"] :=
  Checks.compDiffs_eq (vR := false) { CmpEx.checks with R := by cmp_eval } rfl
-- K: a user's balance / the marketplace's balance
example : compDiffs wA { wB with bank := [((1, 0), 6), ((9, 1), 11), ((9, 0), 1013)] } io mo = ["K"] :=
  Checks.compDiffs_eq (vK := false) (va01 := true)
    { CmpEx.checks with K := by decide, a01 := by cmp_eval } rfl
example : compDiffs wA { wB with bank := [((1, 0), 5), ((9, 1), 12), ((9, 0), 1013)] } io mo =
    ["K", "a01"] :=
  Checks.compDiffs_eq (vK := false) (va01 := false)
    { CmpEx.checks with K := by decide, a01 := by cmp_eval } rfl
-- T: a user's token balance / the marketplace's
example : compDiffs wA { wB with cw20 := [((30, 1), 3), ((31, 9), 1), ((30, 9), 9)] } io mo = ["T"] :=
  Checks.compDiffs_eq (vT := false) (va01 := true)
    { CmpEx.checks with T := by decide, a01 := by cmp_eval } rfl
example : compDiffs wA { wB with cw20 := [((30, 1), 2), ((31, 9), 1), ((30, 9), 8)] } io mo =
    ["T", "a01"] :=
  Checks.compDiffs_eq (vT := false) (va01 := false)
    { CmpEx.checks with T := by decide, a01 := by cmp_eval } rfl
-- N: a user's NFT / an NFT of the marketplace
example : compDiffs wA { wB with nft := [((20, 4), 2), ((20, 3), 9), ((20, 2), 9), ((20, 1), 9)] } io mo =
    ["N"] :=
  Checks.compDiffs_eq (vN := false) (va01 := true)
    { CmpEx.checks with N := by decide, a01 := by cmp_eval } rfl
example : compDiffs wA { wB with nft := [((20, 4), 1), ((20, 3), 1), ((20, 2), 9), ((20, 1), 9)] } io mo =
    ["N", "a01"] :=
  Checks.compDiffs_eq (vN := false) (va01 := false)
    { CmpEx.checks with N := by decide, a01 := by cmp_eval } rfl
-- A: the admin of a contract
example : compDiffs wA { wB with contracts := [(31, ⟨none, 1, true, false⟩), (30, ⟨none, 1, true, false⟩),
    (20, ⟨some 2, 2, false, false⟩), (9, ⟨none, 0, false, false⟩)] } io mo = ["A"] :=
  Checks.compDiffs_eq (vA := false) (va01 := true)
    { CmpEx.checks with A := by cmp_eval, a01 := by cmp_eval } rfl
-- C: clock
example : compDiffs wA { wB with nowNs := 1001 } io mo = ["C"] :=
  Checks.compDiffs_eq (vC := false) { CmpEx.checks with C := by decide } rfl
example : compDiffs wA { wB with height := 6 } io mo = ["C"] :=
  Checks.compDiffs_eq (vC := false) { CmpEx.checks with C := by decide } rfl
-- M: an amount in a message / a message missing
example : compDiffs wA wB io { mo with
    msgs := [.fundPool 9 ⟨0, 5⟩, .cw20Transfer 30 1 3, .bankSend 1 [⟨1, 2⟩, ⟨0, 1⟩]] } = ["M"] :=
  Checks.compDiffs_eq (vM := false) { CmpEx.checks with M := by cmp_eval } rfl
example : compDiffs wA wB io { mo with msgs := [.fundPool 9 ⟨0, 5⟩, .cw20Transfer 30 1 2] } = ["M"] :=
  Checks.compDiffs_eq (vM := false) { CmpEx.checks with M := by cmp_eval } rfl

/-! ### what the comparison does NOT see -/

/-- the five static fields: `pool`, `regAddr`, `junoD`, `usdcD` are not read at all … -/
example : compDiffs wA { wB with pool := 77, regAddr := 78, junoD := 5, usdcD := 6 } io mo = [] :=
  Checks.compDiffs_eq { CmpEx.checks with } rfl
/-- … `self` only through the accounting abstraction (whose defect is taken at `w.self`) -/
example : compDiffs wA { wB with self := 10 } io mo = ["a01"] :=
  Checks.compDiffs_eq (va01 := false)
    { CmpEx.checks with a01 := by cmp_eval } rfl

/-- Why "N" compares by `alookup` (`nftLedgerEq`) and not, like "K" and "T", through `lget` (missing
    key = 0): address 0 is a real account (addresses are numbered from 0, PROTOCOL.md §1).  In this
    pair the model's world has an extra token `(20, 5)` owned by address 0; "N" reports it, although
    the two ledgers agree as `lget` functions (`ledgerEq` accepts them). -/
theorem cmp_nft_owner0_detected :
    compDiffs wA { wB with nft := wB.nft ++ [((20, 5), 0)] } io mo = ["N"] ∧
    ledgerEq wA.nft (wB.nft ++ [((20, 5), 0)]) = true ∧
    alookup (20, 5) wA.nft = none ∧ alookup (20, 5) (wB.nft ++ [((20, 5), 0)]) = some 0 :=
  ⟨Checks.compDiffs_eq (vN := false) (va01 := true)
    { CmpEx.checks with N := by decide, a01 := by cmp_eval } rfl,
   by decide, by decide, by decide⟩

/-! ## exactness

`List.mergeSort` is a stable sort: entries the comparison cannot tell apart keep their input
order.  So equal canonical forms for permuted inputs need the comparison to be antisymmetric on the
entries.  For `sortCoins`, `sortNfts`, `sortCodes`, `sortNats` the sort key is the whole element
(no hypothesis); `canonListings`, `canonBuckets`, `canonReg`, `canonContracts` sort by the storage
key only, so they need distinct keys (`cmp_counter_dupKeys`: without, the check is order-sensitive). -/

theorem cmp_exact_L {a b : List ((Nat × Nat) × Listing)} (hnd : (akeys a).Nodup)
    (h : UpToOrder (fun p q => p.1 = q.1 ∧ ListingEquiv p.2 q.2) a b) :
    canonListings a = canonListings b :=
  cmp_canonKeyed_exact canonListing cmp_canonListing_iff hnd h

theorem cmp_exact_B {a b : List ((Nat × Nat) × Bucket)} (hnd : (akeys a).Nodup)
    (h : UpToOrder (fun p q => p.1 = q.1 ∧ BucketEquiv p.2 q.2) a b) :
    canonBuckets a = canonBuckets b :=
  cmp_canonKeyed_exact canonBucket cmp_canonBucket_iff hnd h

theorem cmp_exact_F {a b : World} (h : WorldEquiv a b) :
    a.mkt.feeKind = b.mkt.feeKind ∧ a.mkt.feeSince = b.mkt.feeSince := h.fee

theorem cmp_exact_G {a b : World} (h : WorldEquiv a b) : a.mkt.registry = b.mkt.registry :=
  h.registryItem

theorem cmp_exact_C {a b : World} (h : WorldEquiv a b) :
    a.nowNs = b.nowNs ∧ a.height = b.height := h.clock

theorem cmp_eraseFeeL_equiv {a b : Listing} (h : ListingEquiv a b) :
    ListingEquiv (eraseFeeL a) (eraseFeeL b) := by
  -- `eraseFeeL` touches the goods (8th clause, by the status `h5`) and the fee (10th) only
  obtain ⟨h1, h2, h3, h4, h5, h6, h7, h8, h9, _⟩ := h
  refine ⟨h1, h2, h3, h4, h5, h6, h7, ?_, h9, rfl⟩
  simp only [eraseFeeL, h5]
  split
  · exact GBalEquiv.refl _
  · exact h8

/-- "a08": C08's view of the listings, the records without their fees -/
theorem cmp_exact_a08 {a b : World} (hnd : (akeys a.mkt.listings).Nodup) (h : WorldEquiv a b) :
    canonListings (a.mkt.listings.map (fun p => (p.1, eraseFeeL p.2))) =
    canonListings (b.mkt.listings.map (fun p => (p.1, eraseFeeL p.2))) := by
  refine cmp_exact_L (by rwa [cmp_akeys_map_snd]) ?_
  exact h.listings.map_map (fun p q hpq => ⟨hpq.1, cmp_eraseFeeL_equiv hpq.2⟩)

theorem cmp_listingIds_perm {a b : World} (h : WorldEquiv a b) :
    (listingIds a.mkt).Perm (listingIds b.mkt) :=
  h.listings.map_perm (fun _ _ hpq => hpq.2.id)

theorem cmp_bucketIds_perm {a b : World} (h : WorldEquiv a b) :
    (bucketIds a.mkt).Perm (bucketIds b.mkt) :=
  h.buckets.map_perm (fun _ _ hpq => congrArg Prod.snd hpq.1)

/-- "a09": C09's view, the used ids and the live ids (no hypothesis) -/
theorem cmp_exact_a09 {a b : World} (h : WorldEquiv a b) :
    sortNats a.mkt.listingUsed = sortNats b.mkt.listingUsed ∧
    sortNats a.mkt.bucketUsed = sortNats b.mkt.bucketUsed ∧
    sortNats (listingIds a.mkt) = sortNats (listingIds b.mkt) ∧
    sortNats (bucketIds a.mkt) = sortNats (bucketIds b.mkt) :=
  ⟨cmp_sortNats_eq_iff.2 h.usedL, cmp_sortNats_eq_iff.2 h.usedB,
   cmp_sortNats_eq_iff.2 (fun _ => (cmp_listingIds_perm h).mem_iff),
   cmp_sortNats_eq_iff.2 (fun _ => (cmp_bucketIds_perm h).mem_iff)⟩

/-- "a03": C03's view, who may claim what (no hypothesis) -/
theorem cmp_exact_a03 {a b : World} (h : WorldEquiv a b) : abs03 a = abs03 b := by
  unfold abs03
  refine cmp_sortCodes_eq_iff.2 (List.Perm.append ?_ ?_)
  · refine h.listings.map_perm fun p q hpq => ?_
    simp only [hpq.1, hpq.2.creator, hpq.2.status, hpq.2.claimant]
  · refine h.buckets.map_perm fun p q hpq => ?_
    simp only [hpq.1, hpq.2.1]

/-! #### "a01": the accounting defect -/

theorem cmp_wsum_congr {a b : World} (h : WorldEquiv a b) {wl : Listing → Nat} {wb : Bucket → Nat}
    (hl : ∀ l l', ListingEquiv l l' → wl l = wl l') (hb : ∀ x x', BucketEquiv x x' → wb x = wb x') :
    wsum wl wb a.mkt = wsum wl wb b.mkt :=
  wsum_perm (h.listings.map_perm fun _ _ hpq => hl _ _ hpq.2)
    (h.buckets.map_perm fun _ _ hpq => hb _ _ hpq.2)

theorem cmp_owedNative_congr {a b : World} (h : WorldEquiv a b) (d : Nat) :
    owedNative a.mkt d = owedNative b.mkt d := by
  rw [owedNative_eq, owedNative_eq]
  exact cmp_wsum_congr h (fun _ _ hl => by rw [coinAmt_perm hl.forSale.1 d, hl.fee])
    (fun _ _ hb => by rw [coinAmt_perm hb.funds.1 d, hb.fee])

theorem cmp_owedCw20_congr {a b : World} (h : WorldEquiv a b) (t : Nat) :
    owedCw20 a.mkt t = owedCw20 b.mkt t := by
  rw [owedCw20_eq, owedCw20_eq]
  exact cmp_wsum_congr h (fun _ _ hl => coinAmt_perm hl.forSale.2.1 t)
    (fun _ _ hb => coinAmt_perm hb.funds.2.1 t)

theorem cmp_recordedNfts_perm {a b : World} (h : WorldEquiv a b) :
    (recordedNfts a.mkt).Perm (recordedNfts b.mkt) :=
  List.perm_iff_count.2 (fun n => by
    rw [count_recordedNfts, count_recordedNfts]
    exact cmp_wsum_congr h (fun _ _ hl => hl.forSale.2.2.count_eq n)
      (fun _ _ hb => hb.funds.2.2.count_eq n))

/-- the contract table is read through `alookup`: order-independent for distinct addresses -/
theorem cmp_kindOf_congr {a b : World} (hnd : (akeys a.contracts).Nodup) (h : WorldEquiv a b)
    (c : Nat) : a.kindOf c = b.kindOf c := alookup_perm hnd h.contracts c

theorem cmp_honestRecorded_perm {a b : World} (hc : (akeys a.contracts).Nodup) (h : WorldEquiv a b) :
    ((recordedNfts a.mkt).filter (fun n => a.isHonest721 n.coll)).Perm
      ((recordedNfts b.mkt).filter (fun n => b.isHonest721 n.coll)) :=
  filter_perm_congr (cmp_recordedNfts_perm h)
    (fun n => by simp only [World.isHonest721, cmp_kindOf_congr hc h])

/-- "a01": needs, besides distinct contract addresses and distinct NFT-ledger keys on both sides
    (`heldNfts` reads the ledger as a list), the same marketplace address on both sides (`self` is
    not part of `WorldEquiv`).  The two defects are taken over the same lists of denominations and
    tokens, whatever these are (generalised to `ds`, `ts`), and agree entry by entry. -/
theorem cmp_exact_a01 {a b : World} (hc : (akeys a.contracts).Nodup) (hna : (akeys a.nft).Nodup)
    (hnb : (akeys b.nft).Nodup) (hself : a.self = b.self) (h : WorldEquiv a b) :
    abs01Eq a b = true := by
  unfold abs01Eq
  simp only [beq_iff_eq]
  generalize dedupNats (nativeUniverse a ++ nativeUniverse b) = ds
  generalize dedupNats (cw20Universe a ++ cw20Universe b) = ts
  have hrec := cmp_honestRecorded_perm hc h
  have hheld := heldNfts_perm hna hnb hself h.nft
  unfold defect01
  simp only [Prod.mk.injEq]
  refine ⟨?_, ?_, ?_, ?_⟩
  · simp only [hself, h.bank, cmp_owedNative_congr h]
  · simp only [hself, h.cw20, cmp_owedCw20_congr h]
  · rw [cmp_nftCodes_perm (cmp_filter_notContains_perm hrec hheld),
      cmp_nftCodes_perm (filter_perm_congr hrec fun n => by rw [hrec.count_eq])]
  · rw [cmp_nftCodes_perm (cmp_filter_notContains_perm hheld hrec)]

/-- distinct keys in the keyed lists of a world (the sorts of `canonListings`, `canonBuckets`,
    `canonReg`, `canonContracts` only look at the key; `heldNfts` reads the NFT ledger as a list).
    Holds in every state the model reaches (`cmp_keysOk_stepF`, `cmp_keysOk_run`). -/
structure CmpKeysOk (w : World) : Prop where
  listings : (akeys w.mkt.listings).Nodup
  buckets : (akeys w.mkt.buckets).Nodup
  reg : (akeys w.reg).Nodup
  contracts : (akeys w.contracts).Nodup
  nft : (akeys w.nft).Nodup

instance (w : World) : Decidable (CmpKeysOk w) :=
  decidable_of_iff ((akeys w.mkt.listings).Nodup ∧ (akeys w.mkt.buckets).Nodup ∧ (akeys w.reg).Nodup ∧
      (akeys w.contracts).Nodup ∧ (akeys w.nft).Nodup)
    ⟨fun h => ⟨h.1, h.2.1, h.2.2.1, h.2.2.2.1, h.2.2.2.2⟩,
     fun h => ⟨h.listings, h.buckets, h.reg, h.contracts, h.nft⟩⟩

/-- distinct keys carry over from the model's world to an equivalent world (all but the NFT
    ledger, of which `WorldEquiv` only knows the map `alookup`, not the list) -/
theorem cmp_keysOk_transfer {a b : World} (h : WorldEquiv a b) (hk : CmpKeysOk b) :
    (akeys a.mkt.listings).Nodup ∧ (akeys a.mkt.buckets).Nodup ∧ (akeys a.reg).Nodup ∧
    (akeys a.contracts).Nodup :=
  ⟨h.listings.akeys_perm.symm.nodup hk.listings, h.buckets.akeys_perm.symm.nodup hk.buckets,
   (h.reg.map Prod.fst).symm.nodup hk.reg, (h.contracts.map Prod.fst).symm.nodup hk.contracts⟩

/-- Exactness of everything but the accounting abstraction: for equivalent worlds (the model's
    with distinct keys) and the same multiset of message codes, the only name `compDiffs` can
    report is "a01" -/
theorem compDiffs_exact_upto_a01 {iw mw : World} {io : ImplOutcome} {mo : Outcome}
    (h : WorldEquiv iw mw) (hm : (io.msgs.map implMsgCode).Perm (mo.msgs.map outMsgCode))
    (hk : CmpKeysOk mw) :
    compDiffs iw mw io mo = if abs01Eq iw mw then [] else ["a01"] := by
  obtain ⟨kl, kb, kr, kc⟩ := cmp_keysOk_transfer h hk
  have h9 := cmp_exact_a09 h
  have hU := cmp_beq_and_iff.2 ⟨h9.1, h9.2.1⟩
  exact Checks.compDiffs_eq (va01 := abs01Eq iw mw) (va09 := true)
    { L := beq_iff_eq.2 (cmp_exact_L kl h.listings)
      B := beq_iff_eq.2 (cmp_exact_B kb h.buckets)
      U := hU
      F := cmp_beq_and_iff.2 h.fee
      G := beq_iff_eq.2 h.registryItem
      R := beq_iff_eq.2 ((cmp_sortByFst_eq_iff kr).2 h.reg)
      K := cmp_ledgerEq_iff.2 h.bank
      T := cmp_ledgerEq_iff.2 h.cw20
      N := cmp_nftLedgerEq_iff.2 h.nft
      A := beq_iff_eq.2 ((cmp_sortByFst_eq_iff kc).2 h.contracts)
      C := cmp_beq_and_iff.2 h.clock
      M := beq_iff_eq.2 (cmp_sortCodes_eq_iff.2 hm)
      a01 := rfl
      a08 := beq_iff_eq.2 (cmp_exact_a08 kl h)
      a09 := by rw [hU, Bool.true_and]; exact cmp_beq_and_iff.2 h9.2.2
      a03 := beq_iff_eq.2 (cmp_exact_a03 h) }
    (by cases abs01Eq iw mw <;> rfl)

/-- **Exactness of the state comparison.**  Worlds that are the same up to the order of list
    entries, with the same multiset of emitted message codes, are never reported as different —
    provided the model's world has distinct keys (`CmpKeysOk`: true in every reachable model state),
    the implementation's NFT ledger has distinct keys (it is the dump of a map), and both worlds
    carry the same marketplace address (only "a01" needs the last two). -/
theorem compDiffs_exact {iw mw : World} {io : ImplOutcome} {mo : Outcome}
    (h : WorldEquiv iw mw) (hm : (io.msgs.map implMsgCode).Perm (mo.msgs.map outMsgCode))
    (hk : CmpKeysOk mw) (hn : (akeys iw.nft).Nodup) (hself : iw.self = mw.self) :
    compDiffs iw mw io mo = [] := by
  rw [compDiffs_exact_upto_a01 h hm hk,
    cmp_exact_a01 (cmp_keysOk_transfer h hk).2.2.2 hn hk.nft hself h]
  rfl

/-- completeness and exactness together; the side conditions are those of `compDiffs_exact`, which
    asks more of the model's world `mw` than of the dump `iw` -/
theorem compDiffs_nil_iff {iw mw : World} {io : ImplOutcome} {mo : Outcome}
    (hk : CmpKeysOk mw) (hn : (akeys iw.nft).Nodup) (hself : iw.self = mw.self) :
    compDiffs iw mw io mo = [] ↔
      WorldEquiv iw mw ∧ (io.msgs.map implMsgCode).Perm (mo.msgs.map outMsgCode) :=
  ⟨fun h => ⟨(compDiffs_complete h).1, compDiffs_complete_msgs h⟩,
   fun h => compDiffs_exact h.1 h.2 hk hn hself⟩

theorem CmpEx.keysA : CmpKeysOk wA := by decide
theorem CmpEx.keysB : CmpKeysOk wB := by decide

/-- non-vacuity of `compDiffs_exact`, `compDiffs_exact_upto_a01`, `compDiffs_nil_iff` and of the
    per-component lemmas `cmp_exact_*`: the example pair meets every hypothesis -/
example : WorldEquiv wA wB ∧ (io.msgs.map implMsgCode).Perm (mo.msgs.map outMsgCode) ∧ CmpKeysOk wB ∧
    CmpKeysOk wA ∧ wA.self = wB.self :=
  ⟨CmpEx.equiv, CmpEx.msgs, CmpEx.keysB, CmpEx.keysA, rfl⟩
example : compDiffs wA wB io mo = [] :=
  compDiffs_exact CmpEx.equiv CmpEx.msgs CmpEx.keysB CmpEx.keysA.nft rfl

/-- the hypothesis "distinct keys" cannot be dropped: the sort is stable, so two entries with the
    same key stay in input order and the check is order-sensitive (a false alarm, not a miss) -/
theorem cmp_counter_dupKeys :
    ([(20, ⟨1, 100, 3⟩), (20, ⟨2, 50, 4⟩)] : Registry).Perm [(20, ⟨2, 50, 4⟩), (20, ⟨1, 100, 3⟩)] ∧
    canonReg [(20, ⟨1, 100, 3⟩), (20, ⟨2, 50, 4⟩)] ≠ canonReg [(20, ⟨2, 50, 4⟩), (20, ⟨1, 100, 3⟩)] := by
  refine ⟨by decide, ?_⟩
  unfold canonReg
  rw [List.mergeSort_of_pairwise (by decide), List.mergeSort_of_pairwise (by decide)]
  decide

/-- Exactness needs no condition `self ≠ 0` on the marketplace address.  `wZ1` / `wZ2` (marketplace
    at address 0; `wZ1` has an extra token owned by address 0) agree as `lget` functions and "a01"
    fires on them, but they are not equivalent: the NFT ledgers differ as partial maps, and "N"
    says so … -/
example : compDiffs wZ1 wZ2 io mo = ["N", "a01"] ∧ alookup (20, 5) wZ1.nft ≠ alookup (20, 5) wZ2.nft ∧
    (∀ k, lget wZ1.nft k = lget wZ2.nft k) := by
  refine ⟨by cmp_eval, by decide, fun k => ?_⟩
  show lget (((20, 5), 0) :: wA.nft) k = lget wA.nft k
  by_cases hk : ((20, 5) : Nat × Nat) = k
  · subst hk; decide
  · simp only [lget, alookup_cons_ne hk]

/-- … and `compDiffs_exact` applies to a marketplace at address 0: `wZ2` against the reordered
    `wZ3` (which differ from `wA`, `wB` in `self`, a field `WorldEquiv` does not read) -/
theorem CmpEx.equivZ : WorldEquiv wZ2 wZ3 := { CmpEx.equiv with }
example : wZ2.self = 0 ∧ compDiffs wZ2 wZ3 io mo = [] :=
  ⟨rfl, compDiffs_exact CmpEx.equivZ CmpEx.msgs (by decide) (by decide) rfl⟩

/-! ### the side conditions hold along the model's steps -/

/-- No history changes the five fields that are not part of `WorldEquiv`. -/
theorem cmp_run_static (w : World) (ops : List Op) :
    (run w ops).self = w.self ∧ (run w ops).pool = w.pool ∧ (run w ops).regAddr = w.regAddr ∧
    (run w ops).junoD = w.junoD ∧ (run w ops).usdcD = w.usdcD :=
  have h := run_static w ops
  ⟨h.self, h.pool, run_regAddr w ops, h.junoD, h.usdcD⟩

/-- the contract table changes by at most one insertion (`setAdmin`) -/
theorem cmp_stepF_contracts_nodup (fail : Nat → Bool) {w : World} (op : Op)
    (hc : (akeys w.contracts).Nodup) : (akeys (stepF fail w op).1.contracts).Nodup := by
  rcases stepF_cases fail w op with ⟨_, h⟩ | ⟨_, _, _, _, _, _, _, _, _, hw, h⟩ | ⟨_, _, _, _, _, h⟩ |
    ⟨_, _, _, _, _, _, _, h⟩ | ⟨_, _, _, h⟩ <;> rw [h]
  · exact hc
  · exact hw.contracts ▸ hc
  · exact hc
  · exact nodup_akeys_ainsert _ _ hc
  · exact hc

/-- one model step (with or without an injected fault) from a world that satisfies the id
    invariant (= oracle `o09`) and has distinct keys in registry, contract table and ledgers leads
    to a world with `CmpKeysOk`: the hypothesis of `compDiffs_exact` on the model side -/
theorem cmp_keysOk_stepF (fail : Nat → Bool) {w : World} (op : Op) (hi : IdsInv w.mkt)
    (hr : (akeys w.reg).Nodup) (hc : (akeys w.contracts).Nodup) (hl : LedgersNodup w) :
    CmpKeysOk (stepF fail w op).1 := by
  have hi' : IdsInv (stepF fail w op).1.mkt := stepF_mkt_inv hi (C09_inv_execute hi)
  have hr' : (akeys (stepF fail w op).1.reg).Nodup := by
    rcases stepF_reg_cases fail w op with h | ⟨s, m, r, _, hx, h⟩ <;> rw [h]
    · exact hr
    · exact C14_nodup_inv hr hx
  exact ⟨hi'.lkeys, hi'.bkeys, hr', cmp_stepF_contracts_nodup fail op hc,
    (stepF_ledgersNodup hl).nft⟩

theorem cmp_keysOk_run_of_ids {w : World} (hi : IdsInv w.mkt) (hr : (akeys w.reg).Nodup)
    (hc : (akeys w.contracts).Nodup) (hl : LedgersNodup w) (ops : List Op) :
    CmpKeysOk (run w ops) :=
  have hi' := C09_inv_run hi ops
  ⟨hi'.lkeys, hi'.bkeys, C14_reach_nodup hr ops,
    run_invariant (P := fun w => (akeys w.contracts).Nodup)
      (fun _ op => cmp_stepF_contracts_nodup noFault op) ops hc,
    (run_ledgersNodup hl ops).nft⟩

theorem cmp_keysOk_run {w : World} {t : Nat} {r : Option Nat} (h0 : w.mkt = instantiate t r)
    (hr : (akeys w.reg).Nodup) (hc : (akeys w.contracts).Nodup) (hl : LedgersNodup w)
    (ops : List Op) : CmpKeysOk (run w ops) :=
  cmp_keysOk_run_of_ids (h0 ▸ IdsInv.init t r) hr hc hl ops

/-- non-vacuity of `cmp_keysOk_stepF` / `cmp_keysOk_run`: a world with a freshly instantiated
    marketplace; four accepted operations that write the marketplace record, the bank, the clock,
    the registry and the contract table -/
example : w0.mkt = instantiate 0 (some 7) ∧ IdsInv w0.mkt ∧ (akeys w0.reg).Nodup ∧
    (akeys w0.contracts).Nodup ∧ LedgersNodup w0 :=
  ⟨rfl, IdsInv.init 0 (some 7), by decide, by decide, ⟨by decide, by decide, by decide⟩⟩
example : (List.range 4).map (fun i => (ops.drop i).head?.map
    (fun op => (step (run w0 (ops.take i)) op).2.ok)) = [some true, some true, some true, some true] := by
  decide
example : CmpKeysOk (run w0 ops) :=
  cmp_keysOk_run rfl (by decide) (by decide) ⟨by decide, by decide, by decide⟩ ops
example : (run w0 ops).mkt.buckets.length = 1 ∧ (run w0 ops).reg ≠ w0.reg ∧
    (run w0 ops).contracts ≠ w0.contracts := by decide
example : (run w0 ops).self = 9 ∧ (run w0 ops).usdcD = 1 :=
  ⟨(cmp_run_static w0 ops).1, (cmp_run_static w0 ops).2.2.2.2⟩

/-! ## the state oracles do not see the order either -/

theorem cmp_checkIds_congr {a b : World} (h : WorldEquiv a b) : checkIds a.mkt = checkIds b.mkt := by
  unfold checkIds
  simp only [h.usedL, h.usedB]
  rw [decide_eq_decide.2 h.listings.akeys_perm.nodup_iff,
    decide_eq_decide.2 h.buckets.akeys_perm.nodup_iff,
    decide_eq_decide.2 (cmp_listingIds_perm h).nodup_iff,
    decide_eq_decide.2 (cmp_bucketIds_perm h).nodup_iff,
    (cmp_listingIds_perm h).all_eq, (cmp_bucketIds_perm h).all_eq]

theorem cmp_wfBal_congr {a b : GBal} (h : GBalEquiv a b) : wfBal a = wfBal b ∧ wfAsk a = wfAsk b := by
  unfold wfBal wfAsk checkValid GBal.count allNonzero
  rw [h.1.all_eq, h.2.1.all_eq, h.1.length_eq, h.2.1.length_eq, h.2.2.length_eq,
    decide_eq_decide.2 (keys_perm h.1).nodup_iff, decide_eq_decide.2 (keys_perm h.2.1).nodup_iff,
    decide_eq_decide.2 h.2.2.nodup_iff]
  exact ⟨rfl, rfl⟩

theorem cmp_wfListing_congr (j u : Nat) (k : Nat × Nat) {a b : Listing} (h : ListingEquiv a b) :
    wfListing j u k a = wfListing j u k b := by
  -- `wfListing` reads every clause but the whitelist (`h7`): goods through `wfBal`, ask through `wfAsk`
  obtain ⟨h1, h2, h3, h4, h5, h6, h7, h8, h9, h10⟩ := h
  unfold wfListing
  rw [h1, h2, h3, h4, h5, h6, h10, (cmp_wfBal_congr h8).1, (cmp_wfBal_congr h9).2]

theorem cmp_wfBucket_congr (j u : Nat) (k : Nat × Nat) {a b : Bucket} (h : BucketEquiv a b) :
    wfBucket j u k a = wfBucket j u k b := by
  obtain ⟨h1, h2, h3⟩ := h
  unfold wfBucket
  rw [h1, h3, (cmp_wfBal_congr h2).1]

/-- `checkWF` (oracle `o12`) is a function of the equivalence class and the two fee
    denominations (static fields, not part of `WorldEquiv`) -/
theorem cmp_checkWF_congr {a b : World} (h : WorldEquiv a b) (hj : a.junoD = b.junoD)
    (hu : a.usdcD = b.usdcD) : checkWF a = checkWF b := by
  unfold checkWF
  rw [hj, hu,
    h.listings.all_eq (g := fun p => wfListing b.junoD b.usdcD p.1 p.2)
      (fun p q hpq => by rw [hpq.1]; exact cmp_wfListing_congr _ _ _ hpq.2),
    h.buckets.all_eq (g := fun p => wfBucket b.junoD b.usdcD p.1 p.2)
      (fun p q hpq => by rw [hpq.1]; exact cmp_wfBucket_congr _ _ _ hpq.2)]

/-- `checkC01` (oracle `o01`, the accounting invariant) is a function of the equivalence class —
    under the side conditions of "a01": distinct contract addresses, distinct NFT-ledger keys on
    both sides, the same marketplace address.  (The universes over which `checkC01`
    quantifies may differ — a zero entry in a ledger adds a denomination — but outside of them
    both sides of `held = owed` are 0: `c01_native_iff`, `c01_cw20_iff`.) -/
theorem cmp_checkC01_congr {a b : World} (hc : (akeys a.contracts).Nodup)
    (hna : (akeys a.nft).Nodup) (hnb : (akeys b.nft).Nodup) (hself : a.self = b.self)
    (h : WorldEquiv a b) : checkC01 a = checkC01 b := by
  have hrec := cmp_honestRecorded_perm hc h
  have hheld := heldNfts_perm hna hnb hself h.nft
  have h1 : (nativeUniverse a).all (fun d => decide (lget a.bank (a.self, d) = owedNative a.mkt d)) =
      (nativeUniverse b).all (fun d => decide (lget b.bank (b.self, d) = owedNative b.mkt d)) := by
    rw [Bool.eq_iff_iff, c01_native_iff, c01_native_iff]
    simp only [hself, h.bank, cmp_owedNative_congr h]
  have h2 : (cw20Universe a).all (fun t => decide (lget a.cw20 (t, a.self) = owedCw20 a.mkt t)) =
      (cw20Universe b).all (fun t => decide (lget b.cw20 (t, b.self) = owedCw20 b.mkt t)) := by
    rw [Bool.eq_iff_iff, c01_cw20_iff, c01_cw20_iff]
    simp only [hself, h.cw20, cmp_owedCw20_congr h, World.isHonest20, cmp_kindOf_congr hc h]
  unfold checkC01
  -- the NFT part reads the two lists through `Nodup`, `all` and `∈` only
  simp only [h1, h2, decide_eq_decide.2 hrec.nodup_iff, hrec.all_eq, hheld.all_eq, hrec.mem_iff,
    hheld.mem_iff]

/-- non-vacuity of the congruence lemmas: the example pair is equivalent, has the same fee
    denominations, distinct keys and the same marketplace address; the three oracles accept the
    example world (so the equal values are `true`, not a trivial `false`) -/
example : WorldEquiv wA wB ∧ wA.junoD = wB.junoD ∧ wA.usdcD = wB.usdcD ∧ CmpKeysOk wA ∧ CmpKeysOk wB ∧
    wA.self = wB.self :=
  ⟨CmpEx.equiv, rfl, rfl, CmpEx.keysA, CmpEx.keysB, rfl⟩
theorem CmpEx.oracles : checkIds wA.mkt = true ∧ checkWF wA = true ∧ checkC01 wA = true := by
  decide +kernel
example : checkIds wA.mkt = true ∧ checkWF wA = true ∧ checkC01 wA = true := CmpEx.oracles
example : checkIds wB.mkt = true := (cmp_checkIds_congr CmpEx.equiv).symm.trans CmpEx.oracles.1
example : checkWF wB = true := (cmp_checkWF_congr CmpEx.equiv rfl rfl).symm.trans CmpEx.oracles.2.1
example : checkC01 wB = true :=
  (cmp_checkC01_congr CmpEx.keysA.contracts CmpEx.keysA.nft CmpEx.keysB.nft rfl CmpEx.equiv).symm.trans
    CmpEx.oracles.2.2

#print axioms cmp_canonGBal_iff
#print axioms cmp_canonListing_iff
#print axioms cmp_canonBucket_iff
#print axioms GBalEquiv.refl
#print axioms GBalEquiv.symm
#print axioms GBalEquiv.trans
#print axioms ListingEquiv.refl
#print axioms BucketEquiv.refl
#print axioms cmp_upToOrder_refl
#print axioms WorldEquiv.refl
#print axioms ListingEquiv.symm
#print axioms ListingEquiv.trans
#print axioms BucketEquiv.symm
#print axioms BucketEquiv.trans
#print axioms WorldEquiv.symm
#print axioms WorldEquiv.trans
#print axioms cmp_complete_L
#print axioms cmp_complete_B
#print axioms compDiffs_complete
#print axioms compDiffs_complete_msgs
#print axioms cmp_outMsgCode_eq_iff
#print axioms cmp_implMsgCode_eq_iff
#print axioms compDiffs_complete_matched
#print axioms cmp_codes_perm_of_matched
#print axioms CmpEx.nil
#print axioms CmpEx.equiv
#print axioms CmpEx.msgs
#print axioms cmp_nft_owner0_detected
#print axioms cmp_exact_L
#print axioms cmp_exact_B
#print axioms cmp_exact_F
#print axioms cmp_exact_G
#print axioms cmp_exact_C
#print axioms cmp_eraseFeeL_equiv
#print axioms cmp_exact_a08
#print axioms cmp_listingIds_perm
#print axioms cmp_bucketIds_perm
#print axioms cmp_exact_a09
#print axioms cmp_exact_a03
#print axioms cmp_owedNative_congr
#print axioms cmp_owedCw20_congr
#print axioms cmp_recordedNfts_perm
#print axioms cmp_kindOf_congr
#print axioms cmp_exact_a01
#print axioms cmp_keysOk_transfer
#print axioms compDiffs_exact_upto_a01
#print axioms compDiffs_exact
#print axioms compDiffs_nil_iff
#print axioms cmp_counter_dupKeys
#print axioms CmpEx.equivZ
#print axioms cmp_run_static
#print axioms cmp_stepF_contracts_nodup
#print axioms cmp_keysOk_stepF
#print axioms cmp_keysOk_run
#print axioms cmp_checkIds_congr
#print axioms cmp_wfBal_congr
#print axioms cmp_wfListing_congr
#print axioms cmp_wfBucket_congr
#print axioms cmp_checkWF_congr
#print axioms cmp_checkC01_congr
#print axioms ListingEquiv.creator
#print axioms ListingEquiv.id
#print axioms ListingEquiv.status
#print axioms ListingEquiv.claimant
#print axioms ListingEquiv.forSale
#print axioms ListingEquiv.fee
#print axioms BucketEquiv.funds
#print axioms BucketEquiv.fee
#print axioms CmpEx.checks
#print axioms cmp_wsum_congr
#print axioms cmp_honestRecorded_perm
#print axioms CmpEx.keysA
#print axioms CmpEx.keysB
#print axioms cmp_keysOk_run_of_ids
#print axioms CmpEx.oracles

end Fuzion
