/-
  Fuzion.Props.C04 — "Only a record's owner can change it or release its assets".

  Property text:  No message sent by an account, including the contract's deployer, can alter,
  re-price, finalize, delete, top up or release assets from a listing or bucket that the account
  does not currently own; such messages fail and leave all state and balances untouched.  The
  only effect a non-owner can have is a valid purchase, which exchanges the listing for the
  buyer's own bucket on the published terms.  No action ever decreases another account's wallet.

  "including the contract's deployer": the marketplace has no privileged account at all — no
  handler looks at anything but `info.sender` versus the record's owner — so every theorem simply
  quantifies over *all* senders.

  `actor msg s` (Lemmas/FrameLemmas) is the wallet on whose behalf a message acts: the sender
  `s` of a direct message, the wallet a token contract names inside its receive hook.  An honest
  CW20 / CW721 contract names the account that called `Send` / `SendNft` (`Op.send20`,
  `Op.send721`); a forged hook call (`exec` of `.receive` / `.receiveNft` by a contract that
  answers `TokenInfo` / exists) can name anybody, which is why deposits *into* somebody else's
  preparing listing or bucket by such a contract are possible (known finding C18) — they add, and
  never release or re-price.  The theorems below are exact about this: owner-only means
  "`actor msg s` is the owner".

  Hypothesis `IdsInv m`: storage keys unique, records filed under `(owner, id)`, one live listing
  / bucket per id (inductive invariant, Props/C09).
-/
import Fuzion.Lemmas.FrameLemmas
import Fuzion.Lemmas.Ledgers
namespace Fuzion

/-! ## owner-only messages of a non-owner are refused -/

/-- "No message sent by an account … can alter, re-price, finalize, delete, top up … a listing
    … that the account does not currently own": the five owner-only listing handlers, called on
    behalf of anybody but the creator of the listing stored under `id`, are refused (the key
    lookup `(s, id)` misses). -/
theorem C04_refused_listing {m : Market} {env : Env} {s id : Nat} {k : Nat × Nat} {l : Listing}
    (hI : IdsInv m) (hf : findById id m.listings = some (k, l)) (hs : s ≠ l.creator) :
    (∀ r, changeAsk m s id r = .error .notFound) ∧
    (∀ secs, finalize m env s id secs = .error .notFound) ∧
    deleteListing m env s id = .error .notFound ∧
    (∀ funds, addToListing m funds s id = .error .badFunds ∨
              addToListing m funds s id = .error .notFound) ∧
    (∀ nft, addToListingNft m s nft id = .error .notFound) := by
  have hn := hI.alookup_other_none hf hs
  -- which error a refusal carries is not in `Lemmas/Handlers` (it inverts acceptance): each handler
  -- is unfolded as far as its first lookup; the coin top-up runs `normalized_check` before it,
  -- hence its two possible errors
  refine ⟨fun r => ?_, fun secs => ?_, ?_, fun funds => ?_, fun nft => ?_⟩
  · simp only [changeAsk, hn]
  · simp only [finalize, hn]
  · simp only [deleteListing, hn]
  · simp only [addToListing, hn]
    split
    · exact .inl rfl
    · exact .inr rfl
  · simp only [addToListingNft, hn]

/-- "… or release assets from a listing": the proceeds of a sold listing are released to its
    claimant only. -/
theorem C04_refused_withdraw {m : Market} {env : Env} {s id : Nat} {k : Nat × Nat} {l : Listing}
    (hf : findById id m.listings = some (k, l)) (hs : l.claimant ≠ some s) :
    withdrawPurchased m env s id = .error .notClaimant := by
  unfold withdrawPurchased
  simp only [hf]
  split
  · rfl
  · next c hc => exact if_pos fun (e : s = c) => hs (e ▸ hc)

/-- … and on a well-formed record (C12) the claimant of a listing is its current owner, so a
    non-owner's withdrawal is refused. -/
theorem C04_refused_withdraw_wf {m : Market} {env : Env} {s id j u : Nat} {k : Nat × Nat}
    {l : Listing} (hwf : wfListing j u k l = true)
    (hf : findById id m.listings = some (k, l)) (hs : s ≠ l.creator) :
    withdrawPurchased m env s id = .error .notClaimant :=
  C04_refused_withdraw hf fun hc => hs (wfListing_claimant hwf hc).2

/-- "… top up or release assets from a … bucket that the account does not currently own": the
    bucket handlers, called on behalf of anybody but the owner of bucket `id`, are refused, and
    nobody can pay for a purchase with somebody else's bucket. -/
theorem C04_refused_bucket {m : Market} {env : Env} {s id : Nat} {k : Nat × Nat} {b : Bucket}
    (hI : IdsInv m) (hb : (k, b) ∈ m.buckets) (hk : k.2 = id) (hs : s ≠ k.1) :
    (∀ funds, addToBucket m funds s id = .error .badFunds ∨
              addToBucket m funds s id = .error .notFound) ∧
    (∀ nft, addToBucketNft m s nft id = .error .notFound) ∧
    withdrawBucket m env s id = .error .notFound ∧
    (∀ lid, buy m env s lid id = .error .noBucket) := by
  have hn := hk ▸ hI.bucket_other_none hb hs
  refine ⟨fun funds => ?_, fun nft => ?_, ?_, fun lid => ?_⟩
  · simp only [addToBucket, hn]
    split
    · exact .inl rfl
    · exact .inr rfl
  · simp only [addToBucketNft, hn]
  · simp only [withdrawBucket, hn]
  · simp only [buy, hn]

/-- The listing an owner-only message is aimed at (direct messages and the two receive hooks).
    `buy lid _` is not one: the purchase is the effect a non-owner may have (`C04_frame_listings`).
    Nor is `withdrawPurchased`, which is open to the claimant, not the owner of the key
    (`C04_refused_withdraw`). -/
def ExecMsg.listingTarget : ExecMsg → Option Nat
  | .addToListing id => some id
  | .changeAsk id _ => some id
  | .finalize id _ => some id
  | .deleteListing id => some id
  | .receive _ _ (some (.addToListing id)) => some id
  | .receiveNft _ _ (some (.addToListing id)) => some id
  | _ => none

/-- the bucket an owner-only message is aimed at (`buy` pays with bucket `bid`) -/
def ExecMsg.bucketTarget : ExecMsg → Option Nat
  | .addToBucket id => some id
  | .removeBucket id => some id
  | .buy _ bid => some bid
  | .receive _ _ (some (.addToBucket id)) => some id
  | .receiveNft _ _ (some (.addToBucket id)) => some id
  | _ => none

theorem ExecMsg.unwrap_targets {msg msg' : ExecMsg} {s u : Nat} {f : List Coin} {a : Asset}
    (h : msg.unwrap s f = some (u, a, msg')) :
    msg.listingTarget = msg'.listingTarget ∧ msg.bucketTarget = msg'.bucketTarget := by
  rcases ExecMsg.unwrap_cases h with ⟨_, im, rfl, _, rfl⟩ | ⟨_, im, rfl, _, rfl⟩ | ⟨rfl, _⟩
  · cases im <;> exact ⟨rfl, rfl⟩
  · cases im <;> exact ⟨rfl, rfl⟩
  · exact ⟨rfl, rfl⟩

/-- `C04_refused_listing` through the entry point: whatever the sender, the attached coins and
    the message kind — direct, or wrapped in a CW20 / CW721 receive hook that names the wallet
    `actor msg s` — an owner-only message aimed at listing `id` on behalf of a non-owner fails. -/
theorem C04_execute_refused_listing {m : Market} {env : Env} {s id : Nat} {f : List Coin}
    {msg : ExecMsg} {k : Nat × Nat} {l : Listing} (hI : IdsInv m)
    (hf : findById id m.listings = some (k, l)) (ht : msg.listingTarget = some id)
    (hs : actor msg s ≠ l.creator) : ∃ e, execute m env s f msg = .error e := by
  refine error_of_not_ok fun ⟨m', out⟩ hx => ?_
  obtain ⟨_, u, a, msg', hu, e⟩ := execute_effect hx
  rw [ExecMsg.unwrap_actor hu] at hs
  rw [(ExecMsg.unwrap_targets hu).1] at ht
  have hn := hI.alookup_other_none hf hs
  induction e with
  | addToListing _ hl | changeAsk hl | finalize hl | deleteListing hl =>
    cases ht; rw [hn] at hl; cases hl
  | _ => cases ht

/-- `C04_refused_bucket` through the entry point (top up, remove, pay with it; direct or through
    a receive hook). -/
theorem C04_execute_refused_bucket {m : Market} {env : Env} {s id : Nat} {f : List Coin}
    {msg : ExecMsg} {k : Nat × Nat} {b : Bucket} (hI : IdsInv m)
    (hb : (k, b) ∈ m.buckets) (hk : k.2 = id) (ht : msg.bucketTarget = some id)
    (hs : actor msg s ≠ k.1) : ∃ e, execute m env s f msg = .error e := by
  refine error_of_not_ok fun ⟨m', out⟩ hx => ?_
  obtain ⟨_, u, a, msg', hu, e⟩ := execute_effect hx
  rw [ExecMsg.unwrap_actor hu] at hs
  rw [(ExecMsg.unwrap_targets hu).2] at ht
  have hn := hk ▸ hI.bucket_other_none hb hs
  induction e with
  | addToBucket _ hb' | removeBucket hb' | buy hb' => cases ht; rw [hn] at hb'; cases hb'
  | _ => cases ht

/-! ## frame: what an accepted message can do to other accounts' records -/

/-- "The only effect a non-owner can have is a valid purchase …": after any accepted message,
    every listing key that does not belong to the wallet the message acts for holds exactly what
    it held before — except that a purchase removes the bought (finalized) listing from its
    seller's key `(seller, lid)`; it reappears, closed and claimed, under the buyer's key
    `(s, lid)`. -/
theorem C04_frame_listings {m m' : Market} {env : Env} {s : Nat} {f : List Coin} {msg : ExecMsg}
    {out : List OutMsg} (hI : IdsInv m) (hx : execute m env s f msg = .ok (m', out))
    (k : Nat × Nat) (hk : k.1 ≠ actor msg s) :
    alookup k m'.listings = alookup k m.listings ∨
    ∃ lid bid l l', msg = .buy lid bid ∧ k = (l.creator, lid) ∧ alookup k m.listings = some l ∧
      l.status = .finalized ∧ l.claimant = none ∧ alookup k m'.listings = none ∧
      alookup (s, lid) m'.listings = some l' ∧ l'.status = .closed ∧ l'.claimant = some s ∧
      l'.ask = l.ask := by
  obtain ⟨_, u, a, msg', hu, e⟩ := execute_effect hx
  rw [ExecMsg.unwrap_actor hu] at hk
  have hne : ∀ id, k ≠ (u, id) := fun id e => hk (congrArg Prod.fst e)
  induction e with
  | createBucket | addToBucket | removeBucket | feeCycle => exact .inl rfl
  | createListing | addToListing | changeAsk | finalize => exact .inl (alookup_ainsert_ne (hne _) _ _)
  | deleteListing | withdrawPurchased => exact .inl (alookup_aerase_ne (hne _) _)
  | @buy lid bid kl l b lfee bfee lbal bbal fb fl ra s1 s2 msgs1 msgs2 hb hl ho hcmp hst hwl hcl =>
    obtain ⟨rfl, rfl⟩ := ExecMsg.unwrap_direct hu rfl
    dsimp only
    rw [alookup_ainsert_ne (hne lid)]
    by_cases hkl : k = (l.creator, lid)
    · obtain ⟨rfl, _, hlook⟩ := hI.findById_key hl
      exact .inr ⟨lid, bid, l, _, rfl, hkl, hkl ▸ hlook, hst, hcl, hkl ▸ alookup_aerase_self _ _,
        alookup_ainsert_self _ _ _, rfl, rfl, rfl⟩
    · exact .inl (alookup_aerase_ne hkl _)

/-- "… which exchanges the listing for the buyer's own bucket": after any accepted message,
    every bucket key that does not belong to the wallet the message acts for holds exactly what
    it held before — except that a purchase files the buyer's paying bucket `bid` under the
    seller's key `(seller, bid)`, which was free before. -/
theorem C04_frame_buckets {m m' : Market} {env : Env} {s : Nat} {f : List Coin} {msg : ExecMsg}
    {out : List OutMsg} (hI : IdsInv m) (hx : execute m env s f msg = .ok (m', out))
    (k : Nat × Nat) (hk : k.1 ≠ actor msg s) :
    alookup k m'.buckets = alookup k m.buckets ∨
    ∃ lid bid kl l b', msg = .buy lid bid ∧ findById lid m.listings = some (kl, l) ∧
      k = (l.creator, bid) ∧ alookup k m.buckets = none ∧ alookup k m'.buckets = some b' ∧
      b'.owner = l.creator ∧ alookup (s, bid) m'.buckets = none := by
  obtain ⟨_, u, a, msg', hu, e⟩ := execute_effect hx
  rw [ExecMsg.unwrap_actor hu] at hk
  have hne : ∀ id, k ≠ (u, id) := fun id e => hk (congrArg Prod.fst e)
  induction e with
  | createListing | addToListing | changeAsk | finalize | deleteListing | withdrawPurchased | feeCycle =>
    exact .inl rfl
  | createBucket | addToBucket => exact .inl (alookup_ainsert_ne (hne _) _ _)
  | removeBucket => exact .inl (alookup_aerase_ne (hne _) _)
  | @buy lid bid kl l b lfee bfee lbal bbal fb fl ra s1 s2 msgs1 msgs2 hb hl =>
    obtain ⟨rfl, rfl⟩ := ExecMsg.unwrap_direct hu rfl
    dsimp only
    by_cases hkl : k = (l.creator, bid)
    · refine .inr ⟨lid, bid, kl, l, ⟨l.creator, fb, bfee⟩, rfl, hl, hkl, ?_, ?_, rfl, ?_⟩
      · exact hkl ▸ hI.bucket_other_none (alookup_some_mem hb)
          fun e => hne bid (hkl.trans (by rw [e]))
      · rw [hkl]; exact alookup_ainsert_self _ _ _
      · rw [alookup_ainsert_ne (hkl ▸ (hne bid).symm)]; exact alookup_aerase_self _ _
    · rw [alookup_ainsert_ne hkl]; exact .inl (alookup_aerase_ne (hne bid) _)

/-- "No action ever decreases another account's wallet": one transaction of any kind — a
    marketplace message, a CW20 `Send`, a CW721 `SendNft`, a registry message, an admin change,
    the passage of time; successful or not — can take coins, CW20 units or NFTs only from the
    account that sent it (`op.payer`: for `send20` / `send721` the token holder who called
    `Send` / `SendNft`) and from the marketplace contract itself (whose holdings back the
    records: C01).  Every other account `y` keeps at least what it had. -/
theorem C04_wallets (w : World) (op : Op) {y : Nat} (hy : op.payer ≠ some y) (hs : y ≠ w.self) :
    (∀ d, lget (step w op).1.bank (y, d) ≥ lget w.bank (y, d)) ∧
    (∀ t, lget (step w op).1.cw20 (t, y) ≥ lget w.cw20 (t, y)) ∧
    (∀ k, alookup k w.nft = some y → alookup k (step w op).1.nft = some y) := by
  have h := stepF_noDebit noFault w op hy hs
  exact ⟨h.bank, h.cw20, h.nft⟩

/-- the same along any history in which `y` sends nothing -/
theorem C04_wallets_run (w : World) (ops : List Op) {y : Nat}
    (hy : ∀ op ∈ ops, op.payer ≠ some y) (hs : y ≠ w.self) :
    (∀ d, lget (run w ops).bank (y, d) ≥ lget w.bank (y, d)) ∧
    (∀ t, lget (run w ops).cw20 (t, y) ≥ lget w.cw20 (t, y)) ∧
    (∀ k, alookup k w.nft = some y → alookup k (run w ops).nft = some y) := by
  have h : NoDebit y w (run w ops) := run_induct_static (P := NoDebit y w)
    (fun w' op hst hq h => h.trans (stepF_noDebit noFault w' op hq (hst.self ▸ hs))) ops hy
    (NoDebit.refl _ _)
  exact ⟨h.bank, h.cw20, h.nft⟩

/-! ## refused = nothing happened -/

/-- "such messages fail and leave all state and balances untouched": a failed transaction
    returns the original world. -/
theorem C04_refused_noop (w : World) (op : Op) (h : (step w op).2.ok = false) :
    (step w op).1 = w :=
  stepF_failed_noop noFault w op h

/-- the owner-only listing messages of a non-owner as transactions: they fail — direct, through
    an honest token's `Send` / `SendNft`, or forged — and the world is untouched. -/
theorem C04_step_refused_listing {w : World} {op : Op} {c id : Nat} {f : List Coin} {msg : ExecMsg}
    {k : Nat × Nat} {l : Listing} (hI : IdsInv w.mkt)
    (hf : findById id w.mkt.listings = some (k, l)) (ho : op.asExec = some (c, f, msg))
    (ht : msg.listingTarget = some id) (hs : actor msg c ≠ l.creator) :
    (step w op).2.ok = false ∧ (step w op).1 = w := by
  obtain ⟨e, he⟩ := C04_execute_refused_listing (env := w.env) (f := f) hI hf ht hs
  exact stepF_refused ho he

theorem C04_step_refused_bucket {w : World} {op : Op} {c id : Nat} {f : List Coin} {msg : ExecMsg}
    {k : Nat × Nat} {b : Bucket} (hI : IdsInv w.mkt)
    (hb : (k, b) ∈ w.mkt.buckets) (hk : k.2 = id) (ho : op.asExec = some (c, f, msg))
    (ht : msg.bucketTarget = some id) (hs : actor msg c ≠ k.1) :
    (step w op).2.ok = false ∧ (step w op).1 = w := by
  obtain ⟨e, he⟩ := C04_execute_refused_bucket (env := w.env) (f := f) hI hb hk ht hs
  exact stepF_refused ho he

/-! ### examples: seller 1 with listing 6 (preparing) and 7 (finalized), buyer 2 with bucket 8
(matching the ask of 7), a stranger 9 -/

private def exEnv (nowNs : Nat) : Env :=
  { self := 100, nowNs := nowNs, junoD := 1, usdcD := 2, regAddr := 102,
    isToken20 := fun a => a == 3, isContract := fun a => a == 3 || a == 4, regLookup := fun _ => none }

private def exPrep : Listing :=
  { creator := 1, id := 6, finalizedAt := none, expiresAt := none, status := .preparing,
    claimant := none, whitelist := none, forSale := ⟨[⟨1, 1000⟩], [], []⟩,
    ask := ⟨[⟨2, 2000⟩], [], []⟩, fee := none }

private def exFin : Listing :=
  { exPrep with id := 7, finalizedAt := some 0, expiresAt := some (600 * NS), status := .finalized }

private def exM : Market :=
  { listings := [((1, 6), exPrep), ((1, 7), exFin)],
    buckets := [((2, 8), ⟨2, ⟨[⟨2, 2000⟩], [], []⟩, none⟩)],
    listingUsed := [7, 6, 0], bucketUsed := [8, 0], feeKind := .juno, feeSince := 0,
    registry := some 102 }

private theorem exM_ids : IdsInv exM := by
  constructor <;> decide

private def exW : World :=
  { self := 100, pool := 101, regAddr := 102, junoD := 1, usdcD := 2, nowNs := 5, height := 1,
    mkt := exM, reg := [], bank := [((100, 1), 2000), ((100, 2), 2000), ((9, 1), 70)],
    cw20 := [((3, 9), 40)], nft := [((4, 1), 9)],
    contracts := [(3, ⟨none, 1, true, false⟩), (4, ⟨none, 2, false, false⟩)] }

example : findById 6 exM.listings = some ((1, 6), exPrep) ∧ (9 : Nat) ≠ exPrep.creator := by decide
example : ((2, 8), (⟨2, ⟨[⟨2, 2000⟩], [], []⟩, none⟩ : Bucket)) ∈ exM.buckets ∧ (9 : Nat) ≠ 2 := by
  decide
-- account 9 aims owner-only messages at seller 1's listing 6 and buyer 2's bucket 8
example : (ExecMsg.finalize 6 600).listingTarget = some 6 := rfl
example : (ExecMsg.receive (.valid 9) 5 (some (.addToListing 6))).listingTarget = some 6 := rfl
example : actor (.receive (.valid 9) 5 (some (.addToListing 6))) 3 = 9 := rfl
example : (ExecMsg.buy 7 8).bucketTarget = some 8 := rfl
example : (step exW (.exec 9 [] (.finalize 6 600))).2.ok = false := by decide
example : (step exW (.exec 9 [] (.deleteListing 6))).2.ok = false := by decide
example : (step exW (.exec 9 [⟨1, 5⟩] (.addToListing 6))).2.ok = false := by decide
example : (step exW (.send20 3 9 5 (some (.addToListing 6)))).2.ok = false := by decide
example : (step exW (.send721 4 9 1 (some (.addToBucket 8)))).2.ok = false := by decide
example : (step exW (.exec 9 [] (.buy 7 8))).2.ok = false := by decide
example : (step exW (.exec 9 [] (.removeBucket 8))).2.ok = false := by decide
-- the owners' own messages are accepted (the refusals above are not vacuous refusals)
example : (step exW (.exec 1 [] (.finalize 6 600))).2.ok = true := by decide
example : (step exW (.exec 2 [] (.removeBucket 8))).2.ok = true := by decide
-- frame: the purchase by 2 moves listing 7 from key (1, 7) to (2, 7) and bucket 8 to (1, 8)
example : ∃ r, execute exM (exEnv 5) 2 [] (.buy 7 8) = .ok r := ⟨_, rfl⟩
example : (1 : Nat) ≠ actor (.buy 7 8) 2 := by decide
example : ((step exW (.exec 2 [] (.buy 7 8))).1.mkt.listings.map (·.1),
           (step exW (.exec 2 [] (.buy 7 8))).1.mkt.buckets.map (·.1)) =
    ([(2, 7), (1, 6)], [(1, 8)]) := by decide
-- wallets: 9's holdings are untouched by 2's purchase; hypotheses of `C04_wallets`
example : (Op.exec 2 [] (.buy 7 8)).payer ≠ some 9 ∧ (9 : Nat) ≠ exW.self := by decide

-- hypotheses of `C04_refused_withdraw` / `_wf`: listing 7 is unclaimed, 9 is not its owner
example : findById 7 exM.listings = some ((1, 7), exFin) ∧ exFin.claimant ≠ some 9 ∧
    wfListing 1 2 (1, 7) exFin = true ∧ (9 : Nat) ≠ exFin.creator := by decide
example : (step exW (.exec 9 [] (.withdrawPurchased 7))).2.ok = false := by decide
-- hypothesis of `C04_wallets_run`: a history in which 9 sends nothing
example : ∀ op ∈ [Op.exec 2 [] (.buy 7 8), .exec 2 [] (.withdrawPurchased 7), .advance 5 1],
    op.payer ≠ some 9 := by decide
-- a failed transaction (hypothesis of `C04_refused_noop`)
example : (step exW (.exec 9 [] (.changeAsk 6 ⟨[⟨2, 1⟩], [], []⟩))).2.ok = false := by decide

#print axioms C04_refused_listing
#print axioms C04_refused_withdraw
#print axioms C04_refused_withdraw_wf
#print axioms C04_refused_bucket
#print axioms C04_execute_refused_listing
#print axioms C04_execute_refused_bucket
#print axioms C04_frame_listings
#print axioms C04_frame_buckets
#print axioms C04_wallets
#print axioms C04_wallets_run
#print axioms C04_refused_noop
#print axioms C04_step_refused_listing
#print axioms C04_step_refused_bucket
#print axioms ExecMsg.unwrap_targets

end Fuzion
