/-
  Fuzion.Props.C03 — "A purchase swaps entitlements atomically; a listing sells at most once".

  Property text (C03): A successful purchase simultaneously makes the buyer the only party able
  to claim the listing's goods and the seller the only party able to claim the bucket's goods;
  neither half happens without the other.  Each is claimable exactly once, and under every
  ordering of competing purchases, deletions and withdrawals a listing is sold at most once and
  losing buyers keep their buckets intact.

  The theorems are about `buy`, `withdrawPurchased`, `withdrawBucket`, `deleteListing`
  (execute.rs) and the transaction functions `step` / `run`.  Uniqueness of ids and filing is
  the invariant `IdsInv` (Inv/MInv.lean; preserved by every message: `C09_inv_execute`).
-/
import Fuzion.Lemmas.BuyLemmas
namespace Fuzion

/-- "A successful purchase simultaneously makes the buyer [the owner of] the listing's goods and
    the seller [the owner of] the bucket's goods; neither half happens without the other":
    the single state update of an accepted `buy` re-files the listing (closed, claimant = buyer)
    under the buyer's key *and* the bucket under the seller's key, removes both old entries,
    leaves every other key of both tables alone, and overwrites nothing. -/
theorem C03_swap {m m' : Market} {env : Env} {buyer lid bid : Nat} {out : List OutMsg}
    (hI : IdsInv m) (h : buy m env buyer lid bid = .ok (m', out)) :
    ∃ l b l' b',
      -- the old records
      alookup (l.creator, lid) m.listings = some l ∧ alookup (buyer, bid) m.buckets = some b ∧
      -- the new ones
      alookup (buyer, lid) m'.listings = some l' ∧ l'.creator = buyer ∧ l'.claimant = some buyer ∧
      l'.status = .closed ∧ l'.id = lid ∧
      alookup (l.creator, bid) m'.buckets = some b' ∧ b'.owner = l.creator ∧
      -- the old entries are gone
      (buyer ≠ l.creator →
        alookup (l.creator, lid) m'.listings = none ∧ alookup (buyer, bid) m'.buckets = none) ∧
      -- every other key is untouched
      (∀ k, k ≠ (buyer, lid) → k ≠ (l.creator, lid) → alookup k m'.listings = alookup k m.listings) ∧
      (∀ k, k ≠ (buyer, bid) → k ≠ (l.creator, bid) → alookup k m'.buckets = alookup k m.buckets) ∧
      -- nothing was stored under the two new keys before
      (buyer ≠ l.creator →
        alookup (buyer, lid) m.listings = none ∧ alookup (l.creator, bid) m.buckets = none) := by
  obtain ⟨l, b, lfee, bfee, fl, fb, hf, hal, hid, hb, rfl⟩ := buy_swap hI h
  refine ⟨l, b, _, _, hal, hb, alookup_ainsert_self _ _ _, rfl, rfl, rfl, hid,
    alookup_ainsert_self _ _ _, rfl, fun hne => ?_, fun k k1 k2 => ?_, fun k k1 k2 => ?_,
    fun hne => ⟨?_, ?_⟩⟩
  · have n1 : (l.creator, lid) ≠ (buyer, lid) := fun e => hne (Prod.mk.inj e).1.symm
    have n2 : (buyer, bid) ≠ (l.creator, bid) := fun e => hne (Prod.mk.inj e).1
    exact ⟨(alookup_ainsert_ne n1 _ _).trans (alookup_aerase_self _ _),
      (alookup_ainsert_ne n2 _ _).trans (alookup_aerase_self _ _)⟩
  · exact (alookup_ainsert_ne k1 _ _).trans (alookup_aerase_ne k2 _)
  · exact (alookup_ainsert_ne k2 _ _).trans (alookup_aerase_ne k1 _)
  · exact hI.alookup_other_none hf hne
  · exact hI.bucket_other_none (alookup_some_mem hb) (Ne.symm hne)

/-- buyer 20 buys listing 1 of seller 10 with bucket 2 -/
example : IdsInv BuyEx.mkt ∧ buy BuyEx.mkt BuyEx.env 20 1 2 = .ok BuyEx.bought :=
  ⟨BuyEx.ids, BuyEx.buy_eq⟩

/-- … and what `C03_swap` says there, computed: the listing is now under (20, 1), closed, claimant
    20; the bucket is under (10, 2), owned by 10; the old keys are empty; the competitor's
    bucket (30, 3) is unchanged -/
example :
    (alookup (20, 1) BuyEx.bought.1.listings).map (fun l => (l.creator, l.claimant, l.status)) =
      some (20, some 20, .closed) ∧
    (alookup (10, 2) BuyEx.bought.1.buckets).map (·.owner) = some 10 ∧
    alookup (10, 1) BuyEx.bought.1.listings = none ∧ alookup (20, 2) BuyEx.bought.1.buckets = none ∧
    alookup (30, 3) BuyEx.bought.1.buckets = alookup (30, 3) BuyEx.mkt.buckets := by decide

/-! ### who can claim, in any state -/

/-- "the buyer the only party able to claim the listing's goods": for a closed listing with
    claimant `c`, `WithdrawPurchased` is accepted for `c` and refused for everybody else.
    (`IdsInv` is not needed for this half.) -/
theorem C03_claim_only_buyer {m : Market} {env : Env} {who lid : Nat} {k : Nat × Nat} {l : Listing}
    {c : Nat} (hl : findById lid m.listings = some (k, l)) (hs : l.status = .closed)
    (hc : l.claimant = some c) : (∃ r, withdrawPurchased m env who lid = .ok r) ↔ who = c := by
  constructor
  · rintro ⟨⟨m', out⟩, h⟩
    obtain ⟨k', l', hl', hc', _⟩ := withdrawPurchased_ok_iff.1 h
    rw [hl] at hl'; cases hl'
    rw [hc] at hc'; cases hc'; rfl
  · rintro rfl
    exact ⟨_, withdrawPurchased_ok_iff.2 ⟨k, l, hl, hc, hs, rfl, rfl⟩⟩

example : ∃ l, findById 1 BuyEx.bought.1.listings = some ((20, 1), l) ∧ l.status = .closed ∧
    l.claimant = some 20 := ⟨_, rfl, rfl, rfl⟩

/-- … the seller cannot take the goods back: once a listing has a claimant, `DeleteListing` is
    refused for every sender. -/
theorem C03_no_delete_after_sale {m : Market} (hI : IdsInv m) {lid : Nat} {k : Nat × Nat}
    {l : Listing} {c : Nat} (hl : findById lid m.listings = some (k, l)) (hc : l.claimant = some c)
    (env : Env) (who : Nat) : ∃ e, deleteListing m env who lid = .error e := by
  refine error_of_not_ok fun ⟨m', out⟩ hd => ?_
  obtain ⟨l2, h2, _, hcl, _⟩ := deleteListing_ok_iff.1 hd
  rw [(hI.findById_of_alookup h2).1] at hl
  cases hl
  rw [hc] at hcl; cases hcl

example : IdsInv BuyEx.bought.1 ∧ ∃ l, findById 1 BuyEx.bought.1.listings = some ((20, 1), l) ∧
    l.claimant = some 20 := ⟨BuyEx.ids_bought, _, rfl, rfl⟩

/-- … and a closed listing cannot be bought again, by any buyer with any bucket, at any time. -/
theorem C03_no_rebuy {m : Market} {lid : Nat} {k : Nat × Nat} {l : Listing}
    (hl : findById lid m.listings = some (k, l)) (hs : l.status = .closed)
    (env : Env) (buyer bid : Nat) : ∃ e, buy m env buyer lid bid = .error e :=
  buy_refused fun h => nomatch hs.symm.trans (h.listing hl).1

/-- the competitor's matching bucket 3 is refused after the sale -/
example : (∃ l, findById 1 BuyEx.bought.1.listings = some ((20, 1), l) ∧ l.status = .closed) ∧
    buy BuyEx.bought.1 BuyEx.env 30 1 3 = .error .notPurchasable := ⟨⟨_, rfl, rfl⟩, rfl⟩

/-- "the seller the only party able to claim the bucket's goods": a bucket filed under
    `(seller, bid)` can be withdrawn by the seller and by nobody else, and nobody else can pay
    with it (bucket ids are unique, so no other key carries `bid`). -/
theorem C03_claim_only_seller {m : Market} (hI : IdsInv m) {seller bid : Nat} {b : Bucket}
    (hb : alookup (seller, bid) m.buckets = some b) (env : Env) (who : Nat) :
    ((∃ r, withdrawBucket m env who bid = .ok r) ↔ who = seller) ∧
    (∀ lid, (∃ r, buy m env who lid bid = .ok r) → who = seller) := by
  constructor
  · rw [withdrawBucket_accepts_iff]
    constructor
    · rintro ⟨x, hx, _⟩
      exact hI.bucket_owner hx hb
    · rintro rfl
      exact ⟨b, hb, (hI.bfiled _ (alookup_some_mem hb)).symm⟩
  · rintro lid ⟨r, h⟩
    obtain ⟨_, _, x, _, hx, _⟩ := BuyTerms.of_ok h
    exact hI.bucket_owner hx hb

/-- the re-filed bucket (10, 2) after the sale -/
example : IdsInv BuyEx.bought.1 ∧ (alookup (10, 2) BuyEx.bought.1.buckets).isSome = true :=
  ⟨BuyEx.ids_bought, by decide⟩

/-- "makes the buyer the **only** party able to claim the listing's goods and the seller the
    **only** party able to claim the bucket's goods", directly on the state after the purchase:
    in `m'`, whatever the time and whoever asks, `WithdrawPurchased lid` is accepted exactly for
    the buyer and `RemoveBucket bid` exactly for the seller. -/
theorem C03_swap_claims {m m' : Market} {env : Env} {buyer lid bid : Nat} {out : List OutMsg}
    (hI : IdsInv m) (h : buy m env buyer lid bid = .ok (m', out)) :
    ∃ seller l, alookup (seller, lid) m.listings = some l ∧ l.creator = seller ∧
      ∀ (env' : Env) (who : Nat),
        ((∃ r, withdrawPurchased m' env' who lid = .ok r) ↔ who = buyer) ∧
        ((∃ r, withdrawBucket m' env' who bid = .ok r) ↔ who = seller) := by
  obtain ⟨l, b, lfee, bfee, fl, fb, _, hal, hid, hb, rfl⟩ := buy_swap hI h
  refine ⟨l.creator, l, hal, rfl, fun env' who => ⟨?_, ?_⟩⟩
  · exact C03_claim_only_buyer ((findById_ainsert ..).trans (if_pos hid)) rfl rfl
  · rw [withdrawBucket_accepts_iff]
    constructor
    · rintro ⟨x, hx, _⟩
      rw [alookup_ainsert, hI.bucket_erased hb] at hx
      split at hx
      · next e => exact (Prod.mk.inj e).1
      · cases hx
    · rintro rfl
      exact ⟨_, alookup_ainsert_self _ _ _, rfl⟩

/-- after the sale the buyer's claim is accepted, the seller's and a stranger's are not; the
    seller can take the bucket, the buyer no longer can -/
example : IdsInv BuyEx.mkt ∧ buy BuyEx.mkt BuyEx.env 20 1 2 = .ok BuyEx.bought ∧
    (∃ r, withdrawPurchased BuyEx.bought.1 BuyEx.env 20 1 = .ok r) ∧
    withdrawPurchased BuyEx.bought.1 BuyEx.env 10 1 = .error .notClaimant ∧
    withdrawPurchased BuyEx.bought.1 BuyEx.env 30 1 = .error .notClaimant ∧
    (∃ r, withdrawBucket BuyEx.bought.1 BuyEx.env 10 2 = .ok r) ∧
    withdrawBucket BuyEx.bought.1 BuyEx.env 20 2 = .error .notFound :=
  ⟨BuyEx.ids, BuyEx.buy_eq, ⟨_, rfl⟩, rfl, rfl, ⟨_, rfl⟩, rfl⟩

/-- the purchased goods are claimable exactly once: an accepted `WithdrawPurchased` removes the
    listing, after which every further claim and every purchase of that id is refused — for
    every sender and at every later time.  (`WFInv`, C12, supplies "a closed record is filed
    under its claimant"; right after a purchase this is `C03_swap`.) -/
theorem C03_claim_once_listing {m m' : Market} {j u : Nat} (hI : IdsInv m) (hW : WFInv j u m)
    {env : Env} {who lid : Nat} {out : List OutMsg}
    (h : withdrawPurchased m env who lid = .ok (m', out)) :
    findById lid m'.listings = none ∧
    (∀ env' who', ∃ e, withdrawPurchased m' env' who' lid = .error e) ∧
    (∀ env' buyer bid, ∃ e, buy m' env' buyer lid bid = .error e) := by
  obtain ⟨k, l, hl, hc, _, rfl, _⟩ := withdrawPurchased_ok_iff.1 h
  obtain ⟨rfl, _, _⟩ := hI.findById_key hl
  obtain rfl := (wfListing_claimant (hW.lwf (_, l) (findById_some hl).2) hc).2
  have hnone := (hI.lids.findById_aerase hl _).trans (if_pos rfl)
  refine ⟨hnone, fun env' who' => error_of_not_ok fun ⟨m', out⟩ hw => ?_,
    fun env' buyer bid => buy_refused fun hT => ?_⟩
  · obtain ⟨_, _, hl', _⟩ := withdrawPurchased_ok_iff.1 hw
    exact nomatch hnone.symm.trans hl'
  · obtain ⟨_, _, _, hl', _⟩ := hT
    exact nomatch hnone.symm.trans hl'

/-- after the sale the invariants hold and buyer 20's claim is accepted -/
example : IdsInv BuyEx.bought.1 ∧ WFInv 100 101 BuyEx.bought.1 ∧
    ∃ r, withdrawPurchased BuyEx.bought.1 BuyEx.env 20 1 = .ok r :=
  ⟨BuyEx.ids_bought, by constructor <;> decide, _, rfl⟩

/-- the bucket's goods are claimable exactly once: an accepted `RemoveBucket` removes the bucket,
    after which nobody can withdraw it again or pay with it. -/
theorem C03_claim_once_bucket {m m' : Market} (hI : IdsInv m) {env : Env} {who bid : Nat}
    {out : List OutMsg} (h : withdrawBucket m env who bid = .ok (m', out)) :
    (∀ env' who', ∃ e, withdrawBucket m' env' who' bid = .error e) ∧
    (∀ env' who' lid, ∃ e, buy m' env' who' lid bid = .error e) := by
  obtain ⟨b, hb, _, rfl, _⟩ := withdrawBucket_ok_iff.1 h
  have hnone := hI.bucket_erased hb
  refine ⟨fun env' who' => error_of_not_ok fun ⟨m', out⟩ hw => ?_,
    fun env' who' lid => buy_refused fun hT => ?_⟩
  · obtain ⟨_, hx, _⟩ := withdrawBucket_ok_iff.1 hw
    exact nomatch (hnone who').symm.trans hx
  · obtain ⟨_, _, _, _, hx, _⟩ := hT
    exact nomatch (hnone who').symm.trans hx

/-- the seller takes the proceeds after the sale -/
example : IdsInv BuyEx.bought.1 ∧ ∃ r, withdrawBucket BuyEx.bought.1 BuyEx.env 10 2 = .ok r :=
  ⟨BuyEx.ids_bought, _, rfl⟩

/-- (a) an accepted purchase puts the listing into the absorbing state `SoldOut` (its id is
    logged and every live record carrying it is closed) … -/
theorem C03_sold_after_buy {m m' : Market} {env : Env} {buyer lid bid : Nat} {out : List OutMsg}
    (hI : IdsInv m) (h : buy m env buyer lid bid = .ok (m', out)) : SoldOut m' lid := by
  obtain ⟨l, b, lfee, bfee, fl, fb, hf, _, hid, _, rfl⟩ := buy_swap hI h
  refine ⟨hI.findById_used hf, fun _ hp hpid => ?_⟩
  rcases mem_ainsert.1 hp with rfl | ⟨hm, _⟩
  · rfl
  · obtain ⟨hm1, hm2⟩ := mem_aerase.1 hm
    cases hf.symm.trans (hI.findById_iff.2 ⟨hm1, hpid⟩)
    exact absurd rfl hm2

example : IdsInv BuyEx.mkt ∧ buy BuyEx.mkt BuyEx.env 20 1 2 = .ok BuyEx.bought :=
  ⟨BuyEx.ids, BuyEx.buy_eq⟩

/-- (b) … which **every** accepted message of every sender preserves (a closed record stays
    closed until it is withdrawn; a withdrawn or deleted id stays gone because creation refuses
    logged ids) — no invariant needed … -/
theorem C03_sold_stays {m m' : Market} {env : Env} {s : Nat} {f : List Coin} {msg : ExecMsg}
    {out : List OutMsg} {lid : Nat} (hS : SoldOut m lid)
    (h : execute m env s f msg = .ok (m', out)) : SoldOut m' lid :=
  soldOut_preserved lid _ _ _ _ _ _ _ hS h

/-- listing 1 is sold out after the sale, and the buyer's claim is an accepted message in that
    state -/
example : SoldOut BuyEx.bought.1 1 ∧
    ∃ r, execute BuyEx.bought.1 BuyEx.env 20 [] (.withdrawPurchased 1) = .ok r :=
  ⟨C03_sold_after_buy BuyEx.ids BuyEx.buy_eq, _, rfl⟩

theorem C03_sold_stays_run {w : World} {lid : Nat} (hS : SoldOut w.mkt lid) (ops : List Op) :
    SoldOut (run w ops).mkt lid :=
  run_preserves (soldOut_preserved lid) ops hS

example : SoldOut BuyEx.world'.mkt 1 :=
  C03_sold_after_buy BuyEx.ids (step_buy_ok BuyEx.step_ok).1

/-- (c) … and in which every purchase of that listing is refused.  `SoldOut` is the
    "closed, or used and gone" state of the property (`C03_soldOut_iff`). -/
theorem C03_sold_refuses {m : Market} {lid : Nat} (hS : SoldOut m lid) (env : Env)
    (buyer bid : Nat) : ∃ e, buy m env buyer lid bid = .error e :=
  hS.buy_fails env buyer bid

example : SoldOut BuyEx.bought.1 1 := C03_sold_after_buy BuyEx.ids BuyEx.buy_eq

/-- `SoldOut` is the "closed, or used and gone" state: under `IdsInv` the listing with that id is
    closed, or the id is logged as used and no live listing carries it. -/
theorem C03_soldOut_iff {m : Market} (hI : IdsInv m) (lid : Nat) :
    SoldOut m lid ↔
      (∃ k l, findById lid m.listings = some (k, l) ∧ l.status = .closed) ∨
      (lid ∈ m.listingUsed ∧ findById lid m.listings = none) := by
  constructor
  · rintro ⟨hu, hc⟩
    cases hf : findById lid m.listings with
    | none => exact .inr ⟨hu, rfl⟩
    | some p => exact .inl ⟨p.1, p.2, rfl, hc _ (findById_some hf).2 (findById_some hf).1⟩
  · rintro (⟨k, l, hf, hc⟩ | ⟨hu, hn⟩)
    · refine ⟨hI.findById_used hf, fun p hp hpid => ?_⟩
      rw [hI.findById_iff.2 ⟨hp, hpid⟩] at hf
      cases hf
      exact hc
    · exact ⟨hu, fun p hp hid => absurd hid (findById_eq_none_iff.1 hn p hp)⟩

example : IdsInv BuyEx.bought.1 := BuyEx.ids_bought

/-- "under every ordering of competing purchases, deletions and withdrawals a listing is sold at
    most once": along the trace of **any** operation list from a state satisfying `IdsInv`, the
    number of successful purchase transactions for listing `lid` (`buysOf`: any sender, any
    bucket) is at most one: the first successful purchase leads into `SoldOut`, where the count
    of the rest is zero.  `hpres` is what `C09_inv_execute` proves ("every accepted message
    preserves `IdsInv`"). -/
theorem C03_sold_once {w : World} (hpres : ExecPreserves IdsInv) (hI : IdsInv w.mkt) (lid : Nat)
    (ops : List Op) : buysOf lid w ops ≤ 1 := by
  induction ops generalizing w with
  | nil => exact Nat.zero_le _
  | cons op ops ih =>
    rw [buysOf]
    by_cases hb : (isBuyOf lid op && (step w op).2.ok) = true
    · obtain ⟨h1, h2⟩ := Bool.and_eq_true_iff.1 hb
      obtain ⟨s, f, bid, rfl⟩ := isBuyOf_iff.1 h1
      rw [if_pos hb, buysOf_eq_zero_of_soldOut ops (C03_sold_after_buy hI (step_buy_ok h2).1)]
      exact Nat.le_refl _
    · rw [if_neg hb, Nat.zero_add]
      exact ih (step_preserves hpres hI op)

/-- from the example world: a purchase with the wrong bucket (refused), buyer 20's purchase
    (accepted), the competitor's purchase with a matching bucket (refused: sold), the buyer's
    withdrawal, the competitor again (refused: gone) — exactly one purchase succeeds -/
example : IdsInv BuyEx.world.mkt ∧
    buysOf 1 BuyEx.world
      [.exec 30 [] (.buy 1 4), .exec 20 [] (.buy 1 2), .exec 30 [] (.buy 1 3),
       .exec 20 [] (.withdrawPurchased 1), .exec 30 [] (.buy 1 3)] = 1 ∧
    (run BuyEx.world
      [.exec 30 [] (.buy 1 4), .exec 20 [] (.buy 1 2), .exec 30 [] (.buy 1 3),
       .exec 20 [] (.withdrawPurchased 1)]).mkt.listings = [] :=
  ⟨BuyEx.ids, by decide, by decide⟩

/-- The same fact without the counting function: after a successful purchase of `lid`, every
    purchase transaction for `lid` at any later point of any continuation is refused. -/
theorem C03_second_buy_refused {w : World} {s : Nat} {f : List Coin} {lid bid : Nat}
    (hI : IdsInv w.mkt) (hok : (step w (.exec s f (.buy lid bid))).2.ok = true)
    (ops : List Op) (s' : Nat) (f' : List Coin) (bid' : Nat) :
    (step (run (step w (.exec s f (.buy lid bid))).1 ops) (.exec s' f' (.buy lid bid'))).2.ok = false :=
  step_buy_refused_of_soldOut (C03_sold_stays_run (C03_sold_after_buy hI (step_buy_ok hok).1) ops)
    s' f' bid'

example : IdsInv BuyEx.world.mkt ∧ (step BuyEx.world (.exec 20 [] (.buy 1 2))).2.ok = true :=
  ⟨BuyEx.ids, BuyEx.step_ok⟩

/-- a refused purchase leaves the whole world unchanged (`C02_refused_noop` for `buy`); in
    particular the losing buyer's bucket is still there with the same contents. -/
theorem C03_loser_intact {w : World} {b2 : Nat} {f : List Coin} {lid bid2 : Nat}
    (h : (step w (.exec b2 f (.buy lid bid2))).2.ok = false) :
    (step w (.exec b2 f (.buy lid bid2))).1 = w ∧
    alookup (b2, bid2) (step w (.exec b2 f (.buy lid bid2))).1.mkt.buckets =
      alookup (b2, bid2) w.mkt.buckets :=
  have := stepF_failed_noop noFault w _ h
  ⟨this, congrArg (fun x => alookup (b2, bid2) x.mkt.buckets) this⟩

/-- the competitor's purchase after the sale is refused -/
example : (step BuyEx.world' (.exec 30 [] (.buy 1 3))).2.ok = false := by decide

/-- the *winner's* purchase does not touch the losers' buckets either: every bucket other than
    the one paid with is stored, unchanged, under the same key afterwards. -/
theorem C03_loser_untouched {w : World} {buyer : Nat} {f : List Coin} {lid bid : Nat}
    (hI : IdsInv w.mkt) (hok : (step w (.exec buyer f (.buy lid bid))).2.ok = true)
    {b2 bid2 : Nat} {x : Bucket} (hx : alookup (b2, bid2) w.mkt.buckets = some x)
    (hne : (b2, bid2) ≠ (buyer, bid)) :
    alookup (b2, bid2) (step w (.exec buyer f (.buy lid bid))).1.mkt.buckets = some x := by
  obtain ⟨l, b, lfee, bfee, fl, fb, _, _, _, hb, hm'⟩ := buy_swap hI (step_buy_ok hok).1
  -- bucket ids are unique: another key carries another id, so it is neither of the two keys touched
  have hbid : bid2 ≠ bid := by
    intro e
    subst e
    exact hne (by rw [hI.bucket_owner hx hb])
  rw [hm', ← hx]
  exact (alookup_ainsert_ne (fun e => hbid (Prod.mk.inj e).2) _ _).trans
    (alookup_aerase_ne (fun e => hbid (Prod.mk.inj e).2) _)

/-- the competitor's bucket 3 while buyer 20 buys -/
example : IdsInv BuyEx.world.mkt ∧ (step BuyEx.world (.exec 20 [] (.buy 1 2))).2.ok = true ∧
    (alookup (30, 3) BuyEx.world.mkt.buckets).isSome = true ∧ ((30, 3) : Nat × Nat) ≠ (20, 2) :=
  ⟨BuyEx.ids, BuyEx.step_ok, by decide, by decide⟩

#print axioms C03_swap
#print axioms C03_swap_claims
#print axioms C03_claim_only_buyer
#print axioms C03_no_delete_after_sale
#print axioms C03_no_rebuy
#print axioms C03_claim_only_seller
#print axioms C03_claim_once_listing
#print axioms C03_claim_once_bucket
#print axioms C03_sold_after_buy
#print axioms C03_sold_stays
#print axioms C03_sold_stays_run
#print axioms C03_sold_refuses
#print axioms C03_soldOut_iff
#print axioms C03_sold_once
#print axioms C03_second_buy_refused
#print axioms C03_loser_intact
#print axioms C03_loser_untouched

end Fuzion
