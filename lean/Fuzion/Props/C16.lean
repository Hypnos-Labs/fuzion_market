/-
  Fuzion.Props.C16 — "Queries report exactly what is stored and what is purchasable".

  Property text (C16): Paging through an owner's listings or buckets from page 1 upward returns
  each of that owner's records exactly once, and every page number from 1 to 255 is answered
  (with an empty page beyond the data) rather than failing.  The market and whitelist queries
  return precisely the listings that are finalized, unsold and unexpired (for the whitelist
  query, those reserved for that buyer), so a listed item is never already unpurchasable.  The
  fee query reports the denomination the next purchase will be charged in and a next-change
  time before which a cycle attempt is refused and after which it is accepted.

  The theorems are about the model of query.rs (`Fuzion.Model.Query`, the code after the repairs
  of the defects D2, D3, D4 of DESIGN.md §0.3); that the Rust agrees with the model on every query is what the correspondence
  check establishes.
-/
import Fuzion.Lemmas.QueryLemmas
import Fuzion.Props.C13
namespace Fuzion

-- the market the examples below evaluate the queries on
namespace C16Ex

def bal (k a : Nat) : GBal := ⟨[⟨k, a⟩], [], []⟩

/-- finalized at second 2 000 000, ten-minute lifetime, reserved for buyer 2 -/
def l1 : Listing :=
  { creator := 1, id := 7, finalizedAt := some (2000000 * NS), expiresAt := some (2000600 * NS),
    status := .finalized, claimant := none, whitelist := some 2,
    forSale := bal 10 5, ask := bal 10 6, fee := none }

/-- same creator, sold -/
def l2 : Listing :=
  { creator := 1, id := 3, finalizedAt := some (2000000 * NS), expiresAt := some (2000600 * NS),
    status := .closed, claimant := some 1, whitelist := none,
    forSale := bal 10 6, ask := bal 10 6, fee := some ⟨10, 1⟩ }

/-- another creator, still being prepared -/
def l3 : Listing :=
  { creator := 4, id := 9, finalizedAt := none, expiresAt := none,
    status := .preparing, claimant := none, whitelist := none,
    forSale := bal 11 5, ask := bal 10 6, fee := none }

def b1 : Bucket := ⟨1, bal 10 6, none⟩
def b2 : Bucket := ⟨2, bal 10 6, none⟩

def mkt : Market :=
  { listings := [((1, 7), l1), ((1, 3), l2), ((4, 9), l3)],
    buckets := [((1, 5), b1), ((1, 2), b1), ((2, 4), b2)],
    listingUsed := [0, 3, 7, 9], bucketUsed := [0, 2, 4, 5],
    feeKind := .juno, feeSince := 1990000, registry := none }

/-- block time: second 2 000 100 -/
def now : Nat := 2000100 * NS

def env : Env :=
  { self := 100, nowNs := now, junoD := 10, usdcD := 11, regAddr := 101,
    isToken20 := fun _ => false, isContract := fun _ => false, regLookup := fun _ => none }

theorem mkt_wf : ∀ p ∈ mkt.listings, wfListing 10 11 p.1 p.2 = true := by decide

theorem ownerBuckets_mkt : ownerBuckets mkt 1 = [(2, b1), (5, b1)] := by
  have h : (mkt.buckets.filter (fun p => decide (p.1.1 = 1))).map (fun p => (p.1.2, p.2)) =
      [(5, b1), (2, b1)] := by decide
  rw [ownerBuckets_eq, ownerRecs, h, mergeSort_pair]
  decide

theorem ownerListings_mkt : ownerListings mkt 1 = [(3, l2), (7, l1)] := by
  have h : (mkt.listings.filter (fun p => decide (p.1.1 = 1))).map (fun p => (p.1.2, p.2)) =
      [(7, l1), (3, l2)] := by decide
  rw [ownerListings_eq, ownerRecs, h, mergeSort_pair]
  decide

theorem marketWindow_mkt : marketWindow mkt now = [l2, l1] := by
  unfold marketWindow
  have h : mkt.listings.filter (fun p => decide (finSecs p.2 ≥ now / NS - TWO_WEEKS)) =
      [((1, 7), l1), ((1, 3), l2)] := by decide
  rw [h, mergeSort_pair]
  decide

theorem qMarket_mkt : qMarket mkt now 1 = some [l1] := by
  refine qMarket_eq_some.2 ⟨by decide, ?_⟩
  rw [marketWindow_mkt]
  decide

theorem qWhitelisted_mkt : qWhitelisted mkt now (.valid 2) = some [l1] := by
  have h : (mkt.listings.filter (fun p => decide (p.2.whitelist = some 2))).map (·.2) = [l1] := by
    decide
  rw [qWhitelisted_valid, h, List.mergeSort_singleton]
  decide

end C16Ex

/-- "Paging … from page 1 upward returns each … record exactly once": concatenating pages
    `1..k` enumerates the first `20·k` records, each once, in order. -/
theorem C16_pages_cover {α : Type} (l : List α) (k : Nat) :
    ((List.range k).flatMap fun i => pageOf l (i + 1)) = l.take (20 * k) :=
  pages_flatMap l k

/-- "… returns each of that owner's records exactly once": once `20·k` reaches the length, the
    pages `1..k` are the whole list. -/
theorem C16_pages_all {α : Type} (l : List α) (k : Nat) (h : l.length ≤ 20 * k) :
    ((List.range k).flatMap fun i => pageOf l (i + 1)) = l := by
  rw [C16_pages_cover, List.take_of_length_le h]

-- 45 records, three pages
example : (List.range 45).length ≤ 20 * 3 ∧
    ((List.range 3).flatMap fun i => pageOf (List.range 45) (i + 1)) = List.range 45 := by
  decide +kernel

/-- "(with an empty page beyond the data)": a page that starts at or after the end is empty. -/
theorem C16_page_beyond {α : Type} (l : List α) (p : Nat) (h : (p - 1) * 20 ≥ l.length) :
    pageOf l p = [] :=
  pageOf_beyond l p h

-- page 4 of 45 records
example : (4 - 1) * 20 ≥ (List.range 45).length ∧ pageOf (List.range 45) 4 = [] := by decide

/-- The reach of a `u8` page number, stated explicitly: pages `1..255` cover a list of at most
    5100 records completely; the model (like the Rust: `page_num: u8`) cannot address record
    number 5101 and later. -/
theorem C16_pages_u8 {α : Type} (l : List α) (h : l.length ≤ 5100) :
    ((List.range 255).flatMap fun i => pageOf l (i + 1)) = l :=
  C16_pages_all l 255 (by omega)

example : (List.range 45).length ≤ 5100 := by decide

/-- page 0 is answered like page 1 (`usize::from(page_num).saturating_sub(1) * 20`, repair of
    D2) -/
theorem C16_page_zero {α : Type} (l : List α) : pageOf l 0 = pageOf l 1 := rfl

/-- "every page number from 1 to 255 is answered … rather than failing": for a valid owner
    address both per-owner queries succeed for every page number (the specification has no
    failing page; that the Rust does not abort is what the correspondence check establishes),
    and they return the corresponding page of the owner's records. -/
theorem C16_owner_total (m : Market) (o p : Nat) :
    (∃ r, qBuckets m (.valid o) p = some r ∧ r = pageOf (ownerBuckets m o) p) ∧
    (∃ r, qListingsByOwner m (.valid o) p = some r ∧
      r = (pageOf (ownerListings m o) p).map (·.2)) :=
  ⟨⟨_, qBuckets_valid m o p, rfl⟩, ⟨_, qListingsByOwner_valid m o p, rfl⟩⟩

theorem C16_owner_invalid (m : Market) (p : Nat) :
    qBuckets m .invalid p = none ∧ qListingsByOwner m .invalid p = none :=
  ⟨qBuckets_invalid m p, qListingsByOwner_invalid m p⟩

/-- "(with an empty page beyond the data)", for the queries themselves. -/
theorem C16_owner_beyond (m : Market) (o p : Nat) :
    ((p - 1) * 20 ≥ (ownerBuckets m o).length → qBuckets m (.valid o) p = some []) ∧
    ((p - 1) * 20 ≥ (ownerListings m o).length → qListingsByOwner m (.valid o) p = some []) := by
  constructor <;> intro h
  · rw [qBuckets_valid, pageOf_beyond _ _ h]
  · rw [qListingsByOwner_valid, pageOf_beyond _ _ h, List.map_nil]

-- owner 1 has two buckets and two listings, page 2 is beyond
example : (2 - 1) * 20 ≥ (ownerBuckets C16Ex.mkt 1).length ∧
    (2 - 1) * 20 ≥ (ownerListings C16Ex.mkt 1).length := by
  rw [C16Ex.ownerBuckets_mkt, C16Ex.ownerListings_mkt]; decide

/-- "returns each of that owner's records exactly once" (buckets): the list that is paged is a
    permutation of the owner's stored `(id, bucket)` pairs, ascending by id (strictly: ids are
    distinct), without duplicates, and contains no record of anyone else. -/
theorem C16_owner_exact_buckets (m : Market) (o : Nat) (h : (akeys m.buckets).Nodup) :
    (ownerBuckets m o).Perm
        ((m.buckets.filter (fun p => decide (p.1.1 = o))).map (fun p => (p.1.2, p.2))) ∧
    (ownerBuckets m o).Pairwise (fun a b => a.1 ≤ b.1) ∧
    (ownerBuckets m o).Pairwise (fun a b => a.1 < b.1) ∧
    (ownerBuckets m o).Nodup ∧
    ∀ x, x ∈ ownerBuckets m o ↔ ((o, x.1), x.2) ∈ m.buckets :=
  ⟨ownerRecs_perm _ _, ownerRecs_sorted _ _, ownerRecs_strict _ _ h, ownerRecs_nodup _ _ h,
    ownerRecs_mem _ _⟩

/-- "returns each of that owner's records exactly once" (listings). -/
theorem C16_owner_exact_listings (m : Market) (o : Nat) (h : (akeys m.listings).Nodup) :
    (ownerListings m o).Perm
        ((m.listings.filter (fun p => decide (p.1.1 = o))).map (fun p => (p.1.2, p.2))) ∧
    (ownerListings m o).Pairwise (fun a b => a.1 ≤ b.1) ∧
    (ownerListings m o).Pairwise (fun a b => a.1 < b.1) ∧
    (ownerListings m o).Nodup ∧
    ∀ x, x ∈ ownerListings m o ↔ ((o, x.1), x.2) ∈ m.listings :=
  ⟨ownerRecs_perm _ _, ownerRecs_sorted _ _, ownerRecs_strict _ _ h, ownerRecs_nodup _ _ h,
    ownerRecs_mem _ _⟩

-- the example market has distinct keys; owner 1's buckets come out ascending although stored
-- descending
example : (akeys C16Ex.mkt.buckets).Nodup ∧ (akeys C16Ex.mkt.listings).Nodup ∧
    C16Ex.mkt.buckets = [((1, 5), C16Ex.b1), ((1, 2), C16Ex.b1), ((2, 4), C16Ex.b2)] ∧
    ownerBuckets C16Ex.mkt 1 = [(2, C16Ex.b1), (5, C16Ex.b1)] :=
  ⟨by decide, by decide, rfl, C16Ex.ownerBuckets_mkt⟩

/-- The first sentence of C16 for `get_buckets`, end to end: if ids are unique per key, asking
    pages `1..k` (with `20·k` at least the number of the owner's buckets) and concatenating the
    answers yields each `(id, bucket)` stored under that owner exactly once and nothing else. -/
theorem C16_buckets_paging (m : Market) (o k : Nat) (h : (akeys m.buckets).Nodup)
    (hk : (ownerBuckets m o).length ≤ 20 * k) :
    let pages := (List.range k).flatMap fun i => (qBuckets m (.valid o) (i + 1)).getD []
    pages.Nodup ∧ ∀ x, x ∈ pages ↔ ((o, x.1), x.2) ∈ m.buckets := by
  intro pages
  have hp : pages = ownerBuckets m o := by
    simp only [pages, qBuckets_valid, Option.getD_some]
    exact C16_pages_all (ownerBuckets m o) k hk
  rw [hp]
  exact ⟨ownerRecs_nodup _ _ h, ownerRecs_mem _ _⟩

example : (akeys C16Ex.mkt.buckets).Nodup ∧ (ownerBuckets C16Ex.mkt 1).length ≤ 20 * 1 := by
  rw [C16Ex.ownerBuckets_mkt]; decide

/-- The first sentence of C16 for `get_listings_by_owner`, end to end.  The answer carries the
    `Listing` values only; they are pairwise distinct because every record is stored under the
    key `(creator, id)` of the record itself (part of `wfListing`, property C12). -/
theorem C16_listings_paging (m : Market) (o k : Nat) (h : (akeys m.listings).Nodup)
    (hkey : ∀ p ∈ m.listings, p.1 = (p.2.creator, p.2.id))
    (hk : (ownerListings m o).length ≤ 20 * k) :
    let pages := (List.range k).flatMap fun i => (qListingsByOwner m (.valid o) (i + 1)).getD []
    pages.Nodup ∧ ∀ l, l ∈ pages ↔ ((o, l.id), l) ∈ m.listings := by
  intro pages
  have hp : pages = (ownerListings m o).map (·.2) := by
    simp only [pages, qListingsByOwner_valid, Option.getD_some]
    rw [← List.map_flatMap, C16_pages_all _ k hk]
  rw [hp]
  refine ⟨ownerListings_vals_nodup m o h hkey, ?_⟩
  intro l
  rw [List.mem_map]
  constructor
  · rintro ⟨p, hm, rfl⟩
    exact ownerListings_id hkey hm ▸ (ownerRecs_mem m.listings o p).1 hm
  · intro hm
    exact ⟨(l.id, l), (ownerRecs_mem m.listings o (l.id, l)).2 hm, rfl⟩

example : (akeys C16Ex.mkt.listings).Nodup ∧
    (∀ p ∈ C16Ex.mkt.listings, p.1 = (p.2.creator, p.2.id)) ∧
    (ownerListings C16Ex.mkt 1).length ≤ 20 * 1 := by
  rw [C16Ex.ownerListings_mkt]; decide

/-- "so a listed item is never already unpurchasable": a well-formed record that passes the
    filter of the market / whitelist query (has an expiration not in the past, is not closed) is
    finalized, unsold and unexpired. -/
theorem C16_listed_purchasable {j u : Nat} {k : Nat × Nat} {l : Listing} {nowNs : Nat}
    (hwf : wfListing j u k l = true) (hl : listable nowNs l = true) :
    purchasable nowNs l = true := by
  obtain ⟨hc, e, he, hne⟩ := listable_iff.1 hl
  cases hs : l.status with
  | closed => exact absurd hs hc
  | finalized => exact purchasable_iff.2 ⟨hs, (wfListing_finalized hwf hs).2.1, e, he, hne⟩
  | preparing => cases (wfListing_preparing hwf hs).2.1.symm.trans he

example : wfListing 10 11 (1, 7) C16Ex.l1 = true ∧ listable C16Ex.now C16Ex.l1 = true := by decide

/-- "The market … quer[y] return[s] precisely the listings that are finalized, unsold and
    unexpired … a listed item is never already unpurchasable" (soundness): whatever page of the
    market query is asked, every listing in the answer is a stored one and is purchasable. -/
theorem C16_market_sound {j u : Nat} {m : Market} {nowNs page : Nat} {r : List Listing}
    (hwf : ∀ p ∈ m.listings, wfListing j u p.1 p.2 = true)
    (hq : qMarket m nowNs page = some r) :
    ∀ l ∈ r, purchasable nowNs l = true ∧ ∃ k, (k, l) ∈ m.listings := by
  intro l hl
  obtain ⟨_, rfl⟩ := qMarket_eq_some.1 hq
  obtain ⟨hmem, hlist⟩ := List.mem_filter.1 hl
  obtain ⟨k, hk, _⟩ := mem_marketWindow.1 (mem_of_mem_pageOf hmem)
  exact ⟨C16_listed_purchasable (hwf (k, l) hk) hlist, k, hk⟩

-- the example market is well-formed and page 1 is answered with exactly the one purchasable listing
example : (∀ p ∈ C16Ex.mkt.listings, wfListing 10 11 p.1 p.2 = true) ∧
    qMarket C16Ex.mkt C16Ex.now 1 = some [C16Ex.l1] :=
  ⟨C16Ex.mkt_wf, C16Ex.qMarket_mkt⟩

/-- "return precisely the listings that are finalized, unsold and unexpired" (completeness, the
    index window): a well-formed purchasable listing was finalized at most 1 209 600 whole
    seconds before the block time — its lifetime is at most two weeks (`wfTimes`) and it has not
    expired — so it lies inside the window `[now_s − 1209600, ∞)` the market query scans.
    (No assumption on the block time is needed for this step: in the model the subtraction
    truncates; the query itself needs `TWO_WEEKS ≤ nowNs / NS`, see `C16_market_complete`.) -/
theorem C16_market_window {j u : Nat} {m : Market} {nowNs : Nat} {k : Nat × Nat} {l : Listing}
    (hm : (k, l) ∈ m.listings) (hwf : wfListing j u k l = true)
    (hp : purchasable nowNs l = true) : l ∈ marketWindow m nowNs := by
  refine mem_marketWindow.2 ⟨k, hm, ?_⟩
  obtain ⟨hs, _, e, he, hne⟩ := purchasable_iff.1 hp
  obtain ⟨f, e', hf, he', h1, h2, _, h4⟩ := wfTimes_iff.1 (wfListing_finalized hwf hs).1
  cases he.symm.trans he'
  -- `e = f + d·NS` with `d ≤ TWO_WEEKS`, so `⌊now/NS⌋ ≤ ⌊e/NS⌋ = ⌊f/NS⌋ + d`
  have he' : f + NS * ((e - f) / NS) = e := by
    rw [Nat.mul_div_cancel' (Nat.dvd_of_mod_eq_zero h2), Nat.add_sub_cancel' h1]
  have h : nowNs / NS ≤ f / NS + (e - f) / NS :=
    Nat.le_trans (Nat.div_le_div_right hne) (Nat.le_of_eq
      ((congrArg (· / NS) he'.symm).trans (Nat.add_mul_div_left f _ (by decide))))
  rw [finSecs, hf]
  exact Nat.sub_le_of_le_add (Nat.le_trans h (Nat.add_le_add_left h4 _))

/-- "return precisely the listings that are finalized, unsold and unexpired" (completeness):
    with a block time of at least two weeks, every well-formed purchasable listing appears on
    some page `≥ 1` of the market query, and that page starts inside the index window.
    The reach of the `u8` page number is explicit: if the window holds at most 5100 records the
    page is at most 255; a purchasable listing behind more than 5100 index entries (all finalized
    within the last two weeks and ordered before it) cannot be addressed by any `u8` page. -/
theorem C16_market_complete {j u : Nat} {m : Market} {nowNs : Nat} {k : Nat × Nat} {l : Listing}
    (hnow : TWO_WEEKS ≤ nowNs / NS)
    (hm : (k, l) ∈ m.listings) (hwf : wfListing j u k l = true)
    (hp : purchasable nowNs l = true) :
    ∃ page, 1 ≤ page ∧ (page - 1) * 20 < (marketWindow m nowNs).length ∧
      ((marketWindow m nowNs).length ≤ 5100 → page ≤ 255) ∧
      ∃ r, qMarket m nowNs page = some r ∧ l ∈ r := by
  obtain ⟨page, h1, h2, h3⟩ := mem_pageOf_of_mem (C16_market_window hm hwf hp)
  exact ⟨page, h1, h2, by omega, _, qMarket_eq_some.2 ⟨hnow, rfl⟩,
    List.mem_filter.2 ⟨h3, purchasable_listable hp⟩⟩

example : TWO_WEEKS ≤ C16Ex.now / NS ∧ ((1, 7), C16Ex.l1) ∈ C16Ex.mkt.listings ∧
    wfListing 10 11 (1, 7) C16Ex.l1 = true ∧ purchasable C16Ex.now C16Ex.l1 = true := by decide

/-- over all page numbers `≥ 1` the market query returns precisely the stored purchasable
    listings, whatever the size of the window -/
theorem C16_market_precise_unbounded {j u : Nat} {m : Market} {nowNs : Nat} (l : Listing)
    (hwf : ∀ p ∈ m.listings, wfListing j u p.1 p.2 = true) (hnow : TWO_WEEKS ≤ nowNs / NS) :
    (∃ page, 1 ≤ page ∧ ∃ r, qMarket m nowNs page = some r ∧ l ∈ r) ↔
      ∃ k, (k, l) ∈ m.listings ∧ purchasable nowNs l = true := by
  constructor
  · rintro ⟨page, _, r, hq, hl⟩
    obtain ⟨hp, k, hk⟩ := C16_market_sound hwf hq l hl
    exact ⟨k, hk, hp⟩
  · rintro ⟨k, hk, hp⟩
    obtain ⟨page, h1, _, _, r, hq, hl⟩ := C16_market_complete hnow hk (hwf (k, l) hk) hp
    exact ⟨page, h1, r, hq, hl⟩

/-- "The market … quer[y] return[s] precisely the listings that are finalized, unsold and
    unexpired", soundness and completeness together: with well-formed records, a block time of at
    least two weeks and an index window within the reach of a `u8` page number, a listing is on
    some page `1..255` of the market query iff it is stored and purchasable. -/
theorem C16_market_precise {j u : Nat} {m : Market} {nowNs : Nat} (l : Listing)
    (hwf : ∀ p ∈ m.listings, wfListing j u p.1 p.2 = true)
    (hnow : TWO_WEEKS ≤ nowNs / NS) (hlen : (marketWindow m nowNs).length ≤ 5100) :
    (∃ page, 1 ≤ page ∧ page ≤ 255 ∧ ∃ r, qMarket m nowNs page = some r ∧ l ∈ r) ↔
      ∃ k, (k, l) ∈ m.listings ∧ purchasable nowNs l = true := by
  constructor
  · rintro ⟨page, h1, _, h⟩
    exact (C16_market_precise_unbounded l hwf hnow).1 ⟨page, h1, h⟩
  · rintro ⟨k, hk, hp⟩
    obtain ⟨page, h1, _, h3, r, hq, hl⟩ := C16_market_complete hnow hk (hwf (k, l) hk) hp
    exact ⟨page, h1, h3 hlen, r, hq, hl⟩

example : (∀ p ∈ C16Ex.mkt.listings, wfListing 10 11 p.1 p.2 = true) ∧
    TWO_WEEKS ≤ C16Ex.now / NS ∧ (marketWindow C16Ex.mkt C16Ex.now).length ≤ 5100 := by
  rw [C16Ex.marketWindow_mkt]
  exact ⟨C16Ex.mkt_wf, by decide⟩

/-- "The … whitelist quer[y] return[s] precisely the listings that are … (… reserved for that
    buyer)": membership in the answer is exactly "stored, reserved for `o`, passes the filter". -/
theorem C16_whitelist_exact {m : Market} {nowNs o : Nat} {r : List Listing} (l : Listing)
    (hq : qWhitelisted m nowNs (.valid o) = some r) :
    l ∈ r ↔ ∃ k, (k, l) ∈ m.listings ∧ l.whitelist = some o ∧ listable nowNs l = true := by
  cases (qWhitelisted_valid m nowNs o).symm.trans hq
  simp only [List.mem_filter, List.mem_mergeSort, List.mem_map, decide_eq_true_eq]
  constructor
  · rintro ⟨⟨⟨k, _⟩, h, rfl⟩, hl⟩
    exact ⟨k, h.1, h.2, hl⟩
  · rintro ⟨k, hm, hw, hl⟩
    exact ⟨⟨(k, l), ⟨hm, hw⟩, rfl⟩, hl⟩

example : qWhitelisted C16Ex.mkt C16Ex.now (.valid 2) = some [C16Ex.l1] := C16Ex.qWhitelisted_mkt

/-- "(for the whitelist query, those reserved for that buyer)" (soundness): every listing in
    the answer is stored, reserved for the asking buyer, and purchasable. -/
theorem C16_whitelist_sound {j u : Nat} {m : Market} {nowNs o : Nat} {r : List Listing}
    (hwf : ∀ p ∈ m.listings, wfListing j u p.1 p.2 = true)
    (hq : qWhitelisted m nowNs (.valid o) = some r) :
    ∀ l ∈ r, purchasable nowNs l = true ∧ l.whitelist = some o ∧ ∃ k, (k, l) ∈ m.listings := by
  intro l hl
  obtain ⟨k, hm, hw, hlist⟩ := (C16_whitelist_exact l hq).1 hl
  exact ⟨C16_listed_purchasable (hwf (k, l) hm) hlist, hw, k, hm⟩

example : (∀ p ∈ C16Ex.mkt.listings, wfListing 10 11 p.1 p.2 = true) ∧
    qWhitelisted C16Ex.mkt C16Ex.now (.valid 2) = some [C16Ex.l1] :=
  ⟨C16Ex.mkt_wf, C16Ex.qWhitelisted_mkt⟩

/-- with well-formed records the whitelist query returns precisely the purchasable listings
    reserved for the buyer -/
theorem C16_whitelist_precise {j u : Nat} {m : Market} {nowNs o : Nat} {r : List Listing}
    (l : Listing) (hwf : ∀ p ∈ m.listings, wfListing j u p.1 p.2 = true)
    (hq : qWhitelisted m nowNs (.valid o) = some r) :
    l ∈ r ↔ ∃ k, (k, l) ∈ m.listings ∧ l.whitelist = some o ∧ purchasable nowNs l = true := by
  rw [C16_whitelist_exact l hq]
  constructor
  · rintro ⟨k, hm, hw, hl⟩
    exact ⟨k, hm, hw, C16_listed_purchasable (hwf (k, l) hm) hl⟩
  · rintro ⟨k, hm, hw, hp⟩
    exact ⟨k, hm, hw, purchasable_listable hp⟩

example : (∀ p ∈ C16Ex.mkt.listings, wfListing 10 11 p.1 p.2 = true) ∧
    qWhitelisted C16Ex.mkt C16Ex.now (.valid 2) = some [C16Ex.l1] :=
  ⟨C16Ex.mkt_wf, C16Ex.qWhitelisted_mkt⟩

theorem C16_whitelist_total (m : Market) (nowNs o : Nat) :
    (∃ r, qWhitelisted m nowNs (.valid o) = some r) ∧ qWhitelisted m nowNs .invalid = none :=
  ⟨⟨_, qWhitelisted_valid m nowNs o⟩, qWhitelisted_invalid m nowNs⟩

/-- "The fee query reports the denomination the next purchase will be charged in and a
    next-change time before which a cycle attempt is refused and after which it is accepted."
    The side condition keeps the saturating additions of the Rust from saturating (block
    seconds would have to be within a week of `u64::MAX`); at saturation `next_change = u64::MAX`
    while a cycle at that second is still refused. -/
theorem C16_fee (m : Market) (env : Env) (h : m.feeSince + WEEK + 1 ≤ U64MAX) :
    let r := qFeeDenom m env
    r.denom = feeDenomOf env m.feeKind ∧ r.kind = m.feeKind ∧
    r.nextChange = m.feeSince + WEEK + 1 ∧
    ((∃ x, cycleFee m env = .ok x) ↔ env.nowNs / NS ≥ r.nextChange) := by
  intro r
  refine ⟨qFeeDenom_denom m env, qFeeDenom_kind m env, qFeeDenom_nextChange m env h, ?_⟩
  rw [qFeeDenom_nextChange m env h]
  exact (C13_cycle_iff m env (Nat.le_of_succ_le h)).trans Nat.lt_iff_add_one_le

example : C16Ex.mkt.feeSince + WEEK + 1 ≤ U64MAX := by decide

-- the side condition of `C16_fee` is needed: at saturation the reported second is refused
example : (U64MAX * NS) / NS ≥
      (qFeeDenom { C16Ex.mkt with feeSince := U64MAX } { C16Ex.env with nowNs := U64MAX * NS }).nextChange ∧
    ¬ ∃ x, cycleFee { C16Ex.mkt with feeSince := U64MAX } { C16Ex.env with nowNs := U64MAX * NS } = .ok x := by
  refine ⟨by decide, ?_⟩
  rintro ⟨⟨m', out⟩, hx⟩
  exact absurd (cycleFee_ok_iff.1 hx).1 (by decide)

/-- The market query fails exactly when the block time is below 1 209 600 s
    (`current_time - 1_209_600` underflows) — the documented assumption. -/
theorem C16_market_none_iff (m : Market) (nowNs p : Nat) :
    qMarket m nowNs p = none ↔ nowNs / NS < TWO_WEEKS := by
  rw [Option.eq_none_iff_forall_ne_some]
  constructor
  · intro h
    exact Nat.lt_of_not_le fun hle => h _ (qMarket_eq_some.2 ⟨hle, rfl⟩)
  · intro h r hr
    exact Nat.not_le.2 h (qMarket_eq_some.1 hr).1

example : qMarket C16Ex.mkt (1209599 * NS) 1 = none ∧ qMarket C16Ex.mkt C16Ex.now 1 ≠ none := by
  refine ⟨by decide, ?_⟩
  rw [C16Ex.qMarket_mkt]; simp

theorem C16_market_total (m : Market) (nowNs p : Nat) (h : TWO_WEEKS ≤ nowNs / NS) :
    ∃ r, qMarket m nowNs p = some r :=
  ⟨_, qMarket_eq_some.2 ⟨h, rfl⟩⟩

example : TWO_WEEKS ≤ C16Ex.now / NS := by decide

#print axioms C16_pages_cover
#print axioms C16_pages_all
#print axioms C16_page_beyond
#print axioms C16_pages_u8
#print axioms C16_page_zero
#print axioms C16_owner_total
#print axioms C16_owner_invalid
#print axioms C16_owner_beyond
#print axioms C16_owner_exact_buckets
#print axioms C16_owner_exact_listings
#print axioms C16_buckets_paging
#print axioms C16_listings_paging
#print axioms C16_listed_purchasable
#print axioms C16_market_sound
#print axioms C16_whitelist_sound
#print axioms C16_market_window
#print axioms C16_market_complete
#print axioms C16_market_precise
#print axioms C16_market_precise_unbounded
#print axioms C16_whitelist_exact
#print axioms C16_whitelist_precise
#print axioms C16_whitelist_total
#print axioms C16_fee
#print axioms C16_market_none_iff
#print axioms C16_market_total
#print axioms C16Ex.mkt_wf
#print axioms C16Ex.ownerBuckets_mkt
#print axioms C16Ex.ownerListings_mkt
#print axioms C16Ex.marketWindow_mkt
#print axioms C16Ex.qMarket_mkt
#print axioms C16Ex.qWhitelisted_mkt

end Fuzion
