/-
  Fuzion.Props.OracleSoundForge — the classification of accepted forged hook calls never reports
  a new violation on the model.

  When a contract calls a receive hook directly (`isForgedHook`, Driver/Oracles.lean) and the call
  is accepted, the driver lists with `Cmp.changedRecords cur pw caller` the pre-existing records of
  wallets other than the caller that changed.  A class without suffix ("bucket", "listing:prep")
  is the recorded finding C18 (`Props/C18.lean`, `C18Partial.lean`: a token contract may top up
  somebody's bucket / listing in preparation with *its own* token or collection); the suffix
  "!beyond" (the change is not confined to entries that name the caller as token / collection)
  and the classes ":removed", "listing:fin", "listing:closed" would be new violations.

  Here: on the model's own step such a class never occurs — every class is "bucket" or
  "listing:prep".  The only hypothesis is `IdsInv` (C09: storage keys are unique and a listing is
  filed under its id); no well-formedness of balances is needed, because the proof does not go
  through per-token amounts but through the exact shape of `addCoin` / `addNft`: the new list is
  the old one with the caller's own entry grown or appended, so removing the caller's entries
  (`stripCaller`) gives literally the same list.

  The theorems are about `step`, the model's side of a `STEP` line.  The driver classifies accepted
  forged calls on `STEPF` lines too, where the model's side is `stepF fail`; no theorem here speaks
  of those.
-/
import Fuzion.Lemmas.ForgeLemmas
import Fuzion.Props.C18Partial
import Fuzion.Driver.Compare
namespace Fuzion
open Fuzion.Cmp Fuzion.Codec

/-! ## a top-up is confined to the caller's own entries -/

theorem stripCaller_addTokens {g nf : GBal} {caller a : Nat}
    (h : addTokens g (.cw20 ⟨caller, a⟩) = some nf) : stripCaller nf caller = stripCaller g caller := by
  obtain ⟨n, hn, rfl⟩ := addTokens_cw20_iff.1 h
  simp only [stripCaller, filter_addCoin hn]

theorem stripCaller_addNft (g : GBal) (caller tid : Nat) :
    stripCaller (addNft g ⟨caller, tid⟩) caller = stripCaller g caller := by
  simp [stripCaller, addNft_native, addNft_cw20, addNft_nfts, List.filter_append]

example : addTokens ⟨[⟨0, 10⟩], [⟨7, 1⟩, ⟨6, 2⟩], []⟩ (.cw20 ⟨6, 5⟩) =
    some ⟨[⟨0, 10⟩], [⟨7, 1⟩, ⟨6, 7⟩], []⟩ := by decide

theorem changedRecords_same {a b : World} (caller : Nat) (hI : IdsInv a.mkt) (hm : b.mkt = a.mkt) :
    changedRecords a b caller = [] := by
  unfold changedRecords
  rw [hm, List.append_eq_nil_iff, List.filterMap_eq_nil_iff, List.filterMap_eq_nil_iff]
  exact ⟨fun p hp => by simp only [mem_nodup_alookup hI.lkeys hp, beq_self_eq_true, if_true, ite_self],
    fun p hp => by simp only [mem_nodup_alookup hI.bkeys hp, beq_self_eq_true, if_true, ite_self]⟩

/-- If every pre-existing record is still there and either unchanged or — a listing only while
    in preparation — differs in its goods / funds only by entries that name `caller`, then every
    class `changedRecords` reports is the recorded finding. -/
theorem changedRecords_confined {a b : World} {caller : Nat} (hI : IdsInv a.mkt)
    (hL : ∀ k l, alookup k a.mkt.listings = some l → alookup k b.mkt.listings = some l ∨
      (l.status = .preparing ∧ ∃ nf, stripCaller nf caller = stripCaller l.forSale caller ∧
        alookup k b.mkt.listings = some { l with forSale := nf }))
    (hB : ∀ k b0, alookup k a.mkt.buckets = some b0 → alookup k b.mkt.buckets = some b0 ∨
      (∃ nf, stripCaller nf caller = stripCaller b0.funds caller ∧
        alookup k b.mkt.buckets = some { b0 with funds := nf })) :
    ∀ c ∈ changedRecords a b caller, c = "bucket" ∨ c = "listing:prep" := by
  intro c hc
  unfold changedRecords at hc
  rcases List.mem_append.1 hc with h | h
  · obtain ⟨⟨k, l⟩, hp, hf⟩ := List.mem_filterMap.1 h
    obtain ⟨_, hf⟩ := Option.ite_none_left_eq_some.1 hf
    rcases hL k l (mem_nodup_alookup hI.lkeys hp) with e | ⟨hst, nf, hs, e⟩
    · -- unchanged: `changedRecords` yields no class, but `hf` says it did
      simp only [e, beq_self_eq_true, if_true, reduceCtorEq] at hf
    · -- topped up: by `hs` the two stripped records are the same term, so `confined` holds and
      -- the class has no suffix
      simp only [e, Option.ite_none_left_eq_some, hs, hst, beq_self_eq_true, if_true,
        Option.some.injEq] at hf
      exact .inr hf.2.symm
  · obtain ⟨⟨k, b0⟩, hp, hf⟩ := List.mem_filterMap.1 h
    obtain ⟨_, hf⟩ := Option.ite_none_left_eq_some.1 hf
    rcases hB k b0 (mem_nodup_alookup hI.bkeys hp) with e | ⟨nf, hs, e⟩
    · simp only [e, beq_self_eq_true, if_true, reduceCtorEq] at hf
    · simp only [e, Option.ite_none_left_eq_some, hs, beq_self_eq_true, if_true,
        Option.some.injEq] at hf
      exact .inl hf.2.symm

/-- the state update of an accepted hook (`HookChange`, Lemmas/ForgeLemmas.lean) whose top-ups
    are confined to the caller's own entries yields the recorded classes only -/
theorem changedRecords_hook {a b : World} {caller user : Nat} {fresh : GBal}
    {top : GBal → GBal → Prop} (hI : IdsInv a.mkt) (hc : HookChange a.mkt user fresh top b.mkt)
    (htop : ∀ g nf, top g nf → stripCaller nf caller = stripCaller g caller) :
    ∀ c ∈ changedRecords a b caller, c = "bucket" ∨ c = "listing:prep" := by
  refine changedRecords_confined hI ?_ ?_
  · intro k l hl
    rcases hc.listing hI hl with e | ⟨_, hst, _, nf, ht, e⟩
    · exact .inl e
    · exact .inr ⟨hst, nf, htop _ _ ht, e⟩
  · intro k b0 hb
    rcases hc.bucket hb with e | ⟨_, nf, ht, e⟩
    · exact .inl e
    · exact .inr ⟨nf, htop _ _ ht, e⟩

/-- **CW20 hook.**  Whatever contract or account `s` calls the CW20 receive hook directly, with
    whatever coins attached, naming whatever sender, amount and inner message: every class the
    driver derives from the model's step is "bucket" or "listing:prep" — never "!beyond",
    ":removed", "listing:fin" or "listing:closed".  (A refused call changes nothing:
    `sound_forge_refused`.) -/
theorem sound_forge_confined_funds (w : World) (s : Nat) (f : List Coin) (u : RawAddr) (a : Nat)
    (i : Option Inner) (hI : IdsInv w.mkt) :
    ∀ c ∈ changedRecords w (step w (.exec s f (.receive u a i))).1 s,
      c = "bucket" ∨ c = "listing:prep" := by
  rcases forged_step_cases w s f u a i with ⟨e, hs⟩ | ⟨_, m', hx, hs⟩ <;> rw [hs]
  · rw [changedRecords_same s hI rfl]
    intro c hc; cases hc
  · obtain ⟨_, _, _, user, _, hch⟩ := receive_hook hx
    exact changedRecords_hook hI hch (fun g nf h => stripCaller_addTokens h)

/-- the call without coins, the only one that can be accepted: with coins attached a hook call is
    refused (`C19_hooks_refuse`) -/
theorem sound_forge_confined (w : World) (s : Nat) (u : RawAddr) (a : Nat) (i : Option Inner)
    (hI : IdsInv w.mkt) :
    let w' := (step w (.exec s [] (.receive u a i))).1
    ∀ c ∈ changedRecords w w' s, c = "bucket" ∨ c = "listing:prep" :=
  sound_forge_confined_funds w s [] u a i hI

/-- **CW721 hook.**  The same for a direct call of the CW721 receive hook. -/
theorem sound_forge_confined_nft_funds (w : World) (s : Nat) (f : List Coin) (u : RawAddr)
    (tid : Nat) (i : Option Inner) (hI : IdsInv w.mkt) :
    ∀ c ∈ changedRecords w (step w (.exec s f (.receiveNft u tid i))).1 s,
      c = "bucket" ∨ c = "listing:prep" := by
  rcases forged_step_cases_nft w s f u tid i with ⟨e, hs⟩ | ⟨_, m', hx, hs⟩ <;> rw [hs]
  · rw [changedRecords_same s hI rfl]
    intro c hc; cases hc
  · obtain ⟨_, _, _, user, _, hch⟩ := receiveNft_hook hx
    exact changedRecords_hook hI hch (fun g nf h => by subst h; exact stripCaller_addNft g s tid)

theorem sound_forge_confined_nft (w : World) (s : Nat) (u : RawAddr) (tid : Nat) (i : Option Inner)
    (hI : IdsInv w.mkt) :
    let w' := (step w (.exec s [] (.receiveNft u tid i))).1
    ∀ c ∈ changedRecords w w' s, c = "bucket" ∨ c = "listing:prep" :=
  sound_forge_confined_nft_funds w s [] u tid i hI

/-- a refused operation of any kind yields no class at all; in particular a hook call with coins
    attached (`C19_hooks_refuse`) -/
theorem sound_forge_refused (w : World) (op : Op) (caller : Nat) (hI : IdsInv w.mkt)
    (h : (step w op).2.ok = false) : changedRecords w (step w op).1 caller = [] :=
  changedRecords_same caller hI (congrArg World.mkt (stepF_failed_noop noFault w op h))

namespace ForgeEx

/-- the witness state of `Props/C18.lean`: victim 1 has bucket 3 (10 of denom 0) and the listing
    in preparation 5 (10 of denom 2 for 10 of denom 0); contract 6 is hostile -/
def w : World := run c18World c18Setup

theorem w_ids : IdsInv w.mkt := c18Mkt_ids

theorem w_listings : w.mkt.listings =
    [((1, 5), { creator := 1, id := 5, finalizedAt := none, expiresAt := none, status := .preparing,
                claimant := none, whitelist := none, forSale := ⟨[⟨2, 10⟩], [], []⟩,
                ask := ⟨[⟨0, 10⟩], [], []⟩, fee := none })] :=
  congrArg (·.mkt.listings) c18State_eq
theorem w_buckets : w.mkt.buckets = [((1, 3), ⟨1, ⟨[⟨0, 10⟩], [], []⟩, none⟩)] :=
  congrArg (·.mkt.buckets) c18State_eq

def w20 : World := (step w forge20Bucket).1
theorem w20_listings : w20.mkt.listings = w.mkt.listings := by rw [w20, w, c18State_eq]; decide
theorem w20_buckets : w20.mkt.buckets = [((1, 3), ⟨1, ⟨[⟨0, 10⟩], [⟨6, 5⟩], []⟩, none⟩)] := by
  rw [w20, w, c18State_eq]; decide

/-- a hand-made post-state in which, besides the forged entry, one unit of the victim's denom 0
    is gone: not the recorded finding -/
def wBeyond : World :=
  { w20 with mkt := { w20.mkt with buckets := [((1, 3), ⟨1, ⟨[⟨0, 9⟩], [⟨6, 5⟩], []⟩, none⟩)] } }

def w721 : World := (step w forge721Listing).1
theorem w721_listings : w721.mkt.listings =
    [((1, 5), { creator := 1, id := 5, finalizedAt := none, expiresAt := none, status := .preparing,
                claimant := none, whitelist := none, forSale := ⟨[⟨2, 10⟩], [], [⟨6, 1⟩]⟩,
                ask := ⟨[⟨0, 10⟩], [], []⟩, fee := none })] := by
  rw [w721, w, c18State_eq]; decide +kernel
theorem w721_buckets : w721.mkt.buckets = w.mkt.buckets := by rw [w721, w, c18State_eq]; decide

end ForgeEx

/-- the forged calls are accepted in a state with `IdsInv` (hypotheses of the theorems) -/
example : IdsInv ForgeEx.w.mkt ∧ (step ForgeEx.w forge20Bucket).2.ok = true ∧
    (step ForgeEx.w forge721Listing).2.ok = true ∧
    forge20Bucket = .exec 6 [] (.receive (.valid 1) 5 (some (.addToBucket 3))) ∧
    forge721Listing = .exec 6 [] (.receiveNft (.valid 1) 1 (some (.addToListing 5))) :=
  ⟨ForgeEx.w_ids, C18_forged_accepted.1, C18_counterexample_listing.2.2.1, rfl, rfl⟩

example : changedRecords ForgeEx.w ForgeEx.w20 6 = ["bucket"] := by decide +kernel


example : changedRecords ForgeEx.w ForgeEx.w721 6 = ["listing:prep"] := by decide +kernel

/-- the classification is not trivially "confined": a post-state in which another entry of the
    bucket changed as well gets the suffix -/
example : changedRecords ForgeEx.w ForgeEx.wBeyond 6 = ["bucket!beyond"] := by decide +kernel

/-- … and a post-state in which the bucket is gone is reported as removed -/
example : changedRecords ForgeEx.w { ForgeEx.w with mkt := { ForgeEx.w.mkt with buckets := [] } } 6 =
    ["bucket:removed"] := by decide +kernel

#print axioms filter_addCoin
#print axioms stripCaller_addTokens
#print axioms stripCaller_addNft
#print axioms changedRecords_same
#print axioms changedRecords_confined
#print axioms changedRecords_hook
#print axioms sound_forge_confined_funds
#print axioms sound_forge_confined
#print axioms sound_forge_confined_nft_funds
#print axioms sound_forge_confined_nft
#print axioms sound_forge_refused
#print axioms ForgeEx.w_ids
#print axioms ForgeEx.w_listings
#print axioms ForgeEx.w_buckets
#print axioms ForgeEx.w20_listings
#print axioms ForgeEx.w20_buckets
#print axioms ForgeEx.w721_listings
#print axioms ForgeEx.w721_buckets

end Fuzion
