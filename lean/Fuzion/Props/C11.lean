/-
  C11 — "Royalties never take more than half of any traded amount" (arithmetic half).

  The 50 % gate of `GenericBalance::royalties` (state.rs) and its consequence for every escrowed
  amount.  That every purchase passes through this gate on both sides is `Props/C11Reach.lean`.
  Helper lemmas are in `Fuzion/Lemmas/Arith.lean`.
-/
import Fuzion.Props.C17
namespace Fuzion

/-- "the royalty rates of one side sum to at most 50 %": a rate sum above 5000 bps never yields a
    royalty split (the call errs, or aborts if the `u64` sum overflows). -/
theorem C11_gate_balance {g : GBal} {rs : List (Option RoyaltyInfo)} (h : bpsSum rs > 5000) :
    ∀ g' ms s, royalties g rs ≠ .ok g' ms s :=
  fun _ _ _ e => Nat.not_lt.2 (royalties_closed e).2.1 h

example : bpsSum exRoyOver > 5000 := by decide

/-- `C11_gate_balance` read from the result: a successful split reports the rate sum, and it is
    at most 5000 bps (the converse, acceptance below the gate, is `C17_roy_total_any`) -/
theorem C11_gate_ok {g g' : GBal} {rs : List (Option RoyaltyInfo)} {ms : List OutMsg} {s : Nat}
    (h : royalties g rs = .ok g' ms s) : s = bpsSum rs ∧ s ≤ 5000 :=
  let ⟨hs, h5, _⟩ := royalties_closed h
  ⟨hs, hs ▸ h5⟩

example : royalties exBal exRoy = .ok exBalRoy exMsgs 310 := by rfl

/-- "exactly 50 % is allowed": a rate sum of exactly 5000 bps is accepted, for every balance
    (no bound on the amounts is needed). -/
theorem C11_gate_exact_half (g : GBal) {rs : List (Option RoyaltyInfo)} (h : bpsSum rs = 5000) :
    ∃ g' ms, royalties g rs = .ok g' ms 5000 :=
  h ▸ C17_roy_total_any g (Nat.le_of_eq h)

example : bpsSum exRoyHalf = 5000 := by decide
example : royalties exBalMax exRoyHalf = .ok exBalMaxRoy exMsgsMax 5000 := by rfl

/-- "royalties never take more than half of any traded amount", native coins, position by
    position: the i-th coin keeps its denomination, its amount does not grow, what was taken from
    it is at most half of it, and a non-zero amount stays non-zero.  Holds for any balance
    (bounded or not, duplicates or not). -/
theorem C11_half_native {g g' : GBal} {rs : List (Option RoyaltyInfo)} {ms : List OutMsg} {s : Nat}
    (h : royalties g rs = .ok g' ms s) :
    g'.native.length = g.native.length ∧
    ∀ i (h₁ : i < g.native.length) (h₂ : i < g'.native.length),
      g'.native[i].key = g.native[i].key ∧
      g'.native[i].amount ≤ g.native[i].amount ∧
      2 * (g.native[i].amount - g'.native[i].amount) ≤ g.native[i].amount ∧
      (1 ≤ g.native[i].amount → 1 ≤ g'.native[i].amount) := by
  obtain ⟨_, h5, rfl, _⟩ := royalties_closed h
  exact map_royRem_half h5 _

example : royalties exBal exRoy = .ok exBalRoy exMsgs 310 := by rfl

/-- "royalties never take more than half of any traded amount", CW20 amounts, position by
    position (same statement as `C11_half_native`). -/
theorem C11_half_cw20 {g g' : GBal} {rs : List (Option RoyaltyInfo)} {ms : List OutMsg} {s : Nat}
    (h : royalties g rs = .ok g' ms s) :
    g'.cw20.length = g.cw20.length ∧
    ∀ i (h₁ : i < g.cw20.length) (h₂ : i < g'.cw20.length),
      g'.cw20[i].key = g.cw20[i].key ∧
      g'.cw20[i].amount ≤ g.cw20[i].amount ∧
      2 * (g.cw20[i].amount - g'.cw20[i].amount) ≤ g.cw20[i].amount ∧
      (1 ≤ g.cw20[i].amount → 1 ≤ g'.cw20[i].amount) := by
  obtain ⟨_, h5, rfl, _⟩ := royalties_closed h
  exact map_royRem_half h5 _

example : royalties exBal exRoy = .ok exBalRoy exMsgs 310 := by rfl

/-- "royalties never take more than half of any traded amount", per asset: everything the payout
    messages send in one native denomination / one CW20 token is at most half of what the balance
    held in it. -/
theorem C11_half_total {g g' : GBal} {rs : List (Option RoyaltyInfo)} {ms : List OutMsg} {s : Nat}
    (h : royalties g rs = .ok g' ms s) :
    (∀ k, 2 * outNative ms k ≤ coinAmt g.native k) ∧ (∀ k, 2 * outCw20 ms k ≤ coinAmt g.cw20 k) :=
  ⟨fun k => (royalties_paid_native (fNative_mkBank k) (fNative_mkCw20 k) h).2,
   fun k => (royalties_paid_cw20 (fCw20_mkBank k) (fCw20_mkCw20 k) h).2⟩

example : royalties exBal exRoy = .ok exBalRoy exMsgs 310 := by rfl

/-- "no escrowed amount is ever reduced to zero": a well-formed balance stays well-formed under
    the royalty split (amounts stay non-zero, keys, NFTs and the asset count are unchanged). -/
theorem C11_wf {g g' : GBal} {rs : List (Option RoyaltyInfo)} {ms : List OutMsg} {s : Nat}
    (wf : wfBal g = true) (h : royalties g rs = .ok g' ms s) : wfBal g' = true := by
  obtain ⟨_, h5, rfl, _⟩ := royalties_closed h
  rw [wfBal_iff] at wf ⊢
  obtain ⟨w1, w2, w3, w4, w5, w6⟩ := wf
  -- an amount that loses at most half stays non-zero
  have hnz : ∀ a r, a ≠ 0 → 2 * r ≤ a → a - r ≠ 0 :=
    fun a r ha hr => Nat.ne_of_gt ((half_kept hr).1 (Nat.pos_of_ne_zero ha))
  refine ⟨map_royRem_forall hnz h5 w1, map_royRem_forall hnz h5 w2, ?_, ?_, ?_, w6⟩
  · simp only [GBal.count, List.length_map] at w3 ⊢; exact w3
  · rw [keys_map_royRem]; exact w4
  · rw [keys_map_royRem]; exact w5

example : wfBal exBal = true ∧ royalties exBal exRoy = .ok exBalRoy exMsgs 310 := ⟨by decide, by rfl⟩

/-- "also after the fee": the 0.5 % fee never reduces a non-zero amount to zero. -/
theorem C11_after_fee {a : Nat} (h : 1 ≤ a) : 1 ≤ a - a * 5 / 1000 := fee_rem_pos h

example : (1 : Nat) ≤ 1 ∧ (1 : Nat) ≤ 199 ∧ (1 : Nat) ≤ U128MAX := by decide

/-- "also after the fee", combined: fee split followed by a royalty split of a well-formed balance
    leaves a well-formed balance (no escrowed amount is reduced to zero by either step). -/
theorem C11_wf_fee_then_roy {fd : Nat} {g g₁ g₂ : GBal} {fee : Option Coin}
    {rs : List (Option RoyaltyInfo)} {ms : List OutMsg} {s : Nat}
    (wf : wfBal g = true) (hf : calcFeeCoin fd g = some (fee, g₁))
    (hr : royalties g₁ rs = .ok g₂ ms s) : wfBal g₂ = true :=
  C11_wf (C17_fee_wf wf hf) hr

example : wfBal exBal = true ∧ calcFeeCoin 1 exBal = some (some ⟨1, 5⟩, exBalFee) ∧
    royalties exBalFee exRoy =
      .ok ⟨[⟨2, 7⟩, ⟨1, 966⟩], [⟨9, 48450⟩], [⟨3, 4⟩]⟩
        [.bankSend 7 [⟨1, 29⟩], .cw20Transfer 9 7 1500, .cw20Transfer 9 8 50] 310 :=
  ⟨by decide, by decide, by rfl⟩

#print axioms C11_gate_balance
#print axioms C11_gate_ok
#print axioms C11_gate_exact_half
#print axioms C11_half_native
#print axioms C11_half_cw20
#print axioms C11_half_total
#print axioms C11_wf
#print axioms C11_after_fee
#print axioms C11_wf_fee_then_roy

end Fuzion
