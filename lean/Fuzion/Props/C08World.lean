/-
  Fuzion.Props.C08World — the acceptance conditions of C08 ("A finalized listing is an immutable,
  binding offer until it expires") for whole transactions on the chain (`step`).

  Property text (C08):  The owner of a listing still in preparation can finalize it for exactly the
  lifetimes between 600 and 1209600 seconds (bounds included); afterwards the listing's goods,
  ask, whitelist and expiration never change and the seller cannot take it back before the
  expiration time.  A listing's status only moves forward …

  Props/C08.lean proves the handler-level statements and the frame over transactions.  Here the
  two acceptance conditions are stated for the transaction itself — handler *and* delivery of the
  emitted messages.  `Finalize` emits no message, so nothing can fail on the chain side.  That the
  seller's `DeleteListing` succeeds from the expiration on needs the chain to accept the pay-out of
  the goods: `C07_exit_step_listing`, under the run-level invariants `C01Inv` (the marketplace holds
  what it recorded) and `CleanRecords` (honest assets).
-/
import Fuzion.Lemmas.WorldLemmas
import Fuzion.Props.C08
import Fuzion.Props.C07
namespace Fuzion

/-! ### sample worlds (prefixes of the sample history `AcctEx.ops` of C01, hence reached) -/

namespace C08WEx

/-- listing 3 of account 1 is in preparation (1000 of denom 1, 400 of token 50, NFT (60, 7)) -/
def wPrep : World := run AcctEx.w0 (AcctEx.ops.take 3)
/-- … and has just been finalized for 600 s at t = 100 s: it expires at t = 700 s -/
def wFin : World := run AcctEx.w0 (AcctEx.ops.take 4)
/-- the same world 600 s later: the expiration instant -/
def wExp : World := (step wFin (.advance (600 * NS) 0)).1

theorem wPrep_reach : Reach wPrep := C07_reach_run _ C07Ex.w0_reach (by decide)
theorem wFin_reach : Reach wFin := C07_reach_run _ C07Ex.w0_reach (by decide)
theorem wExp_reach : Reach wExp := C07_reach_step wFin_reach (by decide) trivial

end C08WEx

/-! ### finalize -/

/-- "The owner of a listing still in preparation can finalize it for exactly the lifetimes between
    600 and 1209600 seconds (bounds included)", for the transaction, under the storage invariants
    `IdsInv` (C09) and `WFInv` (C12). -/
theorem C08_finalize_step_iff {w : World} {k : Nat × Nat} {l : Listing} (secs : Nat)
    (hI : IdsInv w.mkt) (hW : WFInv w.junoD w.usdcD w.mkt) (hm : (k, l) ∈ w.mkt.listings)
    (hs : l.status = .preparing) :
    (step w (.exec l.creator [] (.finalize l.id secs))).2.ok = true ↔
      MIN_LIFE ≤ secs ∧ secs ≤ TWO_WEEKS := by
  obtain rfl : k = (l.creator, l.id) := hI.lfiled _ hm
  have hl := mem_nodup_alookup hI.lkeys hm
  obtain ⟨hf, _, hc, _⟩ := wfListing_preparing (hW.listing hl) hs
  refine (step_exec_silent_iff fun h => ?_).trans (C08_finalize_iff hl rfl hs hf hc)
  obtain ⟨_, _, _, _, _, _, _, _, _, ho⟩ := finalize_ok_iff.1 h  -- the last clause: `out = []`
  exact ho

theorem C08_finalize_step_iff_lit {w : World} {k : Nat × Nat} {l : Listing} (secs : Nat)
    (hI : IdsInv w.mkt) (hW : WFInv w.junoD w.usdcD w.mkt) (hm : (k, l) ∈ w.mkt.listings)
    (hs : l.status = .preparing) :
    (step w (.exec l.creator [] (.finalize l.id secs))).2.ok = true ↔ 600 ≤ secs ∧ secs ≤ 1209600 :=
  C08_finalize_step_iff secs hI hW hm hs

/-- non-vacuity of `C08_finalize_step_iff`: the reached sample world has a preparing listing; 600
    and 1209600 seconds are accepted, 599 and 1209601 are refused -/
example : IdsInv C08WEx.wPrep.mkt ∧ WFInv C08WEx.wPrep.junoD C08WEx.wPrep.usdcD C08WEx.wPrep.mkt ∧
    (∃ p ∈ C08WEx.wPrep.mkt.listings, p.2.status = .preparing ∧ p.2.creator = 1 ∧ p.2.id = 3) ∧
    (step C08WEx.wPrep (.exec 1 [] (.finalize 3 600))).2.ok = true ∧
    (step C08WEx.wPrep (.exec 1 [] (.finalize 3 1209600))).2.ok = true ∧
    (step C08WEx.wPrep (.exec 1 [] (.finalize 3 599))).2.ok = false ∧
    (step C08WEx.wPrep (.exec 1 [] (.finalize 3 1209601))).2.ok = false :=
  ⟨C08WEx.wPrep_reach.inv.ids, C08WEx.wPrep_reach.inv.wf, by decide +kernel⟩

theorem C08_finalize_step_effect {w : World} {k : Nat × Nat} {l : Listing} {secs : Nat}
    (hI : IdsInv w.mkt) (hW : WFInv w.junoD w.usdcD w.mkt) (hm : (k, l) ∈ w.mkt.listings)
    (hs : l.status = .preparing) (h1 : MIN_LIFE ≤ secs) (h2 : secs ≤ TWO_WEEKS) :
    step w (.exec l.creator [] (.finalize l.id secs)) =
      ({ w with mkt := { w.mkt with listings :=
          (ainsert k { l with finalizedAt := some w.nowNs, expiresAt := some (w.nowNs + secs * NS),
                              status := .finalized } w.mkt.listings) } },
       ⟨true, none, []⟩) := by
  obtain rfl : k = (l.creator, l.id) := hI.lfiled _ hm
  have hl := mem_nodup_alookup hI.lkeys hm
  obtain ⟨hf, _, hc, _⟩ := wfListing_preparing (hW.listing hl) hs
  exact step_exec_nil_of (finalize_ok_iff.2 ⟨l, hl, rfl, hf, hs, hc, h1, h2, rfl, rfl⟩) rfl

/-- "only that listing changes" -/
theorem C08_finalize_step_only {w : World} {k : Nat × Nat} {l : Listing} {secs : Nat}
    (hI : IdsInv w.mkt) (hW : WFInv w.junoD w.usdcD w.mkt) (hm : (k, l) ∈ w.mkt.listings)
    (hs : l.status = .preparing) (h1 : MIN_LIFE ≤ secs) (h2 : secs ≤ TWO_WEEKS) :
    let w' := (step w (.exec l.creator [] (.finalize l.id secs))).1
    (∃ l', alookup k w'.mkt.listings = some l' ∧ l'.status = .finalized ∧
      l'.finalizedAt = some w.nowNs ∧ l'.expiresAt = some (w.nowNs + secs * NS) ∧
      l'.forSale = l.forSale ∧ l'.ask = l.ask ∧ l'.whitelist = l.whitelist ∧
      l'.creator = l.creator ∧ l'.id = l.id ∧ l'.claimant = l.claimant ∧ l'.fee = l.fee) ∧
    (∀ k', k' ≠ k → alookup k' w'.mkt.listings = alookup k' w.mkt.listings) ∧
    w'.mkt.buckets = w.mkt.buckets ∧ w'.mkt.listingUsed = w.mkt.listingUsed ∧
    w'.mkt.bucketUsed = w.mkt.bucketUsed ∧ w'.bank = w.bank ∧ w'.cw20 = w.cw20 ∧ w'.nft = w.nft ∧
    w'.nowNs = w.nowNs := by
  intro w'
  have e : w' = _ := congrArg Prod.fst (C08_finalize_step_effect hI hW hm hs h1 h2)
  rw [e]
  refine ⟨⟨_, alookup_ainsert_self _ _ _, rfl, rfl, rfl, rfl, rfl, rfl, rfl, rfl, rfl, rfl⟩,
    fun k' hk' => alookup_ainsert_ne hk' _ _, rfl, rfl, rfl, rfl, rfl, rfl, rfl⟩

example : IdsInv C08WEx.wPrep.mkt ∧ WFInv C08WEx.wPrep.junoD C08WEx.wPrep.usdcD C08WEx.wPrep.mkt ∧
    (∃ p ∈ C08WEx.wPrep.mkt.listings, p.2.status = .preparing) ∧ MIN_LIFE ≤ 600 ∧ 600 ≤ TWO_WEEKS :=
  ⟨C08WEx.wPrep_reach.inv.ids, C08WEx.wPrep_reach.inv.wf, by decide +kernel⟩

theorem C08_finalize_step_others {w : World} {k : Nat × Nat} {l : Listing} (s secs : Nat)
    (hI : IdsInv w.mkt) (hm : (k, l) ∈ w.mkt.listings) (hne : s ≠ l.creator) :
    (step w (.exec s [] (.finalize l.id secs))).2.ok = false :=
  have h : execute w.mkt w.env s [] (.finalize l.id secs) = .error .notFound :=
    (C04_refused_listing hI (hI.findById_iff.2 ⟨hm, rfl⟩) hne).2.1 secs
  (stepF_refused rfl h).1  -- `step` is `stepF noFault`

example : IdsInv C08WEx.wPrep.mkt ∧ (∃ p ∈ C08WEx.wPrep.mkt.listings, p.2.id = 3 ∧ 2 ≠ p.2.creator) ∧
    (step C08WEx.wPrep (.exec 2 [] (.finalize 3 600))).2.ok = false :=
  ⟨C08WEx.wPrep_reach.inv.ids, by decide +kernel⟩

/-! ### the seller cannot take the offer back before it expires -/

theorem C08_finalized_has_expiry {m : Market} {j u : Nat} (hW : WFInv j u m) {k : Nat × Nat}
    {l : Listing} (hm : (k, l) ∈ m.listings) (hs : l.status = .finalized) :
    ∃ e, l.expiresAt = some e := by
  obtain ⟨_, e, _, he, _⟩ := wfTimes_spec (wfListing_finalized (hW.lwf (k, l) hm) hs).1
  exact ⟨e, he⟩

/-- `C08_step_binding` for a stored record -/
theorem C08_delete_step_refused {w : World} {k : Nat × Nat} {l : Listing} {e : Nat}
    (hI : IdsInv w.mkt) (hm : (k, l) ∈ w.mkt.listings) (he : l.expiresAt = some e)
    (hnow : w.nowNs < e) :
    (step w (.exec l.creator [] (.deleteListing l.id))).2.ok = false ∧
    (step w (.exec l.creator [] (.deleteListing l.id))).1 = w :=
  C08_step_binding l.creator [] hI (hI.findById_iff.2 ⟨hm, rfl⟩) he hnow

example : IdsInv C08WEx.wFin.mkt ∧
    (∃ p ∈ C08WEx.wFin.mkt.listings, p.2.expiresAt = some (700 * NS)) ∧
    C08WEx.wFin.nowNs < 700 * NS :=
  ⟨C08WEx.wFin_reach.inv.ids, by decide +kernel⟩

/-- the accepted half, with its effect: `C07_exit_step_listing` for an unsold listing, which carries
    no fee -/
theorem C08_delete_step_effect {w : World} {k : Nat × Nat} {l : Listing} {e : Nat} (hInv : C01Inv w)
    (hC : CleanRecords w) (hm : (k, l) ∈ w.mkt.listings) (hs : l.status = .finalized)
    (he : l.expiresAt = some e) (hle : e ≤ w.nowNs) :
    (step w (.exec l.creator [] (.deleteListing l.id))).2.ok = true ∧
    (step w (.exec l.creator [] (.deleteListing l.id))).2.msgs = sendTokens l.creator l.forSale ∧
    (step w (.exec l.creator [] (.deleteListing l.id))).1.mkt =
      { w.mkt with listings := aerase k w.mkt.listings } ∧
    CoreEq w (step w (.exec l.creator [] (.deleteListing l.id))).1 := by
  have hfee : l.fee = none := (wfListing_finalized (hInv.wf.lwf (k, l) hm) hs).2.2
  have h := C07_exit_step_listing hInv hm
    (fun _ e' he' => by rw [he] at he'; cases he'; exact hle) (hC.listing hm).1
  simpa only [Listing.exitMsg, hs, hfee, withdrawMsgs_none] using h

/-- "The seller cannot take it back before the expiration time" — and can from then on, in a world
    satisfying the run-level invariants `C01Inv` and `CleanRecords`. -/
theorem C08_delete_step_iff {w : World} {k : Nat × Nat} {l : Listing} {e : Nat} (hInv : C01Inv w)
    (hC : CleanRecords w) (hm : (k, l) ∈ w.mkt.listings) (hs : l.status = .finalized)
    (he : l.expiresAt = some e) :
    (step w (.exec l.creator [] (.deleteListing l.id))).2.ok = true ↔ e ≤ w.nowNs := by
  constructor
  · intro hok
    refine Nat.le_of_not_lt fun hlt => ?_
    rw [(C08_delete_step_refused hInv.ids hm he hlt).1] at hok
    cases hok
  · exact fun hle => (C08_delete_step_effect hInv hC hm hs he hle).1

/-- non-vacuity of `C08_delete_step_iff`: the reached sample world `wFin` holds a finalized listing
    expiring at 700 s; at 100 s the seller's delete is refused, at exactly 700 s (`wExp`) it is
    accepted -/
example : C01Inv C08WEx.wFin ∧ CleanRecords C08WEx.wFin ∧
    (∃ p ∈ C08WEx.wFin.mkt.listings, p.2.status = .finalized ∧ p.2.expiresAt = some (700 * NS) ∧
      p.2.creator = 1 ∧ p.2.id = 3) ∧ C08WEx.wFin.nowNs = 100 * NS ∧
    (step C08WEx.wFin (.exec 1 [] (.deleteListing 3))).2.ok = false ∧
    C01Inv C08WEx.wExp ∧ CleanRecords C08WEx.wExp ∧ C08WEx.wExp.nowNs = 700 * NS ∧
    (step C08WEx.wExp (.exec 1 [] (.deleteListing 3))).2.ok = true :=
  ⟨C08WEx.wFin_reach.inv, C08WEx.wFin_reach.clean, by decide +kernel, by decide +kernel,
   by decide +kernel, C08WEx.wExp_reach.inv, C08WEx.wExp_reach.clean, by decide +kernel⟩

/-- the messages of `C08_delete_step_effect` at `wExp` are the goods -/
example : (step C08WEx.wExp (.exec 1 [] (.deleteListing 3))).2.msgs =
    [.bankSend 1 [⟨1, 1000⟩], .cw20Transfer 50 1 400, .nftTransfer 60 7 1] := by decide +kernel

#print axioms C08_finalize_step_iff
#print axioms C08_finalize_step_iff_lit
#print axioms C08_finalize_step_effect
#print axioms C08_finalize_step_only
#print axioms C08_finalize_step_others
#print axioms C08_finalized_has_expiry
#print axioms C08_delete_step_iff
#print axioms C08_delete_step_refused
#print axioms C08_delete_step_effect
#print axioms C08WEx.wPrep_reach
#print axioms C08WEx.wFin_reach
#print axioms C08WEx.wExp_reach

end Fuzion
