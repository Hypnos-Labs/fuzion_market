/-
  Fuzion.Props.C02World — C02 ("A purchase succeeds exactly when the seller's published terms are
  met") for whole transactions on the chain, **without** the "every emitted message can be
  delivered" hypothesis of `C02_step_if` / `C02_step_iff` (Props/C02.lean).

  Property text (C02): A purchase succeeds if and only if the listing is finalized, unsold and
  not past its expiration, the caller is the whitelisted buyer when one is set, the caller owns
  the bucket, the bucket's contents equal the ask exactly (same assets and amounts, nothing extra
  or missing, in any order) and the royalties due on each side do not exceed 50%.  Otherwise it is
  refused with no effect; behaviour at the exact expiration instant is not constrained.

  An accepted `buy` emits the paying bucket's old pending fee (a community-pool deposit) and the
  royalty payments of both sides (one bank send per coin and payee, one CW20 transfer per token
  amount and payee).  The chain accepts all of them, in order, in every world satisfying the proved
  reachable invariants
    * `C01Inv w`  (Props/C01.lean; used: ids, well-formed records, "held = promised"), and
    * `CleanRecords w` (Props/C07.lean: recorded CW20 entries name honest tokens),
  by the budget argument `dispatchAll_ok_of_budget` (Lemmas/Ledgers.lean):
    – each message is `deliverable`: the fee coin of a well-formed record is non-zero and deposited
      by the marketplace itself; royalty amounts are non-zero (`royLoop` skips zero shares); the
      tokens are tokens of the two traded records, hence honest; no NFT is transferred;
    – per native denomination and per honest token the *total* the list pays is at most what the
      records promised before the purchase (`buy_acct`: promised-before = promised-after + paid;
      the pending fee is part of "promised"), which is exactly what the marketplace holds (C01).
  No bound on amounts and no condition on the payout addresses is needed (a payment addressed to the
  marketplace itself would only leave it richer); of `C01Inv` only `ids`, `wf` and the native / CW20
  parts of `backed` are used.  Both invariants hold in every state reached by a history of unforged
  operations that avoid the marketplace's own address (`C07_reach_run`), and the stored registry
  address stays the real one (`run_registry_real`).
-/
import Fuzion.Lemmas.WorldLemmas
import Fuzion.Props.C02
import Fuzion.Props.C07Closed
namespace Fuzion

/-! ### sample worlds for the non-vacuity examples -/

namespace C02WEx

/-- the sample history of C01 (`AcctEx.ops`) up to, not including, the purchase: listing 3 of
    account 1 (1000 of denom 1, 400 of honest token 50, honest NFT (60, 7)) is finalized, bucket 8
    of account 2 holds the ask, collection 60 pays 2.5 % royalties to account 6 -/
def wBefore : World := run AcctEx.w0 (AcctEx.ops.take 6)

theorem wBefore_reach : Reach wBefore := C07_reach_run _ C07Ex.w0_reach (by decide)

/-- a short history from the deployment `deployedEx` (Props/C01Closed.lean): account 1 lists 10 of
    denom 0 for 10 of denom 2, finalizes, and fills a bucket with the ask -/
def opsD : List Op :=
  [ .exec 1 [⟨0, 10⟩] (.createListing 4 ⟨⟨[⟨2, 10⟩], [], []⟩, none⟩),
    .exec 1 [] (.finalize 4 600),
    .exec 1 [⟨2, 10⟩] (.createBucket 5) ]

end C02WEx

/-- the history of the examples of Props/Summary.lean, Props/Entitlement.lean and
    Props/C15Reach.lean: after `C02WEx.opsD` account 1 buys its own listing with the bucket, a week
    and a second pass, account 77 switches the fee denomination, and account 1 withdraws the
    purchased goods -/
def SummaryEx.ops : List Op :=
  C02WEx.opsD ++ [.exec 1 [] (.buy 4 5), .advance (604801 * NS) 1, .exec 77 [] .feeCycle,
    .exec 1 [] (.withdrawPurchased 4)]

/-! ### the chain accepts the messages of a purchase -/

/-- the budget argument for a list without NFT transfers; for any handler -/
theorem C02_dispatch_budget {w : World} {ms : List OutMsg} (hdel : ∀ x ∈ ms, x.deliverable w)
    (hn : ∀ d, paidNative ms d ≤ lget w.bank (w.self, d))
    (hc : ∀ t, w.isHonest20 t = true → paidCw20 ms t ≤ lget w.cw20 (t, w.self)) :
    (dispatchAll noFault w ms 0).isSome = true :=
  have hs := sentNfts_of_deliverable hdel
  Option.isSome_iff_exists.2 (dispatchAll_ok_of_budget 0 (fun x hx => (hdel x hx).sendable) hn hc
    (hs ▸ List.nodup_nil) (hs ▸ nofun))

/-- non-vacuity of `C02_dispatch_budget`: a pool deposit, two bank sends in the same denomination
    and a CW20 transfer, against a wallet that covers exactly their total -/
example :
    let w : World := { AcctEx.wd with bank := [((100, 1), 12)], cw20 := [((50, 100), 3)] }
    let ms : List OutMsg := [.fundPool 100 ⟨1, 4⟩, .bankSend 9 [⟨1, 5⟩], .bankSend 8 [⟨1, 3⟩], .cw20Transfer 50 9 3]
    (∀ x ∈ ms, x.deliverable w) ∧ paidNative ms 1 = 12 ∧ paidCw20 ms 50 = 3 ∧
      (dispatchAll noFault w ms 0).isSome = true := by
  refine ⟨?_, by decide +kernel⟩
  intro x hx
  simp only [List.mem_cons, List.not_mem_nil, or_false] at hx
  rcases hx with rfl | rfl | rfl | rfl
  · exact ⟨rfl, by decide⟩
  · exact ⟨_, List.mem_cons_self, by decide⟩
  · exact ⟨_, List.mem_cons_self, by decide⟩
  · exact ⟨by decide, by decide⟩

/-- the hypothesis `hd` of `C02_step_if`, proved -/
theorem C02_buy_dispatch_ok {w : World} {buyer lid bid : Nat} {m' : Market} {msgs : List OutMsg}
    (hInv : C01Inv w) (hC : CleanRecords w)
    (h : buy w.mkt w.env buyer lid bid = .ok (m', msgs)) :
    (dispatchAll noFault { w with mkt := m' } msgs 0).isSome = true :=
  -- `buy_acct` (Lemmas/AcctLemmas.lean): promised before = promised after + paid; `Acct.budget`
  -- drops "promised after": paid ≤ promised before, which is held (`backed`)
  have ⟨hbn, hbc⟩ := (buy_acct hInv.ids hInv.wf h).budget
  C02_dispatch_budget (w := { w with mkt := m' })
    (buy_deliverable (w := w) hInv.wf (fun p hp => (hC.lst p hp).1.cw20)
      (fun p hp => (hC.bkt p hp).1.cw20) h)
    (fun d => Nat.le_trans (hbn d) (Nat.le_of_eq (hInv.backed.1 d).symm))
    (fun t ht => Nat.le_trans (hbc t) (Nat.le_of_eq (hInv.backed.2.1 t ht).symm))

/-- non-vacuity of `C02_buy_dispatch_ok`: the reached sample world satisfies the invariants, the
    purchase of listing 3 with bucket 8 is accepted by the handler and emits a royalty payment -/
example : C01Inv C02WEx.wBefore ∧ CleanRecords C02WEx.wBefore ∧
    (buy C02WEx.wBefore.mkt C02WEx.wBefore.env 2 3 8).isOk = true ∧
    (step C02WEx.wBefore (.exec 2 [] (.buy 3 8))).2.msgs = [.bankSend 6 [⟨2, 50⟩]] :=
  ⟨C02WEx.wBefore_reach.inv, C02WEx.wBefore_reach.clean, by decide +kernel⟩

/-! ### the transaction -/

/-- "A purchase succeeds **if** …", for a whole transaction, with no hypothesis about delivery -/
theorem C02_step_if_world {w : World} {buyer lid bid : Nat} (hInv : C01Inv w) (hC : CleanRecords w)
    (hreg : w.mkt.registry = some w.regAddr) (hT : BuyTerms w.mkt w.env buyer lid bid) :
    (step w (.exec buyer [] (.buy lid bid))).2.ok = true :=
  C02_step_if hreg hT (fun _ _ h => C02_buy_dispatch_ok hInv hC h)

example : C01Inv C02WEx.wBefore ∧ CleanRecords C02WEx.wBefore ∧
    C02WEx.wBefore.mkt.registry = some C02WEx.wBefore.regAddr ∧
    BuyTerms C02WEx.wBefore.mkt C02WEx.wBefore.env 2 3 8 :=
  ⟨C02WEx.wBefore_reach.inv, C02WEx.wBefore_reach.clean, by decide +kernel,
   (C02_oracle _ _ _ _).1 (by decide +kernel)⟩

/-- "A purchase succeeds if and only if …" (`BuyTerms`), for the transaction
    `ExecuteMsg::BuyListing` (no coins attached) on the chain: handler, bank and token contracts
    together.  Hypotheses: the run-level invariants `C01Inv`, `CleanRecords`, and the marketplace
    stores the address of the real registry. -/
theorem C02_step_iff_world {w : World} {buyer lid bid : Nat} (hInv : C01Inv w) (hC : CleanRecords w)
    (hreg : w.mkt.registry = some w.regAddr) :
    (step w (.exec buyer [] (.buy lid bid))).2.ok = true ↔ BuyTerms w.mkt w.env buyer lid bid :=
  C02_step_iff hreg (fun _ _ h => C02_buy_dispatch_ok hInv hC h)

/-- non-vacuity of `C02_step_iff_world`: in the reached sample world both sides occur — bucket 8
    of account 2 buys listing 3, account 1 (who owns no such bucket) does not -/
example : C01Inv C02WEx.wBefore ∧ CleanRecords C02WEx.wBefore ∧
    C02WEx.wBefore.mkt.registry = some C02WEx.wBefore.regAddr ∧
    (step C02WEx.wBefore (.exec 2 [] (.buy 3 8))).2.ok = true ∧
    (step C02WEx.wBefore (.exec 1 [] (.buy 3 8))).2.ok = false :=
  ⟨C02WEx.wBefore_reach.inv, C02WEx.wBefore_reach.clean, by decide +kernel⟩

/-- … with coins attached or not, and "otherwise it is refused with no effect" -/
theorem C02_step_world {w : World} {buyer lid bid : Nat} {funds : List Coin} (hInv : C01Inv w)
    (hC : CleanRecords w) (hreg : w.mkt.registry = some w.regAddr) :
    ((step w (.exec buyer funds (.buy lid bid))).2.ok = true ↔
      funds = [] ∧ BuyTerms w.mkt w.env buyer lid bid) ∧
    ((step w (.exec buyer funds (.buy lid bid))).2.ok = false →
      (step w (.exec buyer funds (.buy lid bid))).1 = w) := by
  refine ⟨?_, C02_refused_noop w _⟩
  by_cases hf : funds = []
  · subst hf
    rw [C02_step_iff_world hInv hC hreg]
    simp
  · rw [C02_step_funds hf]
    simp [hf]

/-- non-vacuity of `C02_step_world`: with a coin attached the same purchase is refused -/
example : (step C02WEx.wBefore (.exec 2 [⟨2, 1⟩] (.buy 3 8))).2.ok = false := by decide +kernel

/-! ### every reachable state -/

/-- `C02_step_iff_world` after any history from a world with `Reach` (`C01Inv` and `CleanRecords`)
    that stores the real registry address, if no operation is signed by the marketplace or registers
    it as payout address (`Op.avoids`) or calls a receive hook directly (`Op.unforged`) -/
theorem C02_step_iff_reach {w0 : World} (h0 : Reach w0) (hreg : w0.mkt.registry = some w0.regAddr)
    (ops : List Op) (hops : ∀ op ∈ ops, op.avoids w0.self ∧ op.unforged) (buyer lid bid : Nat) :
    (step (run w0 ops) (.exec buyer [] (.buy lid bid))).2.ok = true ↔
      BuyTerms (run w0 ops).mkt (run w0 ops).env buyer lid bid := by
  have hr := C07_reach_run ops h0 hops
  exact C02_step_iff_world hr.inv hr.clean (run_registry_real hreg ops)

example : Reach AcctEx.w0 ∧ AcctEx.w0.mkt.registry = some AcctEx.w0.regAddr ∧
    (∀ op ∈ AcctEx.ops.take 6, op.avoids AcctEx.w0.self ∧ op.unforged) ∧
    (step (run AcctEx.w0 (AcctEx.ops.take 6)) (.exec 2 [] (.buy 3 8))).2.ok = true :=
  ⟨C07Ex.w0_reach, rfl, by decide +kernel⟩

/-- … from a freshly deployed marketplace that was given the address of the real registry: what
    `instantiate` + `reply` establish -/
theorem C02_step_iff_deployed {w0 : World} (h0 : Deployed w0)
    (hreg : w0.mkt.registry = some w0.regAddr) (ops : List Op)
    (hops : ∀ op ∈ ops, op.avoids w0.self ∧ op.unforged) (buyer lid bid : Nat) :
    (step (run w0 ops) (.exec buyer [] (.buy lid bid))).2.ok = true ↔
      BuyTerms (run w0 ops).mkt (run w0 ops).env buyer lid bid :=
  C02_step_iff_reach (Reach_deployed h0) hreg ops hops buyer lid bid

/-- non-vacuity of `C02_step_iff_deployed`: from the sample deployment, after listing, finalizing
    and filling a bucket, the purchase with that bucket is accepted, with another id refused -/
example : Deployed deployedEx ∧ deployedEx.mkt.registry = some deployedEx.regAddr ∧
    (∀ op ∈ C02WEx.opsD, op.avoids deployedEx.self ∧ op.unforged) ∧
    (step (run deployedEx C02WEx.opsD) (.exec 1 [] (.buy 4 5))).2.ok = true ∧
    (step (run deployedEx C02WEx.opsD) (.exec 1 [] (.buy 4 6))).2.ok = false :=
  ⟨C02WEx.deployedEx_ok, rfl, by decide +kernel⟩

/-- "Otherwise it is refused with no effect", in every reachable state (the refusal needs no
    invariant: `C02_step_refused`) -/
theorem C02_step_reach_dichotomy {w0 : World} (h0 : Reach w0)
    (hreg : w0.mkt.registry = some w0.regAddr) (ops : List Op)
    (hops : ∀ op ∈ ops, op.avoids w0.self ∧ op.unforged) (buyer lid bid : Nat) :
    (BuyTerms (run w0 ops).mkt (run w0 ops).env buyer lid bid ∧
      (step (run w0 ops) (.exec buyer [] (.buy lid bid))).2.ok = true) ∨
    (¬ BuyTerms (run w0 ops).mkt (run w0 ops).env buyer lid bid ∧
      (step (run w0 ops) (.exec buyer [] (.buy lid bid))).2.ok = false ∧
      (step (run w0 ops) (.exec buyer [] (.buy lid bid))).1 = run w0 ops) := by
  by_cases hT : BuyTerms (run w0 ops).mkt (run w0 ops).env buyer lid bid
  · exact .inl ⟨hT, (C02_step_iff_reach h0 hreg ops hops buyer lid bid).2 hT⟩
  · exact .inr ⟨hT, C02_step_refused hT⟩

example : Reach AcctEx.w0 ∧ AcctEx.w0.mkt.registry = some AcctEx.w0.regAddr ∧
    (∀ op ∈ AcctEx.ops.take 6, op.avoids AcctEx.w0.self ∧ op.unforged) :=
  ⟨C07Ex.w0_reach, rfl, by decide⟩

#print axioms C02_buy_dispatch_ok
#print axioms C02_dispatch_budget
#print axioms C02_step_if_world
#print axioms C02_step_iff_world
#print axioms C02_step_world
#print axioms C02_step_iff_reach
#print axioms C02_step_iff_deployed
#print axioms C02_step_reach_dichotomy
#print axioms C02WEx.wBefore_reach
#print axioms C02WEx.deployedEx_ok

end Fuzion
