/-
  Fuzion.Props.EntCashout — the user-level guarantee of the abstract specification
  (Props/Entitlement.lean): "what the marketplace owes you, you can take out, exactly, by yourself".

  Throughout, `𝐰 = run w0 ops` is any state reached from a freshly deployed marketplace (`Deployed w0`,
  Props/C01Closed.lean) by a history `ops` whose operations are not signed by the marketplace / do not
  register it as royalty payout address (`Op.avoids w0.self`) and contain no forged hook call
  (`Op.unforged`, finding C18; for `Ent_solvent_reach` the weaker `Op.honest w0` suffices).  No
  invariant of `𝐰` is assumed: `Reach_from_deployment` / `C01_from_deployment` supply them.

  The only hypothesis beyond the history conditions is `a ≠ w0.pool` (an account that is also the
  community pool receives the fees on top of its goods, so "exactly" fails for it).  `a ≠ w0.self` is
  not needed: the marketplace owns no record (`CleanRecords`, preserved along the history).
-/
import Fuzion.Lemmas.EntCashoutLemmas
import Fuzion.Props.C07Closed
namespace Fuzion

/-- **solvency, state level**: in a state whose holdings equal its obligations (`Backed`, C01) the
    marketplace holds, for every account `a`: per denomination at least `a`'s entitlement plus ALL
    pending fees; per honest CW20 token at least `a`'s entitlement; and it owns every NFT of an honest
    collection that it holds for `a` -/
theorem Ent_solvent {w : World} (hB : Backed w) (a : Nat) :
    (∀ d, entNative w.mkt a d + pendingFees w.mkt d ≤ lget w.bank (w.self, d)) ∧
    (∀ t, w.isHonest20 t = true → entCw20 w.mkt a t ≤ lget w.cw20 (t, w.self)) ∧
    (∀ n ∈ entNfts w.mkt a, w.isHonest721 n.coll = true →
      alookup (n.coll, n.tid) w.nft = some w.self) := by
  refine ⟨fun d => ?_, fun t ht => ?_, fun n hn hh => ?_⟩
  · rw [hB.1 d, ← owed_natV]; exact entV_add_pendV_le (natV d) w.mkt a
  · rw [hB.2.1 t ht]; exact Nat.le_of_add_right_le (entV_add_pendV_le (cwV t) w.mkt a)
  · exact (hB.2.2.2 n hh).1 (entNfts_sub_recorded hn)

/-- non-vacuity: the state of the sample history of Props/C01.lean right after the purchase is `Backed`;
    there the buyer (2) is owed 995 of denom 1 while 5 are pending for the pool, and the marketplace
    (100) holds exactly 1000 -/
example : Backed (C05Ex.at_ 7) ∧ entNative (C05Ex.at_ 7).mkt 2 1 = 995 ∧
    pendingFees (C05Ex.at_ 7).mkt 1 = 5 ∧ lget (C05Ex.at_ 7).bank ((C05Ex.at_ 7).self, 1) = 1000 :=
  ⟨(C05Ex.at_inv 7).backed, by decide +kernel⟩

/-- = `Ent_solvent` at every reached state (`Backed` from `C01_from_deployment`): no single account's
    claim can ever exceed what is there -/
theorem Ent_solvent_reach {w0 : World} (hd : Deployed w0) (ops : List Op)
    (hops : ∀ op ∈ ops, op.avoids w0.self ∧ op.honest w0) (a : Nat) :
    (∀ d, entNative (run w0 ops).mkt a d + pendingFees (run w0 ops).mkt d ≤
      lget (run w0 ops).bank ((run w0 ops).self, d)) ∧
    (∀ t, (run w0 ops).isHonest20 t = true →
      entCw20 (run w0 ops).mkt a t ≤ lget (run w0 ops).cw20 (t, (run w0 ops).self)) ∧
    (∀ n ∈ entNfts (run w0 ops).mkt a, (run w0 ops).isHonest721 n.coll = true →
      alookup (n.coll, n.tid) (run w0 ops).nft = some (run w0 ops).self) :=
  Ent_solvent (C01_from_deployment hd ops hops) a

/-- non-vacuity: the history of Props/Summary.lean from the concrete deployment; before its last
    operation account 1 is owed 10 of denom 0 and 10 of denom 2 -/
example : Deployed deployedEx ∧
    (∀ op ∈ SummaryEx.ops.take 6, op.avoids deployedEx.self ∧ op.honest deployedEx) ∧
    entNative (run deployedEx (SummaryEx.ops.take 6)).mkt 1 0 = 10 ∧
    entNative (run deployedEx (SummaryEx.ops.take 6)).mkt 1 2 = 10 :=
  ⟨C02WEx.deployedEx_ok, by decide +kernel⟩

/-- **"what is filed under you, you can take out, exactly, with one message"**, in every reachable
    state `𝐰 = run w0 ops`, for every account `a` other than the community pool:
    * every listing filed under `a` (`l.creator = a`: `a`'s unsold listing, or a listing `a` bought)
      that is exitable now (`Listing.exitable`: preparing; or sold; or finalized and past its
      expiration) is cashed out by `a`'s single message `l.exitMsg` (`DeleteListing` /
      `WithdrawPurchased`), no coins attached;
    * every bucket owned by `a` is cashed out by `a`'s single `RemoveBucket`;
    and the transaction is `CashedOut 𝐰 (step 𝐰 …) a goods fee`:
    it succeeds; emits exactly "goods to `a`, fee to the pool"; `a`'s entitlement drops by exactly the
    goods and the pending fees by exactly the record's fee, nobody else's entitlement changes
    (`EntLoss`); `a`'s bank balance rises by the goods' coins per denomination, its balance of every
    honest CW20 token by the goods' amount, every honest NFT of the goods becomes `a`'s; the pool's
    balance rises by exactly the fee; the marketplace loses exactly goods + fee (`PaidOut`); every
    account other than `a`, the marketplace and the pool keeps all its balances and NFTs
    (`Untouched`). -/
theorem Ent_cashout_one_reach {w0 : World} (hd : Deployed w0) (ops : List Op)
    (hops : ∀ op ∈ ops, op.avoids w0.self ∧ op.unforged) {a : Nat} (hap : a ≠ w0.pool) :
    (∀ k l, (k, l) ∈ (run w0 ops).mkt.listings → l.creator = a → l.exitable (run w0 ops).nowNs →
      CashedOut (run w0 ops) (step (run w0 ops) (.exec a [] l.exitMsg)) a l.forSale l.fee) ∧
    (∀ k b, (k, b) ∈ (run w0 ops).mkt.buckets → b.owner = a →
      CashedOut (run w0 ops) (step (run w0 ops) (.exec a [] (.removeBucket k.2))) a b.funds b.fee) := by
  have hR := Reach_from_deployment hd ops hops
  have hp : a ≠ (run w0 ops).pool := by rw [(run_static w0 ops).pool]; exact hap
  refine ⟨fun k l hm ha he => ?_, fun k b hm ha => ?_⟩
  · subst ha
    exact (exit_listing_cashedOut hR.inv hm he (hR.clean.listing hm).1 (hR.clean.listing hm).2 hp).1
  · subst ha
    exact (exit_bucket_cashedOut hR.inv hm (hR.clean.bucket hm).1 (hR.clean.bucket hm).2 hp).1

/-- `Ent_cashout_one_reach` for a listing, in terms of the ledgers only -/
theorem Ent_cashout_one_wallet_reach {w0 : World} (hd : Deployed w0) (ops : List Op)
    (hops : ∀ op ∈ ops, op.avoids w0.self ∧ op.unforged) {a : Nat} (hap : a ≠ w0.pool)
    {k : Nat × Nat} {l : Listing} (hm : (k, l) ∈ (run w0 ops).mkt.listings) (ha : l.creator = a)
    (he : l.exitable (run w0 ops).nowNs) :
    (step (run w0 ops) (.exec a [] l.exitMsg)).2.ok = true ∧
    (∀ x d, entNative (step (run w0 ops) (.exec a [] l.exitMsg)).1.mkt x d +
      (if x = a then coinAmt l.forSale.native d else 0) = entNative (run w0 ops).mkt x d) ∧
    (∀ d, pendingFees (step (run w0 ops) (.exec a [] l.exitMsg)).1.mkt d + feeAmt l.fee d =
      pendingFees (run w0 ops).mkt d) ∧
    (∀ d, lget (step (run w0 ops) (.exec a [] l.exitMsg)).1.bank (a, d) =
      lget (run w0 ops).bank (a, d) + coinAmt l.forSale.native d) ∧
    (∀ d, lget (step (run w0 ops) (.exec a [] l.exitMsg)).1.bank (w0.pool, d) =
      lget (run w0 ops).bank (w0.pool, d) + feeAmt l.fee d) ∧
    (∀ t, (run w0 ops).isHonest20 t = true →
      lget (step (run w0 ops) (.exec a [] l.exitMsg)).1.cw20 (t, a) =
        lget (run w0 ops).cw20 (t, a) + coinAmt l.forSale.cw20 t) ∧
    (∀ n ∈ l.forSale.nfts, (run w0 ops).isHonest721 n.coll = true →
      alookup (n.coll, n.tid) (step (run w0 ops) (.exec a [] l.exitMsg)).1.nft = some a) ∧
    (∀ y dd, y ≠ a → y ≠ w0.self → y ≠ w0.pool →
      lget (step (run w0 ops) (.exec a [] l.exitMsg)).1.bank (y, dd) = lget (run w0 ops).bank (y, dd)) := by
  have h := (Ent_cashout_one_reach hd ops hops hap).1 k l hm ha he
  have hs := run_static w0 ops
  refine ⟨h.ok, h.ent.native, h.ent.fees, h.paid.bankOwner, fun d => ?_, h.paid.cw20Owner,
    fun n hn hh => (h.paid.nftOwner n hn hh).2, fun y dd h1 h2 h3 => ?_⟩
  · have := h.paid.bankPool d
    rw [hs.pool] at this
    exact this
  · exact (h.others y h1 (by rw [hs.self]; exact h2) (by rw [hs.pool]; exact h3)).bank dd

/-- non-vacuity: after the purchase of the history of Props/Summary.lean (5 operations) account 1 —
    not the pool (8) — has the sold listing 4 filed under itself (exitable at once) and the bucket 5
    holding the payment -/
example : Deployed deployedEx ∧
    (∀ op ∈ SummaryEx.ops.take 5, op.avoids deployedEx.self ∧ op.unforged) ∧ (1 : Nat) ≠ deployedEx.pool ∧
    (run deployedEx (SummaryEx.ops.take 5)).mkt.listings.length = 1 ∧
    (∀ p ∈ (run deployedEx (SummaryEx.ops.take 5)).mkt.listings, p.2.creator = 1 ∧
      p.2.status = .closed ∧ p.2.exitable (run deployedEx (SummaryEx.ops.take 5)).nowNs) ∧
    (run deployedEx (SummaryEx.ops.take 5)).mkt.buckets.length = 1 ∧
    (∀ p ∈ (run deployedEx (SummaryEx.ops.take 5)).mkt.buckets, p.2.owner = 1) :=
  ⟨C02WEx.deployedEx_ok, by decide +kernel⟩

/-- … and evaluating the model agrees: the withdrawal is accepted and pays account 1 the 10 coins of
    denom 0 it was entitled to -/
example : (step (run deployedEx (SummaryEx.ops.take 5)) (.exec 1 [] (.withdrawPurchased 4))).2.ok = true ∧
    entNative (run deployedEx (SummaryEx.ops.take 5)).mkt 1 0 = 10 ∧
    lget (run deployedEx (SummaryEx.ops.take 5)).bank (1, 0) = 0 ∧
    lget (step (run deployedEx (SummaryEx.ops.take 5)) (.exec 1 [] (.withdrawPurchased 4))).1.bank (1, 0)
      = 10 := by decide +kernel

/-- **"what the marketplace owes you, you can take out, exactly, by yourself"**: in every reachable
    state `𝐰 = run w0 ops`, for every account `a` other than the community pool, there are a waiting
    time `dNs` and a finite list `exits` of cash-out messages ALL signed by `a`, no coins attached
    (`ExitsOf a exits`), such that the history "let `dNs` nanoseconds pass, then send `exits`" is
    `CashedOutAll 𝐰 … a`:
    * every transaction of it succeeds — no cooperation of any other account is needed;
    * afterwards `a` is entitled to nothing: `entNative = 0` for every denomination, `entCw20 = 0` for
      every token, `entNfts = []`;
    * `a`'s bank balance has risen, for every denomination `d`, by exactly `entNative 𝐰.mkt a d`;
      its balance of every honest CW20 token `t` by exactly `entCw20 𝐰.mkt a t`; every NFT of an
      honest collection in `entNfts 𝐰.mkt a` is `a`'s, and `a` lost none of the NFTs it owned;
    * every other account's entitlement is unchanged (coins, tokens, NFTs), every account other than
      `a`, the marketplace and the pool keeps all its balances and NFTs;
    * pool balance + pending fees is unchanged per denomination: the pool received exactly the
      pending fees of `a`'s records.
    The waiting time only serves to pass the expiration of `a`'s finalized unsold listings (C08: the
    seller is bound until then); it is the `Drainable` witness of `C07_from_deployment`. -/
theorem Ent_cashout_all_reach {w0 : World} (hd : Deployed w0) (ops : List Op)
    (hops : ∀ op ∈ ops, op.avoids w0.self ∧ op.unforged) {a : Nat} (hap : a ≠ w0.pool) :
    ∃ dNs exits, ExitsOf a exits ∧ CashedOutAll (run w0 ops) (.advance dNs 0 :: exits) a := by
  obtain ⟨dNs, hD⟩ := (C07_from_deployment hd ops hops).2.2
  have hp : a ≠ (step (run w0 ops) (.advance dNs 0)).1.pool := by
    show a ≠ (run w0 ops).pool
    rw [(run_static w0 ops).pool]; exact hap
  obtain ⟨exits, h1, h2, _⟩ := cashout_all a _ hD hp (Nat.lt_succ_self _)
  -- an advance changes only the clock: apart from `allOk`, the facts `h2` about the advanced state
  -- are, by `rfl`, the facts about `run w0 ops` (`Untouched` field by field)
  exact ⟨dNs, exits, h1, ⟨⟨rfl, h2.allOk⟩, h2.entNative0, h2.entCw200, h2.entNfts0, h2.bank, h2.cw20,
    h2.nftGot, h2.nftKept, h2.othersEnt,
    fun y e1 e2 e3 => ⟨(h2.othersWallet y e1 e2 e3).bank, (h2.othersWallet y e1 e2 e3).cw20,
      (h2.othersWallet y e1 e2 e3).nft⟩, h2.poolFees⟩⟩

/-- `Ent_cashout_all_reach` without `ExitsOf`/`CashedOutAll` (third accounts' wallets and the pool left out) -/
theorem Ent_cashout_all_explicit_reach {w0 : World} (hd : Deployed w0) (ops : List Op)
    (hops : ∀ op ∈ ops, op.avoids w0.self ∧ op.unforged) {a : Nat} (hap : a ≠ w0.pool) :
    ∃ dNs exits, (∀ op ∈ exits, ∃ msg, op = .exec a [] msg) ∧
      runOk (run w0 ops) (.advance dNs 0 :: exits) ∧
      (∀ d, entNative (run (run w0 ops) (.advance dNs 0 :: exits)).mkt a d = 0) ∧
      (∀ t, entCw20 (run (run w0 ops) (.advance dNs 0 :: exits)).mkt a t = 0) ∧
      entNfts (run (run w0 ops) (.advance dNs 0 :: exits)).mkt a = [] ∧
      (∀ d, lget (run (run w0 ops) (.advance dNs 0 :: exits)).bank (a, d) =
        lget (run w0 ops).bank (a, d) + entNative (run w0 ops).mkt a d) ∧
      (∀ t, (run w0 ops).isHonest20 t = true →
        lget (run (run w0 ops) (.advance dNs 0 :: exits)).cw20 (t, a) =
          lget (run w0 ops).cw20 (t, a) + entCw20 (run w0 ops).mkt a t) ∧
      (∀ n ∈ entNfts (run w0 ops).mkt a, (run w0 ops).isHonest721 n.coll = true →
        alookup (n.coll, n.tid) (run (run w0 ops) (.advance dNs 0 :: exits)).nft = some a) ∧
      (∀ y, y ≠ a →
        (∀ d, entNative (run (run w0 ops) (.advance dNs 0 :: exits)).mkt y d = entNative (run w0 ops).mkt y d) ∧
        (∀ t, entCw20 (run (run w0 ops) (.advance dNs 0 :: exits)).mkt y t = entCw20 (run w0 ops).mkt y t) ∧
        (entNfts (run (run w0 ops) (.advance dNs 0 :: exits)).mkt y).Perm (entNfts (run w0 ops).mkt y)) := by
  obtain ⟨dNs, exits, h1, h2⟩ := Ent_cashout_all_reach hd ops hops hap
  refine ⟨dNs, exits, fun op hop => ?_, h2.allOk, h2.entNative0, h2.entCw200, h2.entNfts0, h2.bank,
    h2.cw20, h2.nftGot, h2.othersEnt⟩
  obtain ⟨msg, e, _⟩ := h1 op hop
  exact ⟨msg, e⟩

/-- non-vacuity: after the first three operations of the history of Props/Summary.lean account 1 (not
    the pool) has a finalized listing that is still running — it cannot be deleted now, the clock
    advance is needed — and a bucket; it is owed 10 of denom 0 and 10 of denom 2 -/
example : Deployed deployedEx ∧
    (∀ op ∈ C02WEx.opsD, op.avoids deployedEx.self ∧ op.unforged) ∧ (1 : Nat) ≠ deployedEx.pool ∧
    (∀ p ∈ (run deployedEx C02WEx.opsD).mkt.listings, p.2.creator = 1 ∧ p.2.status = .finalized ∧
      ¬ p.2.exitable (run deployedEx C02WEx.opsD).nowNs) ∧
    (run deployedEx C02WEx.opsD).mkt.listings.length = 1 ∧
    (run deployedEx C02WEx.opsD).mkt.buckets.length = 1 ∧
    entNative (run deployedEx C02WEx.opsD).mkt 1 0 = 10 ∧
    entNative (run deployedEx C02WEx.opsD).mkt 1 2 = 10 ∧
    (step (run deployedEx C02WEx.opsD) (.exec 1 [] (.deleteListing 4))).2.ok = false :=
  ⟨C02WEx.deployedEx_ok, by decide +kernel⟩

example : ∃ dNs exits, ExitsOf 1 exits ∧
    CashedOutAll (run deployedEx C02WEx.opsD) (.advance dNs 0 :: exits) 1 :=
  Ent_cashout_all_reach C02WEx.deployedEx_ok C02WEx.opsD (by decide) (by decide)
example : ∀ k l, (k, l) ∈ (run deployedEx (SummaryEx.ops.take 5)).mkt.listings → l.creator = 1 →
    l.exitable (run deployedEx (SummaryEx.ops.take 5)).nowNs →
    CashedOut (run deployedEx (SummaryEx.ops.take 5))
      (step (run deployedEx (SummaryEx.ops.take 5)) (.exec 1 [] l.exitMsg)) 1 l.forSale l.fee :=
  (Ent_cashout_one_reach C02WEx.deployedEx_ok (SummaryEx.ops.take 5) (by decide) (by decide)).1

namespace EntCashoutEx
/-- wait 600 s, delete the listing, remove the bucket -/
def exits : List Op :=
  [.advance (600 * NS) 0, .exec 1 [] (.deleteListing 4), .exec 1 [] (.removeBucket 5)]
def fin : World := run (run deployedEx C02WEx.opsD) exits
end EntCashoutEx

/-- … and evaluating the model on one such history (wait 600 s, delete the listing, remove the bucket)
    agrees: all accepted, account 1 has its 10 + 10 coins back and is owed nothing -/
example : runOk (run deployedEx C02WEx.opsD) EntCashoutEx.exits ∧
    entNative EntCashoutEx.fin.mkt 1 0 = 0 ∧ entNative EntCashoutEx.fin.mkt 1 2 = 0 ∧
    lget (run deployedEx C02WEx.opsD).bank (1, 0) = 0 ∧ lget EntCashoutEx.fin.bank (1, 0) = 10 ∧
    lget (run deployedEx C02WEx.opsD).bank (1, 2) = 0 ∧ lget EntCashoutEx.fin.bank (1, 2) = 10 :=
  ⟨⟨by decide +kernel, by decide +kernel, by decide +kernel, trivial⟩, by decide +kernel⟩

#print axioms Ent_solvent
#print axioms Ent_solvent_reach
#print axioms Ent_cashout_one_reach
#print axioms Ent_cashout_one_wallet_reach
#print axioms Ent_cashout_all_reach
#print axioms Ent_cashout_all_explicit_reach

end Fuzion
