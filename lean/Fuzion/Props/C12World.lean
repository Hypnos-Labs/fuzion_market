/-
  Fuzion.Props.C12World — the deposit half of C12 ("Records are always well-formed") for whole
  transactions on the chain (`step`): through the entry point, the bank and the token contracts.

  Property text (C12, the part formalised here):  "… Deposits and asks that would break this are
  refused and those that keep it are accepted (for a fresh legal id, an owned listing still in
  preparation, or any owned bucket)."

  Props/C12.lean characterises acceptance at handler level.  A deposit *transaction* additionally
  moves the assets: native coins are taken from the sender by the bank before the
  handler runs; a CW20 amount / an NFT is moved by the (honest) token contract, which then calls
  the receive hook.  Deposit handlers emit no message, so nothing else can fail.  The theorems
  below are therefore of the form

      transaction accepted  ↔  handler-level condition  ∧  the depositor owns the assets

  where "owns" is, per attached coin `c`, `c.amount ≤` the sender's bank balance of `c.key`
  (`C12_can_pay_iff`: exactly when `BankKeeper::send` succeeds, for a `normalized_check`-ed list),
  resp. `amount ≤` the sender's token balance, resp. "the sender is the NFT's owner".  Together
  with `C12_inv_step` this is: a well-formed deposit to a fresh legal id / an owned preparing
  listing / an owned bucket is accepted exactly when the depositor owns the assets (and, for
  top-ups, the 25 cap / duplicate-NFT condition holds).

  Hypotheses.  `IdsInv w.mkt` (C09) for the creations (the storage-key test is then implied by the
  id-log test); `WFInv` (C12) for the top-ups (the record found under `(sender, id)` is owned by
  the sender and well-formed).  The fungible top-ups come in two forms: unprimed with
  the 128-bit overflow abort of `add_tokens` explicit in the condition (no arithmetic hypothesis: an
  abort is a refusal too), primed with `Funds.fits` (stored + deposited amount is a `Uint128`) as
  hypothesis and the 25 cap spelled out as "old assets + new distinct assets ≤ 25".  Nothing is
  assumed about the sender — not even that it differs from the marketplace.

  Token contracts: the CW20 theorems are about honest CW20 contracts (`isHonest20`, kind 1 of the
  chain model) that answer `TokenInfo` (`env.isToken20`, which the hook queries); these are
  independent fields of the model's contract table, so both appear in the statements.
-/
import Fuzion.Lemmas.WorldLemmas
import Fuzion.Props.C12
import Fuzion.Props.C07
namespace Fuzion

/-! ### sample worlds for the non-vacuity examples -/

namespace C12WEx

def ask : CreateMsg := ⟨⟨[⟨1, 7⟩], [], []⟩, none⟩

/-- from the sample deployment of C01 (`AcctEx.w0`: account 2 holds 5000 of denom 2 and NFT
    (60, 11), account 1 holds 400 of the honest token 50 and NFT (60, 7), account 5 holds 77 of
    token 50): account 2 opens listing 3 with 2000 of denom 2 and bucket 8 with 1000 of denom 2 -/
def ops : List Op :=
  [ .exec 2 [⟨2, 2000⟩] (.createListing 3 ask), .exec 2 [⟨2, 1000⟩] (.createBucket 8) ]

def w : World := run AcctEx.w0 ops

theorem w_reach : Reach w := C07_reach_run _ C07Ex.w0_reach (by decide)
theorem w_ids : IdsInv w.mkt := w_reach.inv.ids
theorem w_wf : WFInv w.junoD w.usdcD w.mkt := w_reach.inv.wf

/-- every amount in the sample world is tiny: any deposit of at most 10000 per denomination fits -/
theorem fits_small {g : GBal} {cs : List Coin} (hg : ∀ k, coinAmt g.native k ≤ 10000)
    (hc : ∀ k, coinAmt cs k ≤ 10000) : (Funds.native cs).fits g := by
  intro k
  have := hg k
  have := hc k
  unfold U128MAX
  omega

end C12WEx

/-! ### "the depositor can pay" -/

theorem C12_can_pay_iff {w : World} {x : Nat} {funds : List Coin}
    (hn : normalizedCheck (.native funds) = true) :
    bankSend w.bank x w.self funds ≠ none ↔ ∀ c ∈ funds, c.amount ≤ lget w.bank (x, c.key) :=
  Option.ne_none_iff_isSome.trans (canPay_iff hn)

/-- non-vacuity of `C12_can_pay_iff`; account 2 holds 2000 of denom 2 in the sample world, not 2001 -/
example : normalizedCheck (.native [⟨2, 2000⟩]) = true ∧
    bankSend C12WEx.w.bank 2 C12WEx.w.self [⟨2, 2000⟩] ≠ none ∧
    bankSend C12WEx.w.bank 2 C12WEx.w.self [⟨2, 2001⟩] = none := by decide

/-- without the duplicate-freeness the exact condition is the per-denomination *total* (and some
    coin must be non-zero): this is what `BankKeeper::send` tests for an arbitrary coin list -/
theorem C12_bank_send_iff {w : World} {x : Nat} {funds : List Coin} :
    bankSend w.bank x w.self funds ≠ none ↔
      (∃ c ∈ funds, c.amount ≠ 0) ∧ ∀ d, coinAmt funds d ≤ lget w.bank (x, d) :=
  Option.ne_none_iff_isSome.trans bankSend_isSome_iff

/-! ### creations with native coins -/

theorem C12_create_bucket_step_iff {w : World} (hI : IdsInv w.mkt) (x : Nat) (funds : List Coin)
    (id : Nat) :
    (step w (.exec x funds (.createBucket id))).2.ok = true ↔
      id < MAX_SAFE_INT ∧ id ∉ w.mkt.bucketUsed ∧ normalizedCheck (.native funds) = true ∧
      ∀ c ∈ funds, c.amount ≤ lget w.bank (x, c.key) :=
  (step_deposit_native_iff w x funds (.createBucket id) (C12_create_bucket_iff' hI _ x id)).trans
    (by simp only [and_assoc])

/-- non-vacuity of `C12_create_bucket_step_iff`: account 2 (2000 of denom 2 left) creates bucket 9
    with 2000; with 2001 (cannot pay), with a zero coin, or under the used id 8 it is refused -/
example : IdsInv C12WEx.w.mkt ∧
    (step C12WEx.w (.exec 2 [⟨2, 2000⟩] (.createBucket 9))).2.ok = true ∧
    (step C12WEx.w (.exec 2 [⟨2, 2001⟩] (.createBucket 9))).2.ok = false ∧
    (step C12WEx.w (.exec 2 [⟨2, 0⟩] (.createBucket 9))).2.ok = false ∧
    (step C12WEx.w (.exec 2 [⟨2, 2000⟩] (.createBucket 8))).2.ok = false :=
  ⟨C12WEx.w_ids, by decide +kernel⟩

theorem C12_create_listing_step_iff {w : World} (hI : IdsInv w.mkt) (x : Nat) (funds : List Coin)
    (id : Nat) (c : CreateMsg) :
    (step w (.exec x funds (.createListing id c))).2.ok = true ↔
      id < MAX_SAFE_INT ∧ normalizedCheck (.native funds) = true ∧ id ∉ w.mkt.listingUsed ∧
      (c.whitelist = none ∨ ∃ a, c.whitelist = some (.valid a) ∧ a ≠ x) ∧ AskOK c.ask ∧
      ∀ c ∈ funds, c.amount ≤ lget w.bank (x, c.key) :=
  (step_deposit_native_iff w x funds (.createListing id c)
    (C12_create_listing_iff' hI x _ c id)).trans (by simp only [and_assoc])

example : IdsInv C12WEx.w.mkt ∧
    (step C12WEx.w (.exec 2 [⟨2, 2000⟩] (.createListing 4 C12WEx.ask))).2.ok = true ∧
    (step C12WEx.w (.exec 2 [⟨2, 2001⟩] (.createListing 4 C12WEx.ask))).2.ok = false ∧
    (step C12WEx.w (.exec 2 [⟨2, 2000⟩] (.createListing 3 C12WEx.ask))).2.ok = false ∧
    (step C12WEx.w (.exec 2 [⟨2, 2000⟩] (.createListing 4 ⟨C12WEx.ask.ask, some (.valid 2)⟩))).2.ok = false :=
  ⟨C12WEx.w_ids, by decide +kernel⟩

/-! ### top-ups with native coins -/

theorem C12_add_to_bucket_step_iff {w : World} (hW : WFInv w.junoD w.usdcD w.mkt)
    {x id : Nat} {b : Bucket} (funds : List Coin) (hb : alookup (x, id) w.mkt.buckets = some b) :
    (step w (.exec x funds (.addToBucket id))).2.ok = true ↔
      normalizedCheck (.native funds) = true ∧
      (∃ nf, addTokens b.funds (.native funds) = some nf ∧ nf.count ≤ MAX_ASSETS) ∧
      ∀ c ∈ funds, c.amount ≤ lget w.bank (x, c.key) := by
  obtain ⟨ho, wf, _⟩ := wfBucket_iff.1 (hW.bucket hb)
  exact (step_deposit_native_iff w x funds (.addToBucket id)
    (C12_topup_bucket_exact hb ho wf)).trans (by simp only [and_assoc])

theorem C12_add_to_bucket_step_iff' {w : World} (hW : WFInv w.junoD w.usdcD w.mkt)
    {x id : Nat} {b : Bucket} {funds : List Coin} (hb : alookup (x, id) w.mkt.buckets = some b)
    (hfit : (Funds.native funds).fits b.funds) :
    (step w (.exec x funds (.addToBucket id))).2.ok = true ↔
      normalizedCheck (.native funds) = true ∧
      b.funds.count + (Funds.native funds).newAssets b.funds ≤ MAX_ASSETS ∧
      ∀ c ∈ funds, c.amount ≤ lget w.bank (x, c.key) := by
  obtain ⟨ho, wf, _⟩ := wfBucket_iff.1 (hW.bucket hb)
  exact (step_deposit_native_iff w x funds (.addToBucket id)
    (C12_topup_bucket_iff' hb ho wf hfit)).trans (by simp only [and_assoc])

/-- non-vacuity of `C12_add_to_bucket_step_iff` / `_iff'`: bucket 8 of account 2 exists in the sample world;
    500 more of denom 2 are accepted, 2001 are not (cannot pay) -/
example : IdsInv C12WEx.w.mkt ∧ WFInv C12WEx.w.junoD C12WEx.w.usdcD C12WEx.w.mkt ∧
    (alookup (2, 8) C12WEx.w.mkt.buckets).map (·.funds) = some ⟨[⟨2, 1000⟩], [], []⟩ ∧
    (Funds.native [⟨2, 500⟩]).fits ⟨[⟨2, 1000⟩], [], []⟩ ∧
    (step C12WEx.w (.exec 2 [⟨2, 500⟩] (.addToBucket 8))).2.ok = true ∧
    (step C12WEx.w (.exec 2 [⟨2, 2001⟩] (.addToBucket 8))).2.ok = false := by
  exact ⟨C12WEx.w_ids, C12WEx.w_wf, by decide +kernel,
    C12WEx.fits_small (fun k => Nat.le_trans (coinAmt_single_le 2 1000 k) (by decide))
      fun k => Nat.le_trans (coinAmt_single_le 2 500 k) (by decide), by decide +kernel⟩

theorem C12_add_to_listing_step_iff {w : World} (hW : WFInv w.junoD w.usdcD w.mkt)
    {x id : Nat} {l : Listing} (funds : List Coin) (hl : alookup (x, id) w.mkt.listings = some l)
    (hs : l.status = .preparing) :
    (step w (.exec x funds (.addToListing id))).2.ok = true ↔
      normalizedCheck (.native funds) = true ∧
      (∃ nf, addTokens l.forSale (.native funds) = some nf ∧ nf.count ≤ MAX_ASSETS) ∧
      ∀ c ∈ funds, c.amount ≤ lget w.bank (x, c.key) := by
  obtain ⟨ho, hc, wf⟩ := hW.preparing hl hs
  exact (step_deposit_native_iff w x funds (.addToListing id)
    (C12_topup_listing_exact hl ho hs hc wf)).trans (by simp only [and_assoc])

theorem C12_add_to_listing_step_iff' {w : World} (hW : WFInv w.junoD w.usdcD w.mkt)
    {x id : Nat} {l : Listing} {funds : List Coin} (hl : alookup (x, id) w.mkt.listings = some l)
    (hs : l.status = .preparing) (hfit : (Funds.native funds).fits l.forSale) :
    (step w (.exec x funds (.addToListing id))).2.ok = true ↔
      normalizedCheck (.native funds) = true ∧
      l.forSale.count + (Funds.native funds).newAssets l.forSale ≤ MAX_ASSETS ∧
      ∀ c ∈ funds, c.amount ≤ lget w.bank (x, c.key) := by
  obtain ⟨ho, hc, wf⟩ := hW.preparing hl hs
  exact (step_deposit_native_iff w x funds (.addToListing id)
    (C12_topup_listing_iff' hl ho hs hc wf hfit)).trans (by simp only [and_assoc])

/-- non-vacuity of `C12_add_to_listing_step_iff` / `_iff'`: listing 3 of account 2 is in preparation -/
example : IdsInv C12WEx.w.mkt ∧ WFInv C12WEx.w.junoD C12WEx.w.usdcD C12WEx.w.mkt ∧
    (alookup (2, 3) C12WEx.w.mkt.listings).map (fun l => (l.status, l.forSale)) =
      some (.preparing, ⟨[⟨2, 2000⟩], [], []⟩) ∧
    (Funds.native [⟨2, 500⟩]).fits ⟨[⟨2, 2000⟩], [], []⟩ ∧
    (step C12WEx.w (.exec 2 [⟨2, 500⟩] (.addToListing 3))).2.ok = true ∧
    (step C12WEx.w (.exec 2 [⟨2, 2001⟩] (.addToListing 3))).2.ok = false := by
  exact ⟨C12WEx.w_ids, C12WEx.w_wf, by decide +kernel,
    C12WEx.fits_small (fun k => Nat.le_trans (coinAmt_single_le 2 2000 k) (by decide))
      fun k => Nat.le_trans (coinAmt_single_le 2 500 k) (by decide), by decide +kernel⟩

/-! ### deposits of a CW20 amount (`Send` to the marketplace) -/

theorem C12_send20_create_bucket_step_iff {w : World} (hI : IdsInv w.mkt) (t x amount id : Nat) :
    (step w (.send20 t x amount (some (.createBucket id)))).2.ok = true ↔
      w.isHonest20 t = true ∧ w.env.isToken20 t = true ∧ amount ≠ 0 ∧
      amount ≤ lget w.cw20 (t, x) ∧ id < MAX_SAFE_INT ∧ id ∉ w.mkt.bucketUsed :=
  step_deposit_cw20_iff w t x amount (.createBucket id) fun hn =>
    (C12_create_bucket_iff' hI _ x id).trans (by simp only [hn, and_true])

/-- non-vacuity of `C12_send20_create_bucket_step_iff`: account 5 holds 77 of the honest token 50;
    78, a zero amount, the used id 8 and the hostile "token" 70 are refused -/
example : IdsInv C12WEx.w.mkt ∧
    (step C12WEx.w (.send20 50 5 77 (some (.createBucket 9)))).2.ok = true ∧
    (step C12WEx.w (.send20 50 5 78 (some (.createBucket 9)))).2.ok = false ∧
    (step C12WEx.w (.send20 50 5 0 (some (.createBucket 9)))).2.ok = false ∧
    (step C12WEx.w (.send20 50 5 77 (some (.createBucket 8)))).2.ok = false ∧
    (step C12WEx.w (.send20 70 5 77 (some (.createBucket 9)))).2.ok = false :=
  ⟨C12WEx.w_ids, by decide +kernel⟩

theorem C12_send20_create_listing_step_iff {w : World} (hI : IdsInv w.mkt) (t x amount id : Nat)
    (c : CreateMsg) :
    (step w (.send20 t x amount (some (.createListing id c)))).2.ok = true ↔
      w.isHonest20 t = true ∧ w.env.isToken20 t = true ∧ amount ≠ 0 ∧
      amount ≤ lget w.cw20 (t, x) ∧ id < MAX_SAFE_INT ∧ id ∉ w.mkt.listingUsed ∧
      (c.whitelist = none ∨ ∃ a, c.whitelist = some (.valid a) ∧ a ≠ x) ∧ AskOK c.ask :=
  step_deposit_cw20_iff w t x amount (.createListing id c) fun hn =>
    (C12_create_listing_iff' hI x _ c id).trans (by simp only [hn, true_and])

example : IdsInv C12WEx.w.mkt ∧
    (step C12WEx.w (.send20 50 5 77 (some (.createListing 4 C12WEx.ask)))).2.ok = true ∧
    (step C12WEx.w (.send20 50 5 78 (some (.createListing 4 C12WEx.ask)))).2.ok = false ∧
    (step C12WEx.w (.send20 50 5 77 (some (.createListing 4 ⟨⟨[], [], []⟩, none⟩)))).2.ok = false :=
  ⟨C12WEx.w_ids, by decide +kernel⟩

theorem C12_send20_add_to_bucket_step_iff {w : World} (hW : WFInv w.junoD w.usdcD w.mkt)
    {x id : Nat} {b : Bucket} (t amount : Nat)
    (hb : alookup (x, id) w.mkt.buckets = some b) :
    (step w (.send20 t x amount (some (.addToBucket id)))).2.ok = true ↔
      w.isHonest20 t = true ∧ w.env.isToken20 t = true ∧ amount ≠ 0 ∧
      amount ≤ lget w.cw20 (t, x) ∧
      ∃ nf, addTokens b.funds (.cw20 ⟨t, amount⟩) = some nf ∧ nf.count ≤ MAX_ASSETS := by
  obtain ⟨ho, wf, _⟩ := wfBucket_iff.1 (hW.bucket hb)
  exact step_deposit_cw20_iff w t x amount (.addToBucket id) fun hn =>
    (C12_topup_bucket_exact hb ho wf).trans (and_iff_right hn)

theorem C12_send20_add_to_bucket_step_iff' {w : World} (hW : WFInv w.junoD w.usdcD w.mkt)
    {t x amount id : Nat} {b : Bucket}
    (hb : alookup (x, id) w.mkt.buckets = some b) (hfit : (Funds.cw20 ⟨t, amount⟩).fits b.funds) :
    (step w (.send20 t x amount (some (.addToBucket id)))).2.ok = true ↔
      w.isHonest20 t = true ∧ w.env.isToken20 t = true ∧ amount ≠ 0 ∧
      amount ≤ lget w.cw20 (t, x) ∧
      b.funds.count + (Funds.cw20 ⟨t, amount⟩).newAssets b.funds ≤ MAX_ASSETS := by
  obtain ⟨ho, wf, _⟩ := wfBucket_iff.1 (hW.bucket hb)
  exact step_deposit_cw20_iff w t x amount (.addToBucket id) fun hn =>
    (C12_topup_bucket_iff' hb ho wf hfit).trans (and_iff_right hn)

/-- non-vacuity of `C12_send20_add_to_bucket_step_iff` / `_iff'`: account 2 owns bucket 8 but holds no
    token 50 in the sample world, so its `Send` of 10 is refused; in the same world with 10 tokens
    credited to account 2 it is accepted -/
example : IdsInv C12WEx.w.mkt ∧ WFInv C12WEx.w.junoD C12WEx.w.usdcD C12WEx.w.mkt ∧
    (alookup (2, 8) C12WEx.w.mkt.buckets).map (·.funds) = some ⟨[⟨2, 1000⟩], [], []⟩ ∧
    (Funds.cw20 ⟨50, 10⟩).fits ⟨[⟨2, 1000⟩], [], []⟩ ∧
    (step C12WEx.w (.send20 50 2 10 (some (.addToBucket 8)))).2.ok = false ∧
    (step { C12WEx.w with cw20 := ((50, 2), 10) :: C12WEx.w.cw20 }
      (.send20 50 2 10 (some (.addToBucket 8)))).2.ok = true :=
  ⟨C12WEx.w_ids, C12WEx.w_wf, by decide +kernel,
   (by show coinAmt ([] : List Coin) 50 + 10 ≤ U128MAX; decide), by decide +kernel⟩

theorem C12_send20_add_to_listing_step_iff {w : World} (hW : WFInv w.junoD w.usdcD w.mkt)
    {x id : Nat} {l : Listing} (t amount : Nat)
    (hl : alookup (x, id) w.mkt.listings = some l) (hs : l.status = .preparing) :
    (step w (.send20 t x amount (some (.addToListing id)))).2.ok = true ↔
      w.isHonest20 t = true ∧ w.env.isToken20 t = true ∧ amount ≠ 0 ∧
      amount ≤ lget w.cw20 (t, x) ∧
      ∃ nf, addTokens l.forSale (.cw20 ⟨t, amount⟩) = some nf ∧ nf.count ≤ MAX_ASSETS := by
  obtain ⟨ho, hc, wf⟩ := hW.preparing hl hs
  exact step_deposit_cw20_iff w t x amount (.addToListing id) fun hn =>
    (C12_topup_listing_exact hl ho hs hc wf).trans (and_iff_right hn)

theorem C12_send20_add_to_listing_step_iff' {w : World} (hW : WFInv w.junoD w.usdcD w.mkt)
    {t x amount id : Nat} {l : Listing}
    (hl : alookup (x, id) w.mkt.listings = some l) (hs : l.status = .preparing)
    (hfit : (Funds.cw20 ⟨t, amount⟩).fits l.forSale) :
    (step w (.send20 t x amount (some (.addToListing id)))).2.ok = true ↔
      w.isHonest20 t = true ∧ w.env.isToken20 t = true ∧ amount ≠ 0 ∧
      amount ≤ lget w.cw20 (t, x) ∧
      l.forSale.count + (Funds.cw20 ⟨t, amount⟩).newAssets l.forSale ≤ MAX_ASSETS := by
  obtain ⟨ho, hc, wf⟩ := hW.preparing hl hs
  exact step_deposit_cw20_iff w t x amount (.addToListing id) fun hn =>
    (C12_topup_listing_iff' hl ho hs hc wf hfit).trans (and_iff_right hn)

/-- non-vacuity of `C12_send20_add_to_listing_step_iff` / `_iff'` (same device as for the bucket) -/
example : IdsInv C12WEx.w.mkt ∧ WFInv C12WEx.w.junoD C12WEx.w.usdcD C12WEx.w.mkt ∧
    (alookup (2, 3) C12WEx.w.mkt.listings).map (fun l => (l.status, l.forSale)) =
      some (.preparing, ⟨[⟨2, 2000⟩], [], []⟩) ∧
    (Funds.cw20 ⟨50, 10⟩).fits ⟨[⟨2, 2000⟩], [], []⟩ ∧
    (step C12WEx.w (.send20 50 2 10 (some (.addToListing 3)))).2.ok = false ∧
    (step { C12WEx.w with cw20 := ((50, 2), 10) :: C12WEx.w.cw20 }
      (.send20 50 2 10 (some (.addToListing 3)))).2.ok = true :=
  ⟨C12WEx.w_ids, C12WEx.w_wf, by decide +kernel,
   (by show coinAmt ([] : List Coin) 50 + 10 ≤ U128MAX; decide), by decide +kernel⟩

theorem C12_send20_bad_payload (w : World) (t x amount : Nat) :
    (step w (.send20 t x amount none)).2.ok = false :=
  Bool.eq_false_iff.2 fun h => by
    obtain ⟨_, _, _, _, hx, _⟩ := (stepF_ok_iff (fail := noFault) rfl).1 h
    obtain ⟨_, _, _, _, hu, _⟩ := execute_effect hx
    cases hu

/-! ### deposits of an NFT (`SendNft` to the marketplace) -/

theorem C12_send721_create_bucket_step_iff {w : World} (hI : IdsInv w.mkt) (c x tid id : Nat) :
    (step w (.send721 c x tid (some (.createBucket id)))).2.ok = true ↔
      w.isHonest721 c = true ∧ alookup (c, tid) w.nft = some x ∧
      id < MAX_SAFE_INT ∧ id ∉ w.mkt.bucketUsed :=
  step_deposit_nft_iff w c x tid (.createBucket id) (C12_create_bucket_nft_iff' hI x _ id)

/-- non-vacuity of `C12_send721_create_bucket_step_iff`: account 2 owns NFT (60, 11), not (60, 7) -/
example : IdsInv C12WEx.w.mkt ∧
    (step C12WEx.w (.send721 60 2 11 (some (.createBucket 9)))).2.ok = true ∧
    (step C12WEx.w (.send721 60 2 7 (some (.createBucket 9)))).2.ok = false ∧
    (step C12WEx.w (.send721 60 2 11 (some (.createBucket 8)))).2.ok = false :=
  ⟨C12WEx.w_ids, by decide, by decide, by decide⟩

theorem C12_send721_create_listing_step_iff {w : World} (hI : IdsInv w.mkt) (c x tid id : Nat)
    (cm : CreateMsg) :
    (step w (.send721 c x tid (some (.createListing id cm)))).2.ok = true ↔
      w.isHonest721 c = true ∧ alookup (c, tid) w.nft = some x ∧
      id < MAX_SAFE_INT ∧ id ∉ w.mkt.listingUsed ∧
      (cm.whitelist = none ∨ ∃ a, cm.whitelist = some (.valid a) ∧ a ≠ x) ∧ AskOK cm.ask :=
  step_deposit_nft_iff w c x tid (.createListing id cm) (C12_create_listing_nft_iff' hI x _ cm id)

example : IdsInv C12WEx.w.mkt ∧
    (step C12WEx.w (.send721 60 2 11 (some (.createListing 4 C12WEx.ask)))).2.ok = true ∧
    (step C12WEx.w (.send721 60 1 11 (some (.createListing 4 C12WEx.ask)))).2.ok = false :=
  ⟨C12WEx.w_ids, by decide, by decide⟩

theorem C12_send721_add_to_bucket_step_iff {w : World} (hW : WFInv w.junoD w.usdcD w.mkt)
    {c x tid id : Nat} {b : Bucket}
    (hb : alookup (x, id) w.mkt.buckets = some b) :
    (step w (.send721 c x tid (some (.addToBucket id)))).2.ok = true ↔
      w.isHonest721 c = true ∧ alookup (c, tid) w.nft = some x ∧
      b.funds.count + 1 ≤ MAX_ASSETS ∧ (⟨c, tid⟩ : Nft) ∉ b.funds.nfts := by
  obtain ⟨ho, wf, _⟩ := wfBucket_iff.1 (hW.bucket hb)
  exact step_deposit_nft_iff w c x tid (.addToBucket id) (C12_topup_bucket_nft_iff hb ho wf)

example : IdsInv C12WEx.w.mkt ∧ WFInv C12WEx.w.junoD C12WEx.w.usdcD C12WEx.w.mkt ∧
    (alookup (2, 8) C12WEx.w.mkt.buckets).isSome = true ∧
    (step C12WEx.w (.send721 60 2 11 (some (.addToBucket 8)))).2.ok = true ∧
    (step C12WEx.w (.send721 60 2 7 (some (.addToBucket 8)))).2.ok = false :=
  ⟨C12WEx.w_ids, C12WEx.w_wf, by decide +kernel⟩

theorem C12_send721_add_to_listing_step_iff {w : World} (hW : WFInv w.junoD w.usdcD w.mkt)
    {c x tid id : Nat} {l : Listing}
    (hl : alookup (x, id) w.mkt.listings = some l) (hs : l.status = .preparing) :
    (step w (.send721 c x tid (some (.addToListing id)))).2.ok = true ↔
      w.isHonest721 c = true ∧ alookup (c, tid) w.nft = some x ∧
      l.forSale.count + 1 ≤ MAX_ASSETS ∧ (⟨c, tid⟩ : Nft) ∉ l.forSale.nfts := by
  obtain ⟨ho, hc, wf⟩ := hW.preparing hl hs
  exact step_deposit_nft_iff w c x tid (.addToListing id)
    (C12_topup_listing_nft_iff hl ho hs hc wf)

example : IdsInv C12WEx.w.mkt ∧ WFInv C12WEx.w.junoD C12WEx.w.usdcD C12WEx.w.mkt ∧
    (alookup (2, 3) C12WEx.w.mkt.listings).map (·.status) = some .preparing ∧
    (step C12WEx.w (.send721 60 2 11 (some (.addToListing 3)))).2.ok = true ∧
    (step C12WEx.w (.send721 60 2 7 (some (.addToListing 3)))).2.ok = false :=
  ⟨C12WEx.w_ids, C12WEx.w_wf, by decide +kernel⟩

example : WFInv C12WEx.w.junoD C12WEx.w.usdcD C12WEx.w.mkt := C12WEx.w_wf

#print axioms C12_can_pay_iff
#print axioms C12_bank_send_iff
#print axioms C12_create_bucket_step_iff
#print axioms C12_create_listing_step_iff
#print axioms C12_add_to_bucket_step_iff
#print axioms C12_add_to_bucket_step_iff'
#print axioms C12_add_to_listing_step_iff
#print axioms C12_add_to_listing_step_iff'
#print axioms C12_send20_create_bucket_step_iff
#print axioms C12_send20_create_listing_step_iff
#print axioms C12_send20_add_to_bucket_step_iff
#print axioms C12_send20_add_to_bucket_step_iff'
#print axioms C12_send20_add_to_listing_step_iff
#print axioms C12_send20_add_to_listing_step_iff'
#print axioms C12_send20_bad_payload
#print axioms C12_send721_create_bucket_step_iff
#print axioms C12_send721_create_listing_step_iff
#print axioms C12_send721_add_to_bucket_step_iff
#print axioms C12_send721_add_to_listing_step_iff
#print axioms C12WEx.w_reach
#print axioms C12WEx.fits_small

end Fuzion
