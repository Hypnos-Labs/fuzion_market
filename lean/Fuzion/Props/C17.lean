/-
  C17 — "Fee and royalty arithmetic is exact and total for all 128-bit amounts"

  For every well-formed balance with amounts up to 2^128-1, either fee denomination and every
  list of up to 25 royalty entries with registry-legal rates (10 to 300 bps), the fee split and
  the royalty split conserve value exactly per asset (fee + payouts + remainder = original), use
  floor rounding, leave NFTs and other assets untouched, produce one payout per non-zero
  (asset, collection) pair to the right address, and never overflow, wrap or abort.

  The theorems are about `calcFeeCoin` (`calc_fee_coin`, utils.rs) and `royalties`
  (`GenericBalance::royalties`, state.rs).  Helper lemmas are in `Fuzion/Lemmas/Arith.lean`.
-/
import Fuzion.Lemmas.Arith
namespace Fuzion

/-- "never overflow, wrap or abort" (fee): for **every** balance and fee denomination the
    `checked_sub` of `calc_fee_coin` succeeds, because `⌊a·5/1000⌋ ≤ a`. -/
theorem C17_fee_total (fd : Nat) (g : GBal) : ∃ fee g', calcFeeCoin fd g = some (fee, g') :=
  ⟨_, _, calcFeeCoin_eq fd g⟩

/-- "use floor rounding" (fee): the fee in the fee denomination is exactly `⌊a·5/1000⌋` of the
    amount `a` held in that denomination; there is no fee coin iff that is zero; a fee coin is in
    the fee denomination and never zero. -/
theorem C17_fee_floor {fd : Nat} {g g' : GBal} {fee : Option Coin}
    (nd : (keys g.native).Nodup) (h : calcFeeCoin fd g = some (fee, g')) :
    feeAmt fee fd = coinAmt g.native fd * 5 / 1000 ∧
    (fee = none ↔ coinAmt g.native fd * 5 / 1000 = 0) ∧
    (∀ f, fee = some f → f.key = fd ∧ f.amount ≠ 0) := by
  rw [calcFeeCoin_spec nd] at h
  cases h
  rcases feeOf_cases fd g with ⟨e, hz⟩ | ⟨e, hz⟩ <;> rw [e]
  · exact ⟨hz.symm, ⟨fun _ => hz, fun _ => rfl⟩, nofun⟩
  · refine ⟨if_pos rfl, ⟨nofun, fun h => absurd h hz⟩, ?_⟩
    rintro _ ⟨⟩
    exact ⟨rfl, hz⟩

example : (keys exBal.native).Nodup ∧ calcFeeCoin 1 exBal = some (some ⟨1, 5⟩, exBalFee) := by decide

/-- "conserve value exactly per asset (fee + remainder = original) … leave NFTs and other assets
    untouched" (fee).  For `k ≠ fd`, `feeAmt fee k = 0`, so other denominations are unchanged. -/
theorem C17_fee_conserve {fd : Nat} {g g' : GBal} {fee : Option Coin}
    (nd : (keys g.native).Nodup) (h : calcFeeCoin fd g = some (fee, g')) :
    (∀ k, coinAmt g'.native k + feeAmt fee k = coinAmt g.native k) ∧
    g'.cw20 = g.cw20 ∧ g'.nfts = g.nfts := by
  rw [calcFeeCoin_spec nd] at h
  cases h
  exact ⟨afterFee_conserve fd g, afterFee_cw20 fd g, afterFee_nfts fd g⟩

example : (keys exBal.native).Nodup ∧ calcFeeCoin 1 exBal = some (some ⟨1, 5⟩, exBalFee) := by decide

/-- the fee in any other denomination is zero (so C17_fee_conserve says they are untouched) -/
theorem C17_fee_other {fd : Nat} {g g' : GBal} {fee : Option Coin}
    (h : calcFeeCoin fd g = some (fee, g')) : ∀ k, k ≠ fd → feeAmt fee k = 0 := by
  intro k hk
  cases fee with
  | none => rfl
  | some f => exact if_neg fun e => hk (e.symm.trans (calcFeeCoin_key h f rfl))

example : calcFeeCoin 1 exBal = some (some ⟨1, 5⟩, exBalFee) := by decide

/-- the fee split only moves the fee denomination to the end of the native list: the set of
    denominations (and hence the asset count) is unchanged. -/
theorem C17_fee_keys_perm {fd : Nat} {g g' : GBal} {fee : Option Coin}
    (nd : (keys g.native).Nodup) (h : calcFeeCoin fd g = some (fee, g')) :
    (keys g'.native).Perm (keys g.native) ∧ g'.count = g.count := by
  rcases calcFeeCoin_fee_cases h with ⟨_, hg⟩ | ⟨c, e, _, _, hg⟩
  · subst hg; exact ⟨List.Perm.refl _, rfl⟩
  · subst hg
    have p := @keys_fee_perm g.native fd (c.amount - c.amount * 5 / 1000) c nd e
    refine ⟨p, ?_⟩
    have := p.length_eq
    simp only [keys, List.length_map] at this
    simp only [GBal.count, this]

example : (keys exBal.native).Nodup ∧ calcFeeCoin 1 exBal = some (some ⟨1, 5⟩, exBalFee) := by decide

/-- a well-formed balance stays well-formed under the fee split: in particular no amount becomes
    zero (`a − ⌊a·5/1000⌋ ≥ 1` for `a ≥ 1`) and the denominations stay duplicate-free. -/
theorem C17_fee_wf {fd : Nat} {g g' : GBal} {fee : Option Coin}
    (wf : wfBal g = true) (h : calcFeeCoin fd g = some (fee, g')) : wfBal g' = true := by
  rw [wfBal_iff] at wf ⊢
  obtain ⟨w1, w2, w3, w4, w5, w6⟩ := wf
  obtain ⟨-, hc, hn⟩ := C17_fee_conserve w4 h
  obtain ⟨hp, hcount⟩ := C17_fee_keys_perm w4 h
  rw [hc, hn, hcount]
  have hnz : ∀ a, a ≠ 0 → a - a * 5 / 1000 ≠ 0 :=
    fun a ha => Nat.ne_of_gt (fee_rem_pos (Nat.pos_of_ne_zero ha))
  exact ⟨calcFeeCoin_forall hnz h w1, w2, w3, hp.nodup_iff.2 w4, w5, w6⟩

example : wfBal exBal = true ∧ calcFeeCoin 1 exBal = some (some ⟨1, 5⟩, exBalFee) := by decide

/-- "never overflow" (fee): 128-bit amounts stay 128-bit amounts. -/
theorem C17_fee_bounded {fd : Nat} {g g' : GBal} {fee : Option Coin}
    (hb : g.bounded) (h : calcFeeCoin fd g = some (fee, g')) :
    g'.bounded ∧ (∀ f, fee = some f → f.amount ≤ U128MAX) := by
  have hle : ∀ a, a ≤ U128MAX → a - a * 5 / 1000 ≤ U128MAX :=
    fun a ha => Nat.le_trans (Nat.sub_le _ _) ha
  refine ⟨⟨calcFeeCoin_forall hle h hb.1, calcFeeCoin_cw20 h ▸ hb.2⟩, ?_⟩
  rcases calcFeeCoin_fee_cases h with ⟨rfl, -⟩ | ⟨c, e, -, rfl, -⟩
  · nofun
  · rintro _ ⟨⟩
    exact Nat.le_trans (fee_le _) (hb.1 c (List.mem_of_find?_eq_some e))

example : exBalMax.bounded ∧ calcFeeCoin 1 exBalMax =
    some (some ⟨1, 1701411834604692317316873037158841057⟩,
      ⟨[⟨1, 338580955086333771146057734394609370398⟩], [⟨9, U128MAX⟩], []⟩) := by decide

/-- "never overflow, wrap or abort" (royalties), strongest form: for **any** balance and **any**
    entries (any `u64` rates, any number of them) whose rates sum to at most 5000 bps the call
    succeeds: the `u64` sum does not overflow and no `checked_sub` fails, because
    `Σ⌊a·bᵢ/10⁴⌋ ≤ ⌊a·Σbᵢ/10⁴⌋ ≤ a/2 ≤ a`. -/
theorem C17_roy_total_any (g : GBal) {rs : List (Option RoyaltyInfo)} (h : bpsSum rs ≤ 5000) :
    ∃ g' ms, royalties g rs = .ok g' ms (bpsSum rs) := by
  rw [royalties_eq, if_neg (by unfold U64MAX; omega), if_neg (by omega)]
  exact ⟨_, _, rfl⟩

example : bpsSum exRoyHalf ≤ 5000 := by decide

/-- a rate sum above 5000 bps that still fits a `u64` is refused with an error (not an abort) -/
theorem C17_roy_err (g : GBal) {rs : List (Option RoyaltyInfo)} (h64 : bpsSum rs ≤ U64MAX)
    (h : bpsSum rs > 5000) : royalties g rs = .err := by
  rw [royalties_eq, if_neg (by omega), if_pos h]

example : bpsSum exRoyOver ≤ U64MAX ∧ bpsSum exRoyOver > 5000 := by decide

/-- "never … abort" (royalties): the call aborts only if the rate sum does not fit a `u64`. -/
theorem C17_roy_no_panic (g : GBal) {rs : List (Option RoyaltyInfo)} (h64 : bpsSum rs ≤ U64MAX) :
    royalties g rs ≠ .panic :=
  fun h => absurd (royalties_panic h) (Nat.not_lt.2 h64)

example : bpsSum exRoyOver ≤ U64MAX ∧ bpsSum exRoyHalf ≤ U64MAX := by decide

/-- "never overflow, wrap or abort" (royalties) for the inputs the property names: up to 25
    entries with registry-legal rates.  The call returns `ok` with the rate sum, or the 50 % error;
    it never aborts (`panic`) and never fails in a `checked_sub`.  (`g.bounded` is not needed.) -/
theorem C17_roy_total {g : GBal} {rs : List (Option RoyaltyInfo)} (_hb : g.bounded)
    (hl : legalEntries rs) (hn : rs.length ≤ 25) :
    (bpsSum rs ≤ 5000 → ∃ g' ms, royalties g rs = .ok g' ms (bpsSum rs)) ∧
    (bpsSum rs > 5000 → royalties g rs = .err) := by
  refine ⟨C17_roy_total_any g, C17_roy_err g ?_⟩
  have := bpsSum_le_of_legal hl hn
  unfold U64MAX; omega

example : exBalMax.bounded ∧ legalEntries exRoy ∧ exRoy.length ≤ 25 ∧ bpsSum exRoy ≤ 5000 := by decide
example : legalEntries exRoyOver ∧ exRoyOver.length ≤ 25 ∧ bpsSum exRoyOver > 5000 := by decide

/-- "conserve value exactly per asset (payouts + remainder = original) … leave NFTs and other
    assets untouched" (royalties).  Holds for an arbitrary balance (duplicates or not): the keys
    of both fungible lists are unchanged position by position, and per denomination / token the
    remaining amount plus everything paid out equals the original amount. -/
theorem C17_roy_conserve {g g' : GBal} {rs : List (Option RoyaltyInfo)} {ms : List OutMsg} {s : Nat}
    (h : royalties g rs = .ok g' ms s) :
    (∀ k, coinAmt g'.native k + outNative ms k = coinAmt g.native k) ∧
    (∀ k, coinAmt g'.cw20 k + outCw20 ms k = coinAmt g.cw20 k) ∧
    g'.nfts = g.nfts ∧ keys g'.native = keys g.native ∧ keys g'.cw20 = keys g.cw20 ∧
    s = bpsSum rs := by
  obtain ⟨hs, _, hg, _⟩ := royalties_closed h
  refine ⟨fun k => (royalties_paid_native (fNative_mkBank k) (fNative_mkCw20 k) h).1,
    fun k => (royalties_paid_cw20 (fCw20_mkBank k) (fCw20_mkCw20 k) h).1, ?_, ?_, ?_, hs⟩ <;> subst hg
  · rfl
  · exact keys_map_royRem _ _
  · exact keys_map_royRem _ _

example : royalties exBal exRoy = .ok exBalRoy exMsgs 310 := by rfl

/-- "use floor rounding … produce one payout per non-zero (asset, collection) pair to the right
    address" (royalties): the message list is exactly, asset by asset (natives first, then CW20s)
    and entry by entry in registry-answer order, one transfer of `⌊amount·bps/10⁴⌋` of that asset
    to that entry's payout address, zero amounts skipped. -/
theorem C17_roy_msgs {g g' : GBal} {rs : List (Option RoyaltyInfo)} {ms : List OutMsg} {s : Nat}
    (hb : g.bounded) (h : royalties g rs = .ok g' ms s) :
    ms =
      (g.native.flatMap fun c => (rs.filterMap id).filterMap fun e =>
        if c.amount * e.bps / 10000 = 0 then none
        else some (OutMsg.bankSend e.payout [⟨c.key, c.amount * e.bps / 10000⟩])) ++
      (g.cw20.flatMap fun c => (rs.filterMap id).filterMap fun e =>
        if c.amount * e.bps / 10000 = 0 then none
        else some (OutMsg.cw20Transfer c.key e.payout (c.amount * e.bps / 10000))) :=
  (royalties_spec hb h).2.1

example : exBal.bounded ∧ royalties exBal exRoy = .ok exBalRoy exMsgs 310 := ⟨by decide, by rfl⟩
example : exBalMax.bounded ∧ royalties exBalMax exRoyHalf = .ok exBalMaxRoy exMsgsMax 5000 :=
  ⟨by decide, by rfl⟩

/-- "use floor rounding … conserve value exactly" (royalties), per coin: the remaining list is the
    original list with every amount `a` replaced by `a − Σ⌊a·bpsᵢ/10⁴⌋` (a true subtraction: the
    sum never exceeds `a`), keys and order unchanged. -/
theorem C17_roy_remainder {g g' : GBal} {rs : List (Option RoyaltyInfo)} {ms : List OutMsg} {s : Nat}
    (hb : g.bounded) (h : royalties g rs = .ok g' ms s) :
    g'.native = g.native.map (fun c =>
      ⟨c.key, c.amount - ((rs.filterMap id).map fun e => c.amount * e.bps / 10000).sum⟩) ∧
    g'.cw20 = g.cw20.map (fun c =>
      ⟨c.key, c.amount - ((rs.filterMap id).map fun e => c.amount * e.bps / 10000).sum⟩) ∧
    (∀ c ∈ g.native ++ g.cw20,
      ((rs.filterMap id).map fun e => c.amount * e.bps / 10000).sum ≤ c.amount) := by
  obtain ⟨rfl, -, rfl, h5⟩ := royalties_spec hb h
  exact ⟨rfl, rfl, fun c _ => royaltyOn_le h5 c.amount⟩

example : exBal.bounded ∧ royalties exBal exRoy = .ok exBalRoy exMsgs 310 := ⟨by decide, by rfl⟩
example : exBalMax.bounded ∧ royalties exBalMax exRoyHalf = .ok exBalMaxRoy exMsgsMax 5000 :=
  ⟨by decide, by rfl⟩

theorem C17_roy_remainder_native_idx {g g' : GBal} {rs : List (Option RoyaltyInfo)}
    {ms : List OutMsg} {s : Nat} (hb : g.bounded) (h : royalties g rs = .ok g' ms s) :
    g'.native.length = g.native.length ∧
    ∀ i (h₁ : i < g.native.length) (h₂ : i < g'.native.length),
      g'.native[i].key = g.native[i].key ∧
      g'.native[i].amount = g.native[i].amount -
        ((rs.filterMap id).map fun e => g.native[i].amount * e.bps / 10000).sum := by
  obtain ⟨e, _, _⟩ := C17_roy_remainder hb h
  refine ⟨by rw [e, List.length_map], ?_⟩
  intro i h₁ h₂
  simp only [e, List.getElem_map, and_self]

example : exBal.bounded ∧ royalties exBal exRoy = .ok exBalRoy exMsgs 310 := ⟨by decide, by rfl⟩
example : exBalMax.bounded ∧ royalties exBalMax exRoyHalf = .ok exBalMaxRoy exMsgsMax 5000 :=
  ⟨by decide, by rfl⟩

theorem C17_roy_remainder_cw20_idx {g g' : GBal} {rs : List (Option RoyaltyInfo)}
    {ms : List OutMsg} {s : Nat} (hb : g.bounded) (h : royalties g rs = .ok g' ms s) :
    g'.cw20.length = g.cw20.length ∧
    ∀ i (h₁ : i < g.cw20.length) (h₂ : i < g'.cw20.length),
      g'.cw20[i].key = g.cw20[i].key ∧
      g'.cw20[i].amount = g.cw20[i].amount -
        ((rs.filterMap id).map fun e => g.cw20[i].amount * e.bps / 10000).sum := by
  obtain ⟨_, e, _⟩ := C17_roy_remainder hb h
  refine ⟨by rw [e, List.length_map], ?_⟩
  intro i h₁ h₂
  simp only [e, List.getElem_map, and_self]

example : exBal.bounded ∧ royalties exBal exRoy = .ok exBalRoy exMsgs 310 := ⟨by decide, by rfl⟩
example : exBalMax.bounded ∧ royalties exBalMax exRoyHalf = .ok exBalMaxRoy exMsgsMax 5000 :=
  ⟨by decide, by rfl⟩

/-- "never overflow" (royalties): 128-bit amounts stay 128-bit amounts, and every amount in a
    payout message fits 128 bits. -/
theorem C17_roy_bounded {g g' : GBal} {rs : List (Option RoyaltyInfo)} {ms : List OutMsg} {s : Nat}
    (hb : g.bounded) (h : royalties g rs = .ok g' ms s) :
    g'.bounded ∧ ∀ m ∈ ms, m.amtBounded := by
  refine ⟨?_, fun m hm => ?_⟩
  · obtain ⟨_, h5, rfl, _⟩ := royalties_closed h
    have hle : ∀ a r, a ≤ U128MAX → 2 * r ≤ a → a - r ≤ U128MAX :=
      fun a r ha _ => Nat.le_trans (Nat.sub_le _ _) ha
    exact ⟨map_royRem_forall hle h5 hb.1, map_royRem_forall hle h5 hb.2⟩
  · obtain ⟨_, _, _, _, _, rfl⟩ | ⟨_, _, _, _, _, rfl⟩ := (mem_royalties h).1 hm
    · intro x hx
      cases List.mem_singleton.1 hx
      exact royAmt_le_max _ _
    · exact royAmt_le_max _ _

example : exBal.bounded ∧ royalties exBal exRoy = .ok exBalRoy exMsgs 310 := ⟨by decide, by rfl⟩
example : exBalMax.bounded ∧ royalties exBalMax exRoyHalf = .ok exBalMaxRoy exMsgsMax 5000 :=
  ⟨by decide, by rfl⟩

#print axioms C17_fee_total
#print axioms C17_fee_floor
#print axioms C17_fee_conserve
#print axioms C17_fee_other
#print axioms C17_fee_keys_perm
#print axioms C17_fee_wf
#print axioms C17_fee_bounded
#print axioms C17_roy_total_any
#print axioms C17_roy_err
#print axioms C17_roy_no_panic
#print axioms C17_roy_total
#print axioms C17_roy_conserve
#print axioms C17_roy_msgs
#print axioms C17_roy_remainder
#print axioms C17_roy_remainder_native_idx
#print axioms C17_roy_remainder_cw20_idx
#print axioms C17_roy_bounded

end Fuzion
