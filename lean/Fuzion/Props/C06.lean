/-
  Fuzion.Props.C06 — "A trade costs exactly the 0.5% fee plus registered royalties, nothing more".

  Property text (C06): At purchase each side is reduced by exactly floor(0.5%) of its amount in
  the current fee denomination (when present and non-zero) and then, for every distinct
  royalty-registered collection among the NFTs the seller is selling (charged to the bucket) or
  the buyer is paying with (charged to the listing goods), by floor(bps/10000 x post-fee amount)
  of every fungible asset on that side.  Those royalties are paid to the registered payout
  addresses in the same transaction, once per collection per side however many of its NFTs are
  involved.  No other deduction occurs and traders' own wallets are untouched by the purchase
  itself.

  The cost of a trade is specified DECLARATIVELY, without reference to the model's code, by
  `feeOf`, `afterFeeAmt`, `sideEntries`, `royaltyOn` (and the list-level forms `afterFee`,
  `afterRoyalty`, `royaltyMsgs`) in `Fuzion/Lemmas/Arith.lean` and `Fuzion/Lemmas/TradeLemmas.lean`;
  the theorems say that
  `buy` (`execute_buy_listing`, execute.rs), `calcFeeCoin` (`calc_fee_coin`, utils.rs) and
  `royalties` (`GenericBalance::royalties`, state.rs) compute exactly that, on states that
  satisfy the invariants `WFInv` / `IdsInv` (C12 / C09) and hold 128-bit amounts.
  `fd` is always the current fee denomination `feeDenomOf env m.feeKind`.
-/
import Fuzion.Lemmas.TradeLemmas
namespace Fuzion

/-- "for every distinct royalty-registered collection … once per collection per side however
    many of its NFTs are involved": the collection list of a side has no duplicates and contains
    exactly the collections of the side's NFTs; the entries charged are the registry's answers
    for that list, so each registered collection contributes one entry, whatever the number of
    its NFTs on the side. -/
theorem C06_collections_distinct (env : Env) (g : GBal) :
    (collections g).Nodup ∧ (∀ c, c ∈ collections g ↔ ∃ n ∈ g.nfts, n.coll = c) ∧
    sideEntries env g = (collections g).filterMap env.regLookup ∧
    (sideEntries env g).length ≤ (collections g).length := by
  obtain ⟨h1, h2⟩ := collections_spec g
  have h3 : sideEntries env g = (collections g).filterMap env.regLookup := by
    unfold sideEntries; rw [List.filterMap_map]; rfl
  exact ⟨h1, h2, h3, h3 ▸ List.length_filterMap_le _ _⟩

/-- three NFTs of collection 50 and one of 51 on a side: two collections, and with only 50
    registered a single entry is charged -/
example :
    collections ⟨[], [], [⟨50, 1⟩, ⟨51, 9⟩, ⟨50, 2⟩, ⟨50, 3⟩]⟩ = [50, 51] ∧
    sideEntries BuyEx.env ⟨[], [], [⟨50, 1⟩, ⟨51, 9⟩, ⟨50, 2⟩, ⟨50, 3⟩]⟩ = [⟨0, 300, 99⟩] := by
  decide

/-- "each side is reduced by exactly floor(0.5%) of its amount in the current fee denomination
    (when present and non-zero) and then, for every distinct royalty-registered collection among
    the NFTs the seller is selling (charged to the bucket) or the buyer is paying with (charged
    to the listing goods), by floor(bps/10000 x post-fee amount) of every fungible asset on that
    side".  `l`, `b` are the traded records, `l'`, `b'` the re-filed ones.
    (a) the fee recorded on each new record is `feeOf` of the old goods;
    (b) per native denomination / CW20 token the new amount is the post-fee amount minus the
        royalty total on the post-fee amount — the seller's collections charge the bucket, the
        buyer's the listing; CW20 amounts carry no fee;
    (c) the NFTs of both sides are unchanged;
    (d) ask, whitelist, times and id are unchanged; owner, claimant, status are the swap of C03. -/
theorem C06_buy_effect {j u : Nat} {m m' : Market} {env : Env} {buyer lid bid fd : Nat}
    {out : List OutMsg} (hfd : fd = feeDenomOf env m.feeKind)
    (hW : WFInv j u m) (hI : IdsInv m)
    (hbl : ∀ p ∈ m.listings, p.2.forSale.bounded) (hbb : ∀ p ∈ m.buckets, p.2.funds.bounded)
    (h : buy m env buyer lid bid = .ok (m', out)) :
    ∃ l b l' b',
      alookup (l.creator, lid) m.listings = some l ∧ alookup (buyer, bid) m.buckets = some b ∧
      alookup (buyer, lid) m'.listings = some l' ∧ alookup (l.creator, bid) m'.buckets = some b' ∧
      -- (a)
      b'.fee = feeOf fd b.funds ∧ l'.fee = feeOf fd l.forSale ∧
      -- (b) the bucket, charged with the seller's collections
      (∀ k, coinAmt b'.funds.native k = afterFeeAmt fd b.funds k -
        royaltyOn (sideEntries env l.forSale) (afterFeeAmt fd b.funds k)) ∧
      (∀ k, coinAmt b'.funds.cw20 k = coinAmt b.funds.cw20 k -
        royaltyOn (sideEntries env l.forSale) (coinAmt b.funds.cw20 k)) ∧
      -- (b) the listing goods, charged with the buyer's collections
      (∀ k, coinAmt l'.forSale.native k = afterFeeAmt fd l.forSale k -
        royaltyOn (sideEntries env b.funds) (afterFeeAmt fd l.forSale k)) ∧
      (∀ k, coinAmt l'.forSale.cw20 k = coinAmt l.forSale.cw20 k -
        royaltyOn (sideEntries env b.funds) (coinAmt l.forSale.cw20 k)) ∧
      -- (c)
      b'.funds.nfts = b.funds.nfts ∧ l'.forSale.nfts = l.forSale.nfts ∧
      -- (d)
      l'.ask = l.ask ∧ l'.whitelist = l.whitelist ∧ l'.finalizedAt = l.finalizedAt ∧
      l'.expiresAt = l.expiresAt ∧ l'.id = l.id ∧ l'.creator = buyer ∧ l'.claimant = some buyer ∧
      l'.status = .closed ∧ b'.owner = l.creator := by
  subst hfd
  obtain ⟨k, l, b, hl, hb, _, wl, wb, _, _, rfl, _⟩ := buy_closed hW hbl hbb h
  obtain ⟨nl1, nl2⟩ := wfBal_keys wl
  obtain ⟨nb1, nb2⟩ := wfBal_keys wb
  obtain ⟨rfl, -, hal⟩ := hI.findById_key hl
  exact ⟨l, b, _, _, hal, hb, alookup_ainsert_self _ _ _, alookup_ainsert_self _ _ _,
    rfl, rfl, side_kept_native nb1, side_kept_cw20 nb2, side_kept_native nl1, side_kept_cw20 nl2,
    afterFee_nfts _ _, afterFee_nfts _ _, rfl, rfl, rfl, rfl, rfl, rfl, rfl, rfl, rfl⟩

/-- the hypotheses of the purchase theorems of this file are met by the example market of
    `BuyLemmas.lean` (listing 1 of seller 10: 1000 of the fee denomination 100 and an NFT of
    collection 50, registered at 300 bps with payout address 99; bucket 2 of buyer 20) -/
theorem C06_example_hyps :
    100 = feeDenomOf BuyEx.env BuyEx.mkt.feeKind ∧ WFInv 100 101 BuyEx.mkt ∧ IdsInv BuyEx.mkt ∧
    (∀ p ∈ BuyEx.mkt.listings, p.2.forSale.bounded) ∧ (∀ p ∈ BuyEx.mkt.buckets, p.2.funds.bounded) ∧
    buy BuyEx.mkt BuyEx.env 20 1 2 = .ok BuyEx.bought :=
  ⟨rfl, BuyEx.wf, BuyEx.ids, by decide, by decide, BuyEx.buy_eq⟩

example := C06_buy_effect C06_example_hyps.1 C06_example_hyps.2.1 C06_example_hyps.2.2.1
  C06_example_hyps.2.2.2.1 C06_example_hyps.2.2.2.2.1 C06_example_hyps.2.2.2.2.2

/-- what `C06_buy_effect` says there, computed: the listing keeps 995 of
    denomination 100 (fee 5, the buyer pays with no NFT so no royalty); the bucket keeps
    485 = 500 − ⌊500·300/10⁴⌋ of denomination 101 (no fee: not the fee denomination), and its
    small CW20 amounts are untouched because their 3 % share rounds to zero -/
example :
    (alookup (20, 1) BuyEx.bought.1.listings).map (fun l => (l.fee, l.forSale)) =
      some (some ⟨100, 5⟩, ⟨[⟨100, 995⟩], [], [⟨50, 7⟩]⟩) ∧
    (alookup (10, 2) BuyEx.bought.1.buckets).map (fun b => (b.fee, b.funds)) =
      some (none, ⟨[⟨101, 485⟩], [⟨61, 5⟩, ⟨60, 20⟩], []⟩) := by decide +kernel

/-- "Those royalties are paid to the registered payout addresses in the same transaction":
    the messages of an accepted purchase are the pending fee of the paying bucket (if any; the
    repair of D1), then the royalty payouts charged to the bucket — for each native coin `c` of
    the post-fee bucket and each entry `e` of the seller's collections with a non-zero share one
    `bankSend e.payout [⟨c.key, ⌊c.amount·e.bps/10⁴⌋⟩]`, then likewise one `cw20Transfer` per CW20
    amount (`royaltyMsgs`, characterised element by element in `C06_payout_messages`) — then the
    same for the listing goods with the buyer's collections. -/
theorem C06_payouts {j u : Nat} {m m' : Market} {env : Env} {buyer lid bid fd : Nat}
    {out : List OutMsg} (hfd : fd = feeDenomOf env m.feeKind) (hW : WFInv j u m)
    (hbl : ∀ p ∈ m.listings, p.2.forSale.bounded) (hbb : ∀ p ∈ m.buckets, p.2.funds.bounded)
    (h : buy m env buyer lid bid = .ok (m', out)) :
    ∃ k l b, findById lid m.listings = some (k, l) ∧ alookup (buyer, bid) m.buckets = some b ∧
      out = pendingFeeMsgs env.self b.fee ++
        royaltyMsgs (sideEntries env l.forSale) (afterFee fd b.funds) ++
        royaltyMsgs (sideEntries env b.funds) (afterFee fd l.forSale) := by
  subst hfd
  obtain ⟨k, l, b, hl, hb, _, _, _, _, _, _, ho⟩ := buy_closed hW hbl hbb h
  exact ⟨k, l, b, hl, hb, ho⟩

example := C06_payouts C06_example_hyps.1 C06_example_hyps.2.1 C06_example_hyps.2.2.2.1
  C06_example_hyps.2.2.2.2.1 C06_example_hyps.2.2.2.2.2
example : BuyEx.bought.2 = [.bankSend 99 [⟨101, 15⟩]] := by decide

/-- the royalty messages element by element: exactly one bank transfer per (native coin, entry)
    pair and one CW20 transfer per (CW20 amount, entry) pair whose share `⌊amount·bps/10⁴⌋` is
    not zero, carrying that share to the entry's payout address; their number is the number of
    such pairs.  The post-fee side `afterFee fd g` they are computed from holds, per
    denomination, `afterFeeAmt fd g`, and the CW20 amounts and NFTs of `g`. -/
theorem C06_payout_messages (es : List RoyaltyInfo) (g : GBal) :
    (∀ x, x ∈ royaltyMsgs es g ↔
      (∃ c ∈ g.native, ∃ e ∈ es, c.amount * e.bps / 10000 ≠ 0 ∧
        x = .bankSend e.payout [⟨c.key, c.amount * e.bps / 10000⟩]) ∨
      (∃ c ∈ g.cw20, ∃ e ∈ es, c.amount * e.bps / 10000 ≠ 0 ∧
        x = .cw20Transfer c.key e.payout (c.amount * e.bps / 10000))) ∧
    (royaltyMsgs es g).length =
      ((g.native ++ g.cw20).map fun c =>
        (es.filter fun e => decide (c.amount * e.bps / 10000 ≠ 0)).length).sum ∧
    (∀ fd, (keys g.native).Nodup →
      (∀ k, coinAmt (afterFee fd g).native k = afterFeeAmt fd g k) ∧
      (afterFee fd g).cw20 = g.cw20 ∧ (afterFee fd g).nfts = g.nfts) :=
  ⟨fun _ => mem_royaltyMsgs, length_royaltyMsgs es g,
   fun fd _ => ⟨afterFee_amt fd g, afterFee_cw20 fd g, afterFee_nfts fd g⟩⟩

/-- the side condition of the last clause holds of the funds of the example bucket -/
example : (keys BuyEx.pay.native).Nodup := by decide

/-- "paid to the registered payout addresses … once per collection per side": per payout address
    `p`, the purchase sends `p`, in native denomination `d`, the sum over the entries paying to `p`
    of `⌊bps/10⁴ × post-fee amount of d⌋` of the bucket (entries of the seller's collections) plus
    the same of the listing goods (entries of the buyer's collections); likewise per CW20 token.
    Entries that share a payout address add up; nothing else is sent to anybody by bank or CW20
    transfer. -/
theorem C06_payout_total {j u : Nat} {m m' : Market} {env : Env} {buyer lid bid fd : Nat}
    {out : List OutMsg} (hfd : fd = feeDenomOf env m.feeKind) (hW : WFInv j u m)
    (hbl : ∀ p ∈ m.listings, p.2.forSale.bounded) (hbb : ∀ p ∈ m.buckets, p.2.funds.bounded)
    (h : buy m env buyer lid bid = .ok (m', out)) :
    ∃ k l b, findById lid m.listings = some (k, l) ∧ alookup (buyer, bid) m.buckets = some b ∧
      (∀ p d, sentNative out p d =
        royaltyOn ((sideEntries env l.forSale).filter fun e => decide (e.payout = p))
          (afterFeeAmt fd b.funds d) +
        royaltyOn ((sideEntries env b.funds).filter fun e => decide (e.payout = p))
          (afterFeeAmt fd l.forSale d)) ∧
      (∀ p t, sentCw20 out p t =
        royaltyOn ((sideEntries env l.forSale).filter fun e => decide (e.payout = p))
          (coinAmt b.funds.cw20 t) +
        royaltyOn ((sideEntries env b.funds).filter fun e => decide (e.payout = p))
          (coinAmt l.forSale.cw20 t)) := by
  subst hfd
  obtain ⟨k, l, b, hl, hb, _, wl, wb, _, _, _, rfl⟩ := buy_closed hW hbl hbb h
  obtain ⟨nl1, nl2⟩ := wfBal_keys wl
  obtain ⟨nb1, nb2⟩ := wfBal_keys wb
  have p1 : ∀ p d, sentNative (pendingFeeMsgs env.self b.fee) p d = 0 := by
    intro p d; cases b.fee <;> rfl
  have p2 : ∀ p t, sentCw20 (pendingFeeMsgs env.self b.fee) p t = 0 := by
    intro p t; cases b.fee <;> rfl
  refine ⟨k, l, b, hl, hb, fun p d => ?_, fun p t => ?_⟩
  · rw [sentNative_append, sentNative_append, p1, side_sentNative nb1, side_sentNative nl1,
      Nat.zero_add]
  · rw [sentCw20_append, sentCw20_append, p2, side_sentCw20 nb2, side_sentCw20 nl2, Nat.zero_add]

example := C06_payout_total C06_example_hyps.1 C06_example_hyps.2.1 C06_example_hyps.2.2.2.1
  C06_example_hyps.2.2.2.2.1 C06_example_hyps.2.2.2.2.2
/-- computed on the example: payout address 99 receives 15 of denomination 101, nobody else
    anything -/
example : sentNative BuyEx.bought.2 99 101 = 15 ∧ sentNative BuyEx.bought.2 99 100 = 0 ∧
    sentNative BuyEx.bought.2 10 101 = 0 ∧ sentCw20 BuyEx.bought.2 99 60 = 0 := by decide

/-- "No other deduction occurs": per native denomination, what a side held before the purchase
    is what it holds afterwards plus the fee recorded on the new record (it stays in the
    marketplace's wallet until the withdrawal sends it to the community pool, C05) plus what the
    royalty messages charged to that side send out; per CW20 token the same without a fee.  The
    amounts sent out are the royalty totals of (b).  Together with `C06_payouts` (there is no other
    message) nothing else leaves either side. -/
theorem C06_no_other_deduction {j u : Nat} {m m' : Market} {env : Env} {buyer lid bid fd : Nat}
    {out : List OutMsg} (hfd : fd = feeDenomOf env m.feeKind)
    (hW : WFInv j u m) (hI : IdsInv m)
    (hbl : ∀ p ∈ m.listings, p.2.forSale.bounded) (hbb : ∀ p ∈ m.buckets, p.2.funds.bounded)
    (h : buy m env buyer lid bid = .ok (m', out)) :
    ∃ l b l' b' msgsB msgsL,
      alookup (l.creator, lid) m.listings = some l ∧ alookup (buyer, bid) m.buckets = some b ∧
      alookup (buyer, lid) m'.listings = some l' ∧ alookup (l.creator, bid) m'.buckets = some b' ∧
      out = pendingFeeMsgs env.self b.fee ++ msgsB ++ msgsL ∧
      msgsB = royaltyMsgs (sideEntries env l.forSale) (afterFee fd b.funds) ∧
      msgsL = royaltyMsgs (sideEntries env b.funds) (afterFee fd l.forSale) ∧
      -- the bucket
      (∀ k, coinAmt b.funds.native k =
        coinAmt b'.funds.native k + feeAmt b'.fee k + outNative msgsB k) ∧
      (∀ k, coinAmt b.funds.cw20 k = coinAmt b'.funds.cw20 k + outCw20 msgsB k) ∧
      (∀ k, outNative msgsB k = royaltyOn (sideEntries env l.forSale) (afterFeeAmt fd b.funds k)) ∧
      (∀ k, outCw20 msgsB k = royaltyOn (sideEntries env l.forSale) (coinAmt b.funds.cw20 k)) ∧
      -- the listing goods
      (∀ k, coinAmt l.forSale.native k =
        coinAmt l'.forSale.native k + feeAmt l'.fee k + outNative msgsL k) ∧
      (∀ k, coinAmt l.forSale.cw20 k = coinAmt l'.forSale.cw20 k + outCw20 msgsL k) ∧
      (∀ k, outNative msgsL k = royaltyOn (sideEntries env b.funds) (afterFeeAmt fd l.forSale k)) ∧
      (∀ k, outCw20 msgsL k = royaltyOn (sideEntries env b.funds) (coinAmt l.forSale.cw20 k)) ∧
      -- the royalties never exceed half of what is left after the fee
      (∀ a, 2 * royaltyOn (sideEntries env l.forSale) a ≤ a) ∧
      (∀ a, 2 * royaltyOn (sideEntries env b.funds) a ≤ a) := by
  subst hfd
  obtain ⟨k, l, b, hl, hb, _, wl, wb, s1, s2, rfl, rfl⟩ := buy_closed hW hbl hbb h
  obtain ⟨nl1, nl2⟩ := wfBal_keys wl
  obtain ⟨nb1, nb2⟩ := wfBal_keys wb
  obtain ⟨rfl, -, hal⟩ := hI.findById_key hl
  exact ⟨l, b, _, _, _, _, hal, hb, alookup_ainsert_self _ _ _,
    alookup_ainsert_self _ _ _, rfl, rfl, rfl,
    side_conserve_native nb1 s1, side_conserve_cw20 nb2 s1, side_outNative nb1, side_outCw20 nb2,
    side_conserve_native nl1 s2, side_conserve_cw20 nl2 s2, side_outNative nl1, side_outCw20 nl2,
    royaltyOn_le_half s1, royaltyOn_le_half s2⟩

example := C06_no_other_deduction C06_example_hyps.1 C06_example_hyps.2.1 C06_example_hyps.2.2.1
  C06_example_hyps.2.2.2.1 C06_example_hyps.2.2.2.2.1 C06_example_hyps.2.2.2.2.2

/-- "traders' own wallets are untouched by the purchase itself": in the transaction
    `Buy lid bid` sent by `buyer` (it cannot carry coins), whatever its outcome,
    * no NFT changes hands;
    * no account other than the marketplace loses a coin, a CW20 unit or an NFT;
    * every account that is not the marketplace, not the community pool and not the payout
      address of a registered entry of one of the two sides has exactly the balances it had —
      in particular the buyer and the seller, unless they are such a payout address themselves
      (then they can only gain). -/
theorem C06_traders_untouched (w : World) (buyer lid bid : Nat) {k : Nat × Nat} {l : Listing}
    {b : Bucket} (hl : findById lid w.mkt.listings = some (k, l))
    (hb : alookup (buyer, bid) w.mkt.buckets = some b) :
    (step w (.exec buyer [] (.buy lid bid))).1.nft = w.nft ∧
    (∀ y, y ≠ w.self →
      (∀ d, lget w.bank (y, d) ≤ lget (step w (.exec buyer [] (.buy lid bid))).1.bank (y, d)) ∧
      (∀ t, lget w.cw20 (t, y) ≤ lget (step w (.exec buyer [] (.buy lid bid))).1.cw20 (t, y))) ∧
    (∀ y, y ≠ w.self → y ≠ w.pool →
      (∀ e ∈ sideEntries w.env l.forSale ++ sideEntries w.env b.funds, e.payout ≠ y) →
      (∀ d, lget (step w (.exec buyer [] (.buy lid bid))).1.bank (y, d) = lget w.bank (y, d)) ∧
      (∀ t, lget (step w (.exec buyer [] (.buy lid bid))).1.cw20 (t, y) = lget w.cw20 (t, y))) := by
  obtain ⟨h1, h2⟩ := stepF_buy_untouched noFault w buyer lid bid hl hb
  exact ⟨h1, fun y hy => ⟨(stepF_exec_nil_noDebit noFault buyer (.buy lid bid) hy).bank,
    (stepF_exec_nil_noDebit noFault buyer (.buy lid bid) hy).cw20⟩, h2⟩

/-- non-vacuity of `C06_traders_untouched`: in the example world the purchase is accepted, and
    buyer 20 and seller 10 are neither the marketplace (1), nor the pool (2), nor the payout
    address (99) -/
example :
    findById 1 BuyEx.world.mkt.listings = some ((10, 1), BuyEx.lst) ∧
    alookup (20, 2) BuyEx.world.mkt.buckets = some ⟨20, BuyEx.pay, none⟩ ∧
    (step BuyEx.world (.exec 20 [] (.buy 1 2))).2.ok = true ∧
    (∀ y ∈ [10, 20], y ≠ BuyEx.world.self ∧ y ≠ BuyEx.world.pool ∧
      ∀ e ∈ sideEntries BuyEx.world.env BuyEx.lst.forSale ++ sideEntries BuyEx.world.env BuyEx.pay,
        e.payout ≠ y) := by decide +kernel

/-- "Those royalties are paid to the registered payout addresses in the same transaction", at
    world level: when the purchase transaction is accepted, every message of `buy` was dispatched
    in that very transaction (a failing dispatch rolls the whole purchase back, C15), and every
    account `p` other than the marketplace and the community pool has been credited, per native
    denomination and per honest CW20 token, with exactly the shares of the entries paying to `p`
    (formula of `C06_payout_total`) — nothing more, nothing less. -/
theorem C06_paid_in_transaction {j u : Nat} {w : World} {buyer lid bid fd : Nat}
    (hfd : fd = feeDenomOf w.env w.mkt.feeKind) (hW : WFInv j u w.mkt)
    (hbl : ∀ p ∈ w.mkt.listings, p.2.forSale.bounded)
    (hbb : ∀ p ∈ w.mkt.buckets, p.2.funds.bounded)
    (hok : (step w (.exec buyer [] (.buy lid bid))).2.ok = true) :
    ∃ k l b m' out, findById lid w.mkt.listings = some (k, l) ∧
      alookup (buyer, bid) w.mkt.buckets = some b ∧
      buy w.mkt w.env buyer lid bid = .ok (m', out) ∧
      (step w (.exec buyer [] (.buy lid bid))).2.msgs = out ∧
      (step w (.exec buyer [] (.buy lid bid))).1.mkt = m' ∧
      ∀ p, p ≠ w.self → p ≠ w.pool →
        (∀ d, lget (step w (.exec buyer [] (.buy lid bid))).1.bank (p, d) =
          lget w.bank (p, d) +
          (royaltyOn ((sideEntries w.env l.forSale).filter fun e => decide (e.payout = p))
            (afterFeeAmt fd b.funds d) +
           royaltyOn ((sideEntries w.env b.funds).filter fun e => decide (e.payout = p))
            (afterFeeAmt fd l.forSale d))) ∧
        (∀ t, w.isHonest20 t = true →
          lget (step w (.exec buyer [] (.buy lid bid))).1.cw20 (t, p) =
          lget w.cw20 (t, p) +
          (royaltyOn ((sideEntries w.env l.forSale).filter fun e => decide (e.payout = p))
            (coinAmt b.funds.cw20 t) +
           royaltyOn ((sideEntries w.env b.funds).filter fun e => decide (e.payout = p))
            (coinAmt l.forSale.cw20 t))) := by
  obtain ⟨m', out, hx, hmsgs, hm, hcr⟩ := stepF_buy_credit (fail := noFault) hok
  obtain ⟨k, l, b, hl, hb, tN, tC⟩ := C06_payout_total hfd hW hbl hbb hx
  refine ⟨k, l, b, m', out, hl, hb, hx, hmsgs, hm, ?_⟩
  intro p h1 h2
  obtain ⟨c1, c2⟩ := hcr p h1 h2
  refine ⟨fun d => ?_, fun t ht => ?_⟩
  · rw [← tN]; exact c1 d
  · rw [← tC]; exact c2 t ht

/-- non-vacuity of `C06_paid_in_transaction`: the example purchase is accepted in the example
    world; computed: payout address 99 ends up with exactly 15 of denomination 101 -/
example : 100 = feeDenomOf BuyEx.world.env BuyEx.world.mkt.feeKind ∧ WFInv 100 101 BuyEx.world.mkt ∧
    (∀ p ∈ BuyEx.world.mkt.listings, p.2.forSale.bounded) ∧
    (∀ p ∈ BuyEx.world.mkt.buckets, p.2.funds.bounded) ∧
    (step BuyEx.world (.exec 20 [] (.buy 1 2))).2.ok = true ∧
    lget BuyEx.world.bank (99, 101) = 0 ∧
    lget (step BuyEx.world (.exec 20 [] (.buy 1 2))).1.bank (99, 101) = 15 :=
  ⟨rfl, BuyEx.wf, by decide, by decide, BuyEx.step_ok, by decide, by decide +kernel⟩

/-- The model's `buy` equals the declarative formulas: on a well-formed state with 128-bit amounts
    an accepted `buy` stores exactly the declaratively specified records (`tradedListing`,
    `tradedBucket`: fee `feeOf`, goods `afterRoyalty entries (afterFee fd goods)`) and emits
    exactly the declaratively specified messages; both rate sums are at most 50 %.
    (`buy_closed` of `Lemmas/TradeLemmas.lean`, for `fd`.) -/
theorem C06_buy_closed_form {j u : Nat} {m m' : Market} {env : Env} {buyer lid bid fd : Nat}
    {out : List OutMsg} (hfd : fd = feeDenomOf env m.feeKind) (hW : WFInv j u m)
    (hbl : ∀ p ∈ m.listings, p.2.forSale.bounded) (hbb : ∀ p ∈ m.buckets, p.2.funds.bounded)
    (h : buy m env buyer lid bid = .ok (m', out)) :
    ∃ k l b, findById lid m.listings = some (k, l) ∧ alookup (buyer, bid) m.buckets = some b ∧
      ((sideEntries env l.forSale).map (·.bps)).sum ≤ 5000 ∧
      ((sideEntries env b.funds).map (·.bps)).sum ≤ 5000 ∧
      m' = { m with
        listings := ainsert (buyer, lid) (tradedListing env fd buyer l b)
          (aerase (l.creator, lid) m.listings),
        buckets := ainsert (l.creator, bid) (tradedBucket env fd l b)
          (aerase (buyer, bid) m.buckets) } ∧
      out = pendingFeeMsgs env.self b.fee ++
        royaltyMsgs (sideEntries env l.forSale) (afterFee fd b.funds) ++
        royaltyMsgs (sideEntries env b.funds) (afterFee fd l.forSale) := by
  subst hfd
  obtain ⟨k, l, b, hl, hb, _, _, _, s1, s2, hm, ho⟩ := buy_closed hW hbl hbb h
  exact ⟨k, l, b, hl, hb, s1, s2, hm, ho⟩

example := C06_buy_closed_form C06_example_hyps.1 C06_example_hyps.2.1 C06_example_hyps.2.2.2.1
  C06_example_hyps.2.2.2.2.1 C06_example_hyps.2.2.2.2.2

/-- The model's `calcFeeCoin` and `royalties` / `sideRoyalties` equal the declarative formulas:
    on a balance with duplicate-free denominations the fee split returns `(feeOf, afterFee)`; on
    128-bit amounts and a rate sum of at most 50 % the royalty split returns `afterRoyalty`, the
    messages `royaltyMsgs` and the rate sum, and so does the royalty pass of one side of a
    purchase against the instantiated registry. -/
theorem C06_model_eq_spec :
    (∀ fd g, (keys g.native).Nodup → calcFeeCoin fd g = some (feeOf fd g, afterFee fd g)) ∧
    (∀ g rs, g.bounded → ((rs.filterMap id).map (·.bps)).sum ≤ 5000 →
      royalties g rs = .ok (afterRoyalty (rs.filterMap id) g) (royaltyMsgs (rs.filterMap id) g)
        ((rs.filterMap id).map (·.bps)).sum) ∧
    (∀ env g bal, bal.bounded → ((sideEntries env g).map (·.bps)).sum ≤ 5000 →
      sideRoyalties env env.regAddr (collections g) bal =
        .ok (afterRoyalty (sideEntries env g) bal) (royaltyMsgs (sideEntries env g) bal)
          ((sideEntries env g).map (·.bps)).sum) := by
  refine ⟨fun fd g nd => calcFeeCoin_spec nd, ?_, ?_⟩
  · intro g rs hb hs
    obtain ⟨g', ms, e⟩ := C17_roy_total_any g (rs := rs) hs
    obtain ⟨h1, h2, _, _⟩ := royalties_spec hb e
    rw [e, h1, h2]; rfl
  · intro env g bal hb hs
    obtain ⟨fb, ms, s, e⟩ := (sideRoyalties_ok_iff env (collections g) bal).2 hs
    obtain ⟨h1, h2, _⟩ := sideRoyalties_spec hb e
    have h3 := (sideRoyalties_ok_le e).2
    rw [e, h1, h2, h3]; rfl

/-- non-vacuity of the clauses of `C06_model_eq_spec` (sample data of `Lemmas/Arith.lean`) -/
example : (keys exBal.native).Nodup ∧ exBal.bounded ∧
    ((exRoy.filterMap id).map (·.bps)).sum ≤ 5000 ∧
    ((sideEntries BuyEx.env BuyEx.goods).map (·.bps)).sum ≤ 5000 := by decide

#print axioms C06_collections_distinct
#print axioms C06_buy_effect
#print axioms C06_example_hyps
#print axioms C06_payouts
#print axioms C06_payout_messages
#print axioms C06_payout_total
#print axioms C06_no_other_deduction
#print axioms C06_traders_untouched
#print axioms C06_paid_in_transaction
#print axioms C06_buy_closed_form
#print axioms C06_model_eq_spec

end Fuzion
