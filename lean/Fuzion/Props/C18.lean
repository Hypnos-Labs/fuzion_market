/-
  Fuzion.Props.C18 — "A third-party contract cannot alter or freeze someone else's escrow".

  The full statement is FALSE of the code (defect D5, recorded as a known finding): the receive
  hooks cannot authenticate `wrapper.sender`.  This file proves the negation with a concrete
  reachable witness (replayed on the implementation by the corpus history `corpus:3`), for both
  entry points and both victim kinds.  What a forged call still cannot do is proved in
  `Props/C18Partial.lean`.  (`corpus:3`: the scripted history "D5-forged-receive" of
  /verif/harness/src/suites.rs.)
-/
import Fuzion.Inv.MInv
namespace Fuzion

/-- A tiny world: marketplace 9, pool 8, registry 7; victim 1 holds 10 of denom 0 and 10 of denom 2;
    hostile contract 6 answers `TokenInfo` and rejects `Transfer` / `TransferNft` sent to it
    (`ContractInfo`, Model/Chain.lean).  Clock and height are the harness's start values (harness/src/world.rs). -/
def c18World : World :=
  { self := 9, pool := 8, regAddr := 7, junoD := 0, usdcD := 1, nowNs := 1700000000123456789, height := 1000,
    mkt := instantiate 1700000000123456789 (some 7), reg := [],
    bank := [((1, 0), 10), ((1, 2), 10)], cw20 := [], nft := [],
    contracts := [(9, ⟨none, 0, false, false⟩), (7, ⟨none, 0, false, false⟩), (6, ⟨none, 3, true, true⟩)] }

/-- the victim escrows a bucket (id 3) and a listing in preparation (id 5) -/
def c18Setup : List Op :=
  [ .exec 1 [⟨0, 10⟩] (.createBucket 3),
    .exec 1 [⟨2, 10⟩] (.createListing 5 ⟨⟨[⟨0, 10⟩], [], []⟩, none⟩) ]

/-- the forged calls: contract 6 calls the CW20 / CW721 hook naming the victim 1 as sender, aimed at
    the victim's bucket 3, resp. listing 5 -/
def forge20Bucket : Op := .exec 6 [] (.receive (.valid 1) 5 (some (.addToBucket 3)))
def forge721Bucket : Op := .exec 6 [] (.receiveNft (.valid 1) 1 (some (.addToBucket 3)))
def forge20Listing : Op := .exec 6 [] (.receive (.valid 1) 5 (some (.addToListing 5)))
def forge721Listing : Op := .exec 6 [] (.receiveNft (.valid 1) 1 (some (.addToListing 5)))

/-- the state after `c18Setup`, evaluated once for the concrete facts below -/
def c18State : World :=
  { c18World with
    mkt := { listings := [((1, 5), newListing 1 5 none ⟨[⟨2, 10⟩], [], []⟩ ⟨[⟨0, 10⟩], [], []⟩)],
             buckets := [((1, 3), ⟨1, ⟨[⟨0, 10⟩], [], []⟩, none⟩)],
             listingUsed := [5, 0], bucketUsed := [3, 0], feeKind := .juno, feeSince := 1700000000,
             registry := some 7 },
    bank := [((9, 2), 10), ((1, 2), 0), ((9, 0), 10), ((1, 0), 0)] }

theorem c18State_eq : run c18World c18Setup = c18State := by rfl

/-- `C18Safe w op v b`: the op leaves every record filed under `v` as it was, and `v` can still cash
    out bucket `b` afterwards (to be read for an `op` that `v` did not send; the definition does not
    say so, and the counterexample's `op` is sent by contract 6). -/
def C18Safe (w : World) (op : Op) (v b : Nat) : Prop :=
  (∀ k, k.1 = v → alookup k (step w op).1.mkt.buckets = alookup k w.mkt.buckets) ∧
  (∀ k, k.1 = v → alookup k (step w op).1.mkt.listings = alookup k w.mkt.listings) ∧
  (step (step w op).1 (.exec v [] (.removeBucket b))).2.ok = true

/-- before the forged call the victim can withdraw (the witness state is not already broken) -/
theorem C18_before : (step (run c18World c18Setup) (.exec 1 [] (.removeBucket 3))).2.ok = true ∧
    (step (run c18World c18Setup) (.exec 1 [] (.deleteListing 5))).2.ok = true := by
  rw [c18State_eq]; decide

/-- the forged CW20 call is accepted, adds 5 of the caller's own token to the victim's bucket … -/
theorem C18_forged_accepted :
    (step (run c18World c18Setup) forge20Bucket).2.ok = true ∧
    (alookup (1, 3) (step (run c18World c18Setup) forge20Bucket).1.mkt.buckets).map (·.funds.cw20) = some [⟨6, 5⟩] := by
  rw [c18State_eq]; decide

/-- … and the bucket can no longer be withdrawn: the negation of C18, with a reachable witness -/
theorem C18_counterexample :
    ∃ w op v b, (∃ ops, w = run c18World ops) ∧ ¬ C18Safe w op v b :=
  ⟨run c18World c18Setup, forge20Bucket, 1, 3, ⟨c18Setup, rfl⟩, by
    intro h
    exact absurd h.2.2 (by rw [c18State_eq]; decide)⟩

/-- the same through the CW721 entry point -/
theorem C18_counterexample_nft :
    (step (run c18World c18Setup) forge721Bucket).2.ok = true ∧
    (step (step (run c18World c18Setup) forge721Bucket).1 (.exec 1 [] (.removeBucket 3))).2.ok = false := by
  rw [c18State_eq]; decide

/-- and for a listing in preparation: after either forged top-up the creator cannot delete it -/
theorem C18_counterexample_listing :
    (step (run c18World c18Setup) forge20Listing).2.ok = true ∧
    (step (step (run c18World c18Setup) forge20Listing).1 (.exec 1 [] (.deleteListing 5))).2.ok = false ∧
    (step (run c18World c18Setup) forge721Listing).2.ok = true ∧
    (step (step (run c18World c18Setup) forge721Listing).1 (.exec 1 [] (.deleteListing 5))).2.ok = false := by
  rw [c18State_eq]; decide +kernel

/-- a *finalized* listing is out of reach of both forged top-ups (refused): the witness state only;
    in general `C18_finalized_immune_reach` (Props/C18Reach.lean) -/
theorem C18_finalized_refused :
    let w := (step (run c18World c18Setup) (.exec 1 [] (.finalize 5 600))).1
    (step w forge20Listing).2.ok = false ∧ (step w forge721Listing).2.ok = false := by
  rw [c18State_eq]; decide

/-- an account (not a contract) cannot forge: both hooks refuse it — the witness state only; in
    general `C18_partial_gate_world` (Props/C18Partial.lean), `C18_accounts_cannot_forge_reach` -/
theorem C18_account_cannot_forge :
    (step (run c18World c18Setup) (.exec 2 [] (.receive (.valid 1) 5 (some (.addToBucket 3))))).2.ok = false ∧
    (step (run c18World c18Setup) (.exec 2 [] (.receiveNft (.valid 1) 1 (some (.addToBucket 3))))).2.ok = false := by
  rw [c18State_eq]; decide

#print axioms C18_before
#print axioms C18_forged_accepted
#print axioms C18_counterexample
#print axioms C18_counterexample_nft
#print axioms C18_counterexample_listing
#print axioms C18_finalized_refused
#print axioms C18_account_cannot_forge
#print axioms c18State_eq
end Fuzion
