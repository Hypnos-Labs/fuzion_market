/-
  Fuzion.Props.C10Closed — ghost-ledger conservation ("Every fee charged reaches the community pool
  exactly once": `pool + pending = initial pool + initial pending + Σ charged`, per denomination)
  over every history, with the invariant-preservation hypotheses discharged by C09 and C12.
-/
import Fuzion.Props.C10
import Fuzion.Props.C09
import Fuzion.Props.C12
namespace Fuzion

/-- "Every fee charged reaches the community pool exactly once", along every history, per
    denomination -/
theorem C10_conservation_closed (ops : List Op) {w : World} (h : C10Inv w)
    (hops : ∀ op ∈ ops, op.avoids w.pool) (d : Nat) :
    lget (run w ops).bank (w.pool, d) + pendingFee (run w ops).mkt d =
      lget w.bank (w.pool, d) + pendingFee w.mkt d + chargedRun w ops d :=
  C10_conservation C09_inv_execute (fun _ hw h => C12_inv_execute hw h) ops h hops d

#print axioms C10_conservation_closed
end Fuzion
