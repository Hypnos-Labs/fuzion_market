/-
  Fuzion.Props.C13Closed — C13 ("The fee denomination alternates, at most once per week") without
  the `u64` saturation side conditions of Props/C13.lean.

  The side condition `m.feeSince + WEEK ≤ U64MAX ∨ nowNs / NS ≤ U64MAX` there makes the Rust's
  `last.saturating_add(604800)` invisible.  On a real chain the block time is a `u64` number of
  nanoseconds; the model's clock and its `advance` are unbounded, so that fact is the world
  predicate `TimeOk` (Lemmas/ClosedLemmas.lean).  It holds after a history `ops` from `w0` iff
  `w0.nowNs + closed_elapsed ops ≤ U64MAX` — `hclk` below, an input-side hypothesis on the
  operation list.  The cycle test reads only the clock, so its theorems start from any world; the
  theorems about the stamp start from `w0.mkt = instantiate t r` with `t ≤ w0.nowNs` (`ht`: not
  instantiated in the future, the model leaves `t` free; `closed_since_le`).
-/
import Fuzion.Props.C13
import Fuzion.Props.C01Closed
import Fuzion.Lemmas.ClosedLemmas
namespace Fuzion

/-! ### sample worlds for the examples

`deployedEx` (Props/C01Closed.lean): instantiated at its own block time 1 700 000 000.123456789 s.
`C13CEx.ops₁`: a week and a second pass.  `C13CEx.ops₂`, run after a switch by account 77: a deposit,
then another week and a second. -/

namespace C13CEx
def ops₁ : List Op := [.advance (604801 * NS) 1]
def ops₂ : List Op := [.exec 1 [⟨0, 5⟩] (.createBucket 3), .advance (604801 * NS) 1]
end C13CEx

example : deployedEx.mkt = instantiate 1700000000123456789 (some 7) ∧
    1700000000123456789 ≤ deployedEx.nowNs ∧ TimeOk deployedEx ∧
    deployedEx.nowNs + closed_elapsed C13CEx.ops₁ ≤ U64MAX ∧
    deployedEx.nowNs + closed_elapsed C13CEx.ops₁ + closed_elapsed C13CEx.ops₂ ≤ U64MAX :=
  ⟨rfl, by decide, by decide, by decide, by decide⟩

theorem C13_timeOk_step {w : World} (op : Op) (h : w.nowNs + op.elapseNs ≤ U64MAX) :
    TimeOk (step w op).1 ∧ (step w op).1.nowNs = w.nowNs + op.elapseNs :=
  ⟨TimeOk_step op h, stepF_nowNs noFault w op⟩

example : TimeOk deployedEx ∧ deployedEx.nowNs + (Op.advance (604801 * NS) 1).elapseNs ≤ U64MAX ∧
    (Op.exec 77 [] .feeCycle).elapseNs = 0 := by decide

theorem C13_timeOk_run (w0 : World) (ops : List Op) (hclk : w0.nowNs + closed_elapsed ops ≤ U64MAX) :
    (run w0 ops).nowNs = w0.nowNs + closed_elapsed ops ∧ TimeOk (run w0 ops) ∧
    ∀ k, TimeOk (run w0 (ops.take k)) :=
  ⟨closed_run_nowNs w0 ops, TimeOk_run ops hclk, (TimeOk_run_iff ops).1 hclk⟩

example : deployedEx.nowNs + closed_elapsed (C13CEx.ops₁ ++ [.exec 77 [] .feeCycle] ++ C13CEx.ops₂)
    ≤ U64MAX := by decide
/-- the condition is needed: the model's `advance` can leave the `u64` range -/
example : ¬ TimeOk (run deployedEx [.advance U64MAX 1]) := by decide

/-- "since the previous switch or instantiation", in every reachable state: `C13_monotone_since`
    with `hinv` discharged from `instantiate`, and the lower bound `t / NS`. -/
theorem C13_monotone_since_reach {w0 : World} {t : Nat} {r : Option Nat}
    (h0 : w0.mkt = instantiate t r) (ht : t ≤ w0.nowNs) (ops₁ ops₂ : List Op) :
    t / NS ≤ (run w0 ops₁).mkt.feeSince ∧
    (run w0 ops₁).mkt.feeSince ≤ (run w0 ops₁).nowNs / NS ∧
    (run w0 ops₁).mkt.feeSince ≤ (run w0 (ops₁ ++ ops₂)).mkt.feeSince := by
  obtain ⟨h1, h2⟩ := closed_since_le h0 ht ops₁
  refine ⟨h1, h2, ?_⟩
  rw [run_append]
  exact (C13_monotone_since h2 ops₂).1

example : (run deployedEx (C13CEx.ops₁ ++ [.exec 77 [] .feeCycle])).mkt.feeSince = 1700604801 ∧
    (run deployedEx (C13CEx.ops₁ ++ [.exec 77 [] .feeCycle])).nowNs / NS = 1700604801 := by decide

theorem C13_step_since_reach {w0 : World} {t : Nat} {r : Option Nat}
    (h0 : w0.mkt = instantiate t r) (ht : t ≤ w0.nowNs) (ops : List Op) (op : Op) :
    (run w0 ops).mkt.feeSince ≤ (step (run w0 ops) op).1.mkt.feeSince ∧
    (step (run w0 ops) op).1.mkt.feeSince ≤ (step (run w0 ops) op).1.nowNs / NS :=
  C13_step_since op (closed_since_le h0 ht ops).2

example : (run deployedEx C13CEx.ops₁).mkt.feeSince = 1700000000 ∧
    (step (run deployedEx C13CEx.ops₁) (.exec 77 [] .feeCycle)).1.mkt.feeSince = 1700604801 := by
  decide

/-- In every state reached from `instantiate` (`ht`) by a history that keeps the block time a
    `u64` number of nanoseconds (`hclk`), no saturating `u64` addition around the fee stamp
    saturates: the side condition `feeSince + WEEK ≤ U64MAX` of Props/C13.lean (and
    `feeSince + WEEK + 1 ≤ U64MAX` of `C16_fee`) is a theorem. -/
theorem C13_no_saturation_reach {w0 : World} {t : Nat} {r : Option Nat}
    (h0 : w0.mkt = instantiate t r) (ht : t ≤ w0.nowNs) (ops : List Op)
    (hclk : w0.nowNs + closed_elapsed ops ≤ U64MAX) :
    (run w0 ops).mkt.feeSince + WEEK + 1 ≤ U64MAX :=
  closed_no_saturation (TimeOk_run ops hclk) (closed_since_le h0 ht ops).2

example : deployedEx.mkt = instantiate 1700000000123456789 (some 7) ∧
    1700000000123456789 ≤ deployedEx.nowNs ∧
    deployedEx.nowNs + closed_elapsed (C13CEx.ops₁ ++ [.exec 77 [] .feeCycle] ++ C13CEx.ops₂)
      ≤ U64MAX := ⟨rfl, by decide, by decide⟩

/-- "never when fewer than 604800 seconds have elapsed since the previous switch or
    instantiation; once more than 604800 seconds have elapsed any account can switch it", in a
    world whose block time is a `u64`: `C13_cycle_iff` with `TimeOk` in place of its side
    condition. -/
theorem C13_cycle_iff_timeOk {w : World} (hT : TimeOk w) :
    (∃ x, cycleFee w.mkt w.env = .ok x) ↔ w.nowNs / NS > w.mkt.feeSince + WEEK :=
  C13_cycle_iff' w.mkt w.env hT.secs

example : TimeOk deployedEx ∧ TimeOk (run deployedEx C13CEx.ops₁) := by decide

/-- The cycle message is accepted exactly when more than a week of block time separates now from
    the stored stamp, in every state reached by a history that keeps the clock within a `u64`
    (`hclk`) — from any initial world: only the clock matters here. -/
theorem C13_cycle_iff_reach (w0 : World) (ops : List Op)
    (hclk : w0.nowNs + closed_elapsed ops ≤ U64MAX) :
    (∃ x, cycleFee (run w0 ops).mkt (run w0 ops).env = .ok x) ↔
      (run w0 ops).nowNs / NS > (run w0 ops).mkt.feeSince + WEEK :=
  C13_cycle_iff_timeOk (TimeOk_run ops hclk)

theorem C13_cycle_iff_ns_reach (w0 : World) (ops : List Op)
    (hclk : w0.nowNs + closed_elapsed ops ≤ U64MAX) :
    (∃ x, cycleFee (run w0 ops).mkt (run w0 ops).env = .ok x) ↔
      (run w0 ops).nowNs ≥ ((run w0 ops).mkt.feeSince + WEEK + 1) * NS := by
  rw [C13_cycle_iff_reach w0 ops hclk, div_gt_iff_ns]

/-- both sides occur: refused right after deployment, accepted a week and a second later -/
example : deployedEx.nowNs + closed_elapsed [] ≤ U64MAX ∧
    ¬ ((run deployedEx []).nowNs / NS > (run deployedEx []).mkt.feeSince + WEEK) ∧
    (run deployedEx C13CEx.ops₁).nowNs / NS > (run deployedEx C13CEx.ops₁).mkt.feeSince + WEEK := by
  decide

/-- "never when fewer than 604800 seconds have elapsed since the previous switch or
    instantiation", as a transaction in a world whose block time is a `u64`: `C13_step_cycle`
    with `TimeOk` in place of its side condition. -/
theorem C13_step_cycle_timeOk {w : World} (hT : TimeOk w) {s : Nat} {f : List Coin}
    (h : (step w (.exec s f .feeCycle)).2.ok = true) : w.nowNs / NS > w.mkt.feeSince + WEEK :=
  C13_step_cycle (.inr hT.secs) h

theorem C13_step_cycle_reach (w0 : World) (ops : List Op)
    (hclk : w0.nowNs + closed_elapsed ops ≤ U64MAX) {s : Nat} {f : List Coin}
    (h : (step (run w0 ops) (.exec s f .feeCycle)).2.ok = true) :
    (run w0 ops).nowNs / NS > (run w0 ops).mkt.feeSince + WEEK :=
  C13_step_cycle_timeOk (TimeOk_run ops hclk) h

/-- account 77's cycle transaction succeeds a week and a second after deployment -/
example : (step (run deployedEx C13CEx.ops₁) (.exec 77 [] .feeCycle)).2.ok = true := by decide

/-- "never when fewer than … ; once more than 604800 seconds have elapsed any account can switch
    it", both halves as one equivalence about transactions, of any account `s`, in a state
    reached with the clock within a `u64` (`hclk`). -/
theorem C13_step_cycle_iff_reach (w0 : World) (ops : List Op)
    (hclk : w0.nowNs + closed_elapsed ops ≤ U64MAX) (s : Nat) :
    (step (run w0 ops) (.exec s [] .feeCycle)).2.ok = true ↔
      (run w0 ops).nowNs / NS > (run w0 ops).mkt.feeSince + WEEK :=
  ⟨C13_step_cycle_reach w0 ops hclk, C13_step_can_cycle s⟩

/-- both sides occur: refused after exactly a week, accepted a second later, for another sender -/
example : (step (run deployedEx [.advance (604800 * NS) 1]) (.exec 78 [] .feeCycle)).2.ok = false ∧
    (step (run deployedEx C13CEx.ops₁) (.exec 78 [] .feeCycle)).2.ok = true := by decide

/-- "never when fewer than 604800 seconds have elapsed since … instantiation": a cycle
    transaction that succeeds in a state reached from `instantiate t r` happens strictly more
    than 604800 s after the instantiation second `t / NS`; assumes `ht` and `hclk`. -/
theorem C13_since_instantiation_reach {w0 : World} {t : Nat} {r : Option Nat}
    (h0 : w0.mkt = instantiate t r) (ht : t ≤ w0.nowNs) (ops : List Op)
    (hclk : w0.nowNs + closed_elapsed ops ≤ U64MAX) {s : Nat} {f : List Coin}
    (h : (step (run w0 ops) (.exec s f .feeCycle)).2.ok = true) :
    (run w0 ops).nowNs / NS > t / NS + WEEK := by
  exact Nat.lt_of_le_of_lt (Nat.add_le_add_right (closed_since_le h0 ht ops).1 _)
    (C13_step_cycle_reach w0 ops hclk h)

/-- the first switch of the sample history, 604 801 s after instantiation -/
example : (step (run deployedEx C13CEx.ops₁) (.exec 77 [] .feeCycle)).2.ok = true ∧
    (run deployedEx C13CEx.ops₁).nowNs / NS = 1700000000123456789 / NS + WEEK + 1 := by decide

/-- "never when fewer than 604800 seconds have elapsed since the previous switch":
    `C13_between_switches` with `TimeOk` at the second switch in place of its side condition. -/
theorem C13_between_switches_timeOk {w : World} {s₁ s₂ : Nat} {f₁ f₂ : List Coin} (ops : List Op)
    (h₁ : (step w (.exec s₁ f₁ .feeCycle)).2.ok = true)
    (hT : TimeOk (run (step w (.exec s₁ f₁ .feeCycle)).1 ops))
    (h₂ : (step (run (step w (.exec s₁ f₁ .feeCycle)).1 ops) (.exec s₂ f₂ .feeCycle)).2.ok = true) :
    (run (step w (.exec s₁ f₁ .feeCycle)).1 ops).nowNs / NS > w.nowNs / NS + WEEK :=
  C13_between_switches ops h₁ (.inr hT.secs) h₂

/-- Between two successful switches — the first in `run w0 ops₁`, then `ops₂`, whatever it does,
    then the second — strictly more than 604800 s of block time elapse.  `hclk`: the `advance`
    operations of `ops₁` and `ops₂` keep the clock within a `u64`. -/
theorem C13_between_switches_reach (w0 : World) (ops₁ ops₂ : List Op)
    (hclk : w0.nowNs + closed_elapsed ops₁ + closed_elapsed ops₂ ≤ U64MAX)
    {s₁ s₂ : Nat} {f₁ f₂ : List Coin}
    (h₁ : (step (run w0 ops₁) (.exec s₁ f₁ .feeCycle)).2.ok = true)
    (h₂ : (step (run (step (run w0 ops₁) (.exec s₁ f₁ .feeCycle)).1 ops₂)
      (.exec s₂ f₂ .feeCycle)).2.ok = true) :
    (run (step (run w0 ops₁) (.exec s₁ f₁ .feeCycle)).1 ops₂).nowNs / NS >
      (run w0 ops₁).nowNs / NS + WEEK := by
  refine C13_between_switches_timeOk ops₂ h₁ (TimeOk_run _ ?_) h₂
  show (stepF noFault (run w0 ops₁) (.exec s₁ f₁ .feeCycle)).1.nowNs + _ ≤ _
  rw [stepF_nowNs, closed_run_nowNs]
  exact hclk

/-- two switches a week and a second apart, with a deposit in between -/
example : (step (run deployedEx C13CEx.ops₁) (.exec 77 [] .feeCycle)).2.ok = true ∧
    (step (run (step (run deployedEx C13CEx.ops₁) (.exec 77 [] .feeCycle)).1 C13CEx.ops₂)
      (.exec 78 [] .feeCycle)).2.ok = true := by decide
/-- … and the denomination is back to the first one afterwards -/
example : (run deployedEx (C13CEx.ops₁ ++ [.exec 77 [] .feeCycle] ++ C13CEx.ops₂ ++
    [.exec 78 [] .feeCycle])).mkt.feeKind = .juno := by decide

#print axioms C13_timeOk_step
#print axioms C13_timeOk_run
#print axioms C13_monotone_since_reach
#print axioms C13_step_since_reach
#print axioms C13_no_saturation_reach
#print axioms C13_cycle_iff_timeOk
#print axioms C13_cycle_iff_reach
#print axioms C13_cycle_iff_ns_reach
#print axioms C13_step_cycle_timeOk
#print axioms C13_step_cycle_reach
#print axioms C13_step_cycle_iff_reach
#print axioms C13_since_instantiation_reach
#print axioms C13_between_switches_timeOk
#print axioms C13_between_switches_reach

end Fuzion
