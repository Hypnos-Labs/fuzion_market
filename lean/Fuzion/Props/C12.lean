/-
  Fuzion.Props.C12 — "Every escrow record is well-formed and therefore payable".

  Property text (C12): Every listing and bucket the marketplace holds contains at least one
  asset, no zero amount, no duplicate denomination, token or NFT, and cannot be topped up beyond
  25 distinct assets; every ask is likewise non-empty, duplicate-free and at most 25 items; and
  status, timestamps, buyer and pending fee are mutually consistent and the record is filed under
  its owner and id.  Deposits or asks that would break this are refused and those that keep it are
  accepted (for a fresh legal id, an owned listing still in preparation, or any owned bucket), so
  a payout can never be rejected by the bank or a token contract for being empty, zero or
  duplicated.

  The storage invariant is `WFInv j u m` (Fuzion/Inv/MInv.lean: every stored listing satisfies
  `wfListing`, every stored bucket `wfBucket`; `j`, `u` are the two fee denominations); its
  executable form, evaluated by the driver on every implementation state, is `checkWF`.

  NOTE on "cannot be topped up beyond 25 distinct assets" (reading decision of DESIGN.md §3):
  `wfBal`, the stored-balance predicate, carries no 25 bound.  `buy` never adds assets and the
  top-up handlers test the cap on the result (`C12_topup_*_iff`), so a record can never be *topped
  up* beyond 25; but `execute_create_listing` / `execute_create_bucket` only run
  `normalized_check`, which has no cap, so a record can be *created* with more than 25 native
  denominations in one message (`C12_create_no_cap`).  Under the literal reading of the property
  this is an observation, not a violation.  The ask is capped in every case (`wfAsk = check_valid`).
-/
import Fuzion.Lemmas.InvLemmas
namespace Fuzion

namespace C12Ex
def ask : CreateMsg := ⟨⟨[⟨2, 2000⟩], [(.valid 50, 5)], [(.valid 60, 1)]⟩, none⟩
def env : Env :=
  { self := 100, nowNs := 0, junoD := 1, usdcD := 2, regAddr := 102,
    isToken20 := fun a => a == 50, isContract := fun a => a == 60, regLookup := fun _ => none }
def w : World :=
  { self := 100, pool := 101, regAddr := 102, junoD := 1, usdcD := 2, nowNs := 0, height := 1,
    mkt := instantiate 0 (some 102), reg := [], bank := [((7, 1), 5000), ((8, 2), 5000)],
    cw20 := [((50, 7), 900), ((50, 8), 900)], nft := [((60, 1), 8)],
    contracts := [(50, ⟨none, 1, true, false⟩), (60, ⟨none, 2, false, false⟩)] }
/-- seller 7 lists 1000 of denomination 1 for 2000 of denomination 2 and finalizes for 600 s -/
def opCreate : Op := .exec 7 [⟨1, 1000⟩] (.createListing 5 ⟨⟨[⟨2, 2000⟩], [], []⟩, none⟩)
def opFinal : Op := .exec 7 [] (.finalize 5 600)
/-- buyer 8 fills bucket 6 with the price and buys -/
def opBucket : Op := .exec 8 [⟨2, 2000⟩] (.createBucket 6)
def opBuy : Op := .exec 8 [] (.buy 5 6)
def history : List Op := [opCreate, opFinal, opBucket, opBuy]
/-- a preparing listing of owner 7 under id 5 and a bucket of owner 7 under id 6 -/
def lst : Listing := newListing 7 5 none ⟨[⟨1, 1000⟩], [], []⟩ ⟨[⟨2, 2000⟩], [], []⟩
def bkt : Bucket := ⟨7, ⟨[⟨1, 1000⟩], [⟨50, 5⟩], []⟩, none⟩
def mkt : Market :=
  { listings := [((7, 5), lst)], buckets := [((7, 6), bkt)], listingUsed := [5, 0],
    bucketUsed := [6, 0], feeKind := .juno, feeSince := 0, registry := some 102 }
/-- the refusal guard of a handler result (`none` = accepted) -/
def errOf (r : HRes) : Option Err := match r with | .ok _ => none | .error e => some e
end C12Ex

/-- "Every listing and bucket the marketplace holds contains at least one asset, no zero amount,
    no duplicate denomination, token or NFT …; every ask is likewise non-empty, duplicate-free and
    at most 25 items; and status, timestamps, buyer and pending fee are mutually consistent and
    the record is filed under its owner and id" — inductive step: every accepted message preserves
    `WFInv`.  (`IdsInv` is not needed as a premise.) -/
theorem C12_inv_execute {m m' : Market} {env : Env} {s : Nat} {f : List Coin} {msg : ExecMsg}
    {out : List OutMsg} (hw : WFInv env.junoD env.usdcD m)
    (h : execute m env s f msg = .ok (m', out)) : WFInv env.junoD env.usdcD m' :=
  (execute_shape h).wf hw

example : WFInv C12Ex.env.junoD C12Ex.env.usdcD (instantiate 0 none) ∧
    ∃ r, execute (instantiate 0 none) C12Ex.env 7 [⟨1, 1000⟩] (.createListing 5 C12Ex.ask) = .ok r :=
  ⟨WFInv.init _ _ 0 none, _, rfl⟩

theorem C12_inv_step {w : World} (op : Op) (hw : WFInv w.junoD w.usdcD w.mkt) :
    WFInv (step w op).1.junoD (step w op).1.usdcD (step w op).1.mkt := by
  unfold step
  rw [(stepF_static noFault w op).junoD, (stepF_static noFault w op).usdcD]
  exact stepF_mkt_inv hw (C12_inv_execute (env := w.env) hw)

theorem C12_inv_run {w : World} (hw : WFInv w.junoD w.usdcD w.mkt) (ops : List Op) :
    WFInv (run w ops).junoD (run w ops).usdcD (run w ops).mkt :=
  run_invariant (P := fun w => WFInv w.junoD w.usdcD w.mkt) (fun _ op h => C12_inv_step op h) ops hw

theorem C12_reach {w : World} {t : Nat} {r : Option Nat} (h0 : w.mkt = instantiate t r)
    (ops : List Op) : WFInv w.junoD w.usdcD (run w ops).mkt := by
  have := C12_inv_run (w := w) (h0 ▸ WFInv.init _ _ t r) ops
  rw [(run_static w ops).junoD, (run_static w ops).usdcD] at this
  exact this

theorem C12_checkWF_iff (w : World) : checkWF w = true ↔ WFInv w.junoD w.usdcD w.mkt := by
  simp only [checkWF, Bool.and_eq_true, List.all_eq_true]
  exact ⟨fun h => ⟨h.1, h.2⟩, fun h => ⟨h.lwf, h.bwf⟩⟩

theorem C12_checkWF_reach {w : World} {t : Nat} {r : Option Nat} (h0 : w.mkt = instantiate t r)
    (ops : List Op) : checkWF (run w ops) = true := by
  rw [C12_checkWF_iff, (run_static w ops).junoD, (run_static w ops).usdcD]
  exact C12_reach h0 ops

-- a full trade; afterwards a closed listing (fee pending) and the seller's bucket
example : C12Ex.w.mkt = instantiate 0 (some 102) := rfl
example : (step C12Ex.w C12Ex.opCreate).2.ok = true := by decide
example : ((run C12Ex.w C12Ex.history).mkt.listings.map (fun p => (p.1, p.2.status, p.2.fee))) =
      [((8, 5), .closed, some ⟨1, 5⟩)] ∧
    (run C12Ex.w C12Ex.history).mkt.buckets.map (·.1) = [(7, 6)] ∧
    checkWF (run C12Ex.w C12Ex.history) = true := by decide

/-- what `GenericBalanceUnvalidated::validate` demands of an ask, stated over the raw message:
    every CW20 / NFT contract address validates, no native or CW20 amount is zero, between 1 and
    25 items in total, no denomination, token address or (collection, token id) pair twice -/
structure AskOK (r : RawGBal) : Prop where
  cw20Valid : ∀ p ∈ r.cw20, p.1 ≠ .invalid
  nftValid : ∀ p ∈ r.nfts, p.1 ≠ .invalid
  nativeNonzero : ∀ c ∈ r.native, c.amount ≠ 0
  cw20Nonzero : ∀ p ∈ r.cw20, p.2 ≠ 0
  nonEmpty : 1 ≤ r.native.length + r.cw20.length + r.nfts.length
  atMost25 : r.native.length + r.cw20.length + r.nfts.length ≤ 25
  denomsDistinct : (r.native.map (·.key)).Nodup
  tokensDistinct : (r.cw20.map (·.1)).Nodup
  nftsDistinct : r.nfts.Nodup

/-- "every ask is likewise non-empty, duplicate-free and at most 25 items … asks that would break
    this are refused and those that keep it are accepted": an ask validates exactly when it is
    `AskOK`. -/
theorem C12_ask_iff (r : RawGBal) : (∃ g, validateAsk r = some g) ↔ AskOK r := by
  constructor
  · rintro ⟨g, h⟩
    obtain ⟨h1, h2, rfl, hv⟩ := (validateAsk_spec r g).1 h
    obtain ⟨wf, hc⟩ := (checkValid_iff _).1 hv
    obtain ⟨w1, _, w3, w4, w5, w6⟩ := (wfBal_iff _).1 wf
    simp only [GBal.count, List.length_map] at w3 hc
    exact ⟨fun p hp => (h1 p hp).1, h2, w1, fun p hp => (h1 p hp).2, w3, hc, w4,
      (nodup_valCoin fun p hp => (h1 p hp).1).1 w5, (nodup_valNft h2).1 w6⟩
  · intro h
    refine ⟨_, (validateAsk_spec r _).2 ⟨fun p hp => ⟨h.cw20Valid p hp, h.cw20Nonzero p hp⟩,
      h.nftValid, rfl, ?_⟩⟩
    rw [checkValid_iff, wfBal_iff]
    simp only [GBal.count, List.length_map]
    refine ⟨⟨h.nativeNonzero, ?_, h.nonEmpty, h.denomsDistinct,
      (nodup_valCoin h.cw20Valid).2 h.tokensDistinct, (nodup_valNft h.nftValid).2 h.nftsDistinct⟩,
      h.atMost25⟩
    intro c hc
    obtain ⟨p, hp, rfl⟩ := List.mem_map.1 hc
    exact h.cw20Nonzero p hp

/-- a validated ask is well-formed (`check_valid`: at least one and at most 25 items, no zero
    amount, no duplicate) and carries the native coins of the message unchanged, the CW20 and NFT
    entries with their addresses resolved -/
theorem C12_ask_wf {r : RawGBal} {g : GBal} (h : validateAsk r = some g) :
    wfAsk g = true ∧ g.native = r.native ∧ g.cw20 = r.cw20.map valCoin ∧
    g.nfts = r.nfts.map valNft := by
  obtain ⟨_, _, rfl, hv⟩ := (validateAsk_spec r g).1 h
  exact ⟨hv, rfl, rfl, rfl⟩

example : ∃ g, validateAsk C12Ex.ask.ask = some g := ⟨_, rfl⟩
-- refused: empty ask, zero amount, duplicate denomination, invalid token address, 26 items
example : validateAsk ⟨[], [], []⟩ = none ∧ validateAsk ⟨[⟨1, 0⟩], [], []⟩ = none ∧
    validateAsk ⟨[⟨1, 5⟩, ⟨1, 6⟩], [], []⟩ = none ∧ validateAsk ⟨[], [(.invalid, 5)], []⟩ = none ∧
    validateAsk ⟨(List.range 26).map (fun i => ⟨i, 1⟩), [], []⟩ = none ∧
    (validateAsk ⟨(List.range 25).map (fun i => ⟨i, 1⟩), [], []⟩).isSome = true := by decide +kernel

/-- `execute_change_ask` on an owned listing that is still in preparation: accepted exactly when
    the new ask validates -/
theorem C12_changeAsk_iff {m : Market} {s id : Nat} {l : Listing} (r : RawGBal)
    (hl : alookup (s, id) m.listings = some l) (ho : s = l.creator) (hst : l.status = .preparing)
    (hfin : l.finalizedAt = none) (hcl : l.claimant = none) :
    (∃ res, changeAsk m s id r = .ok res) ↔ ∃ g, validateAsk r = some g := by
  constructor
  · rintro ⟨⟨m', out⟩, h⟩
    obtain ⟨_, g, _, _, _, _, _, hg, _⟩ := changeAsk_ok_iff.1 h
    exact ⟨g, hg⟩
  · rintro ⟨g, hg⟩
    exact ⟨_, changeAsk_ok_iff.2 ⟨l, g, hl, ho, hfin, hst, hcl, hg, rfl, rfl⟩⟩

theorem C12_changeAsk_iff' {m : Market} {s id : Nat} {l : Listing} (r : RawGBal)
    (hl : alookup (s, id) m.listings = some l) (ho : s = l.creator) (hst : l.status = .preparing)
    (hfin : l.finalizedAt = none) (hcl : l.claimant = none) :
    (∃ res, changeAsk m s id r = .ok res) ↔ AskOK r :=
  (C12_changeAsk_iff r hl ho hst hfin hcl).trans (C12_ask_iff r)

example : alookup (7, 5) C12Ex.mkt.listings = some C12Ex.lst ∧ 7 = C12Ex.lst.creator ∧
    C12Ex.lst.status = .preparing ∧ C12Ex.lst.finalizedAt = none ∧ C12Ex.lst.claimant = none := by
  decide
example : (∃ res, changeAsk C12Ex.mkt 7 5 C12Ex.ask.ask = .ok res) ∧
    changeAsk C12Ex.mkt 7 5 ⟨[], [], []⟩ = .error .badAsk := ⟨⟨_, rfl⟩, rfl⟩

/-- `normalized_check` in words: a native deposit is a non-empty coin list without a zero amount
    and without a repeated denomination; a CW20 deposit is a non-zero amount.  Equivalently: the
    deposit alone is a well-formed balance. -/
theorem C12_normalized_iff (funds : Funds) :
    normalizedCheck funds = true ↔
      match funds with
      | .native cs => cs ≠ [] ∧ (∀ c ∈ cs, c.amount ≠ 0) ∧ (keys cs).Nodup
      | .cw20 c => c.amount ≠ 0 := by
  cases funds with
  | native cs => exact normalizedCheck_iff _
  | cw20 c => exact decide_eq_true_iff

theorem C12_normalized_wf (funds : Funds) :
    normalizedCheck funds = true ↔ wfBal (fromBalance funds) = true :=
  normalizedCheck_iff_wfBal funds

/-- "Deposits … that would break this are refused and those that keep it are accepted (for a
    fresh legal id …)": `execute_create_bucket` is accepted exactly for an id below
    `MAX_SAFE_INT` that is not in the log (and has no record under the creator's key) with a
    deposit that passes `normalized_check`. -/
theorem C12_create_bucket_iff (m : Market) (funds : Funds) (creator id : Nat) :
    (∃ r, createBucket m funds creator id = .ok r) ↔
      id < MAX_SAFE_INT ∧ id ∉ m.bucketUsed ∧ alookup (creator, id) m.buckets = none ∧
      normalizedCheck funds = true := by
  constructor
  · rintro ⟨⟨m', out⟩, h⟩
    obtain ⟨h1, h2, h3, h4, _⟩ := createBucket_ok_iff.1 h
    exact ⟨h1, h2, h3, h4⟩
  · rintro ⟨h1, h2, h3, h4⟩
    exact ⟨_, createBucket_ok_iff.2 ⟨h1, h2, h3, h4, rfl, rfl⟩⟩

theorem C12_create_bucket_iff' {m : Market} (hi : IdsInv m) (funds : Funds) (creator id : Nat) :
    (∃ r, createBucket m funds creator id = .ok r) ↔
      id < MAX_SAFE_INT ∧ id ∉ m.bucketUsed ∧ normalizedCheck funds = true := by
  rw [C12_create_bucket_iff]
  exact ⟨fun h => ⟨h.1, h.2.1, h.2.2.2⟩, fun h => ⟨h.1, h.2.1, hi.bucket_fresh h.2.1 _, h.2.2⟩⟩

/-- the CW721 bucket creation: only the id is tested (one NFT is always a well-formed balance) -/
theorem C12_create_bucket_nft_iff (m : Market) (user : Nat) (nft : Nft) (id : Nat) :
    (∃ r, createBucketNft m user nft id = .ok r) ↔
      id < MAX_SAFE_INT ∧ id ∉ m.bucketUsed ∧ alookup (user, id) m.buckets = none := by
  constructor
  · rintro ⟨⟨m', out⟩, h⟩
    obtain ⟨h1, h2, h3, _⟩ := createBucketNft_ok_iff.1 h
    exact ⟨h1, h2, h3⟩
  · rintro ⟨h1, h2, h3⟩
    exact ⟨_, createBucketNft_ok_iff.2 ⟨h1, h2, h3, rfl, rfl⟩⟩

theorem C12_create_bucket_nft_iff' {m : Market} (hi : IdsInv m) (user : Nat) (nft : Nft) (id : Nat) :
    (∃ r, createBucketNft m user nft id = .ok r) ↔ id < MAX_SAFE_INT ∧ id ∉ m.bucketUsed := by
  rw [C12_create_bucket_nft_iff]
  exact ⟨fun h => ⟨h.1, h.2.1⟩, fun h => ⟨h.1, h.2, hi.bucket_fresh h.2 _⟩⟩

theorem C12_whitelist_iff (user : Nat) (w : Option RawAddr) :
    (∃ wl, checkWhitelist user w = some wl) ↔ w = none ∨ ∃ a, w = some (.valid a) ∧ a ≠ user := by
  cases w with
  | none => exact ⟨fun _ => .inl rfl, fun _ => ⟨none, rfl⟩⟩
  | some a =>
    cases a with
    | invalid =>
      exact ⟨fun ⟨_, h⟩ => (nomatch h), fun h => h.elim nofun fun ⟨_, h, _⟩ => (nomatch h)⟩
    | valid a =>
      -- `checkWhitelist user (some (.valid a)) = if a = user then none else some (some a)`
      constructor
      · rintro ⟨wl, h⟩
        exact .inr ⟨a, rfl, fun e => nomatch (if_pos e).symm.trans h⟩
      · rintro (h | ⟨_, h, hne⟩)
        · cases h
        · cases h
          exact ⟨_, if_neg hne⟩

/-- `execute_create_listing`: accepted exactly for a fresh legal id, a `normalized_check`-ed
    deposit, an acceptable whitelist and a valid ask -/
theorem C12_create_listing_iff (m : Market) (user : Nat) (funds : Funds) (c : CreateMsg) (id : Nat) :
    (∃ r, createListing m user funds c id = .ok r) ↔
      id < MAX_SAFE_INT ∧ normalizedCheck funds = true ∧ id ∉ m.listingUsed ∧
      findById id m.listings = none ∧ (∃ wl, checkWhitelist user c.whitelist = some wl) ∧
      (∃ g, validateAsk c.ask = some g) := by
  constructor
  · rintro ⟨⟨m', out⟩, h⟩
    obtain ⟨wl, g, h1, h2, h3, h4, h5, h6, _⟩ := createListing_ok_iff.1 h
    exact ⟨h1, h2, h3, h4, ⟨wl, h5⟩, ⟨g, h6⟩⟩
  · rintro ⟨h1, h2, h3, h4, ⟨wl, h5⟩, ⟨g, h6⟩⟩
    exact ⟨_, createListing_ok_iff.2 ⟨wl, g, h1, h2, h3, h4, h5, h6, rfl, rfl⟩⟩

theorem C12_create_listing_iff' {m : Market} (hi : IdsInv m) (user : Nat) (funds : Funds)
    (c : CreateMsg) (id : Nat) :
    (∃ r, createListing m user funds c id = .ok r) ↔
      id < MAX_SAFE_INT ∧ normalizedCheck funds = true ∧ id ∉ m.listingUsed ∧
      (c.whitelist = none ∨ ∃ a, c.whitelist = some (.valid a) ∧ a ≠ user) ∧ AskOK c.ask := by
  rw [C12_create_listing_iff, C12_whitelist_iff, C12_ask_iff]
  exact ⟨fun h => ⟨h.1, h.2.1, h.2.2.1, h.2.2.2.2⟩,
    fun h => ⟨h.1, h.2.1, h.2.2.1, hi.listing_fresh h.2.2.1, h.2.2.2⟩⟩

/-- `execute_create_listing_cw721`: as `C12_create_listing_iff` without the deposit test (one NFT
    is always a well-formed balance) -/
theorem C12_create_listing_nft_iff (m : Market) (user : Nat) (nft : Nft) (c : CreateMsg) (id : Nat) :
    (∃ r, createListingNft m user nft c id = .ok r) ↔
      id < MAX_SAFE_INT ∧ id ∉ m.listingUsed ∧
      findById id m.listings = none ∧ (∃ wl, checkWhitelist user c.whitelist = some wl) ∧
      (∃ g, validateAsk c.ask = some g) := by
  constructor
  · rintro ⟨⟨m', out⟩, h⟩
    obtain ⟨wl, g, h1, h3, h4, h5, h6, _⟩ := createListingNft_ok_iff.1 h
    exact ⟨h1, h3, h4, ⟨wl, h5⟩, ⟨g, h6⟩⟩
  · rintro ⟨h1, h3, h4, ⟨wl, h5⟩, ⟨g, h6⟩⟩
    exact ⟨_, createListingNft_ok_iff.2 ⟨wl, g, h1, h3, h4, h5, h6, rfl, rfl⟩⟩

theorem C12_create_listing_nft_iff' {m : Market} (hi : IdsInv m) (user : Nat) (nft : Nft)
    (c : CreateMsg) (id : Nat) :
    (∃ r, createListingNft m user nft c id = .ok r) ↔
      id < MAX_SAFE_INT ∧ id ∉ m.listingUsed ∧
      (c.whitelist = none ∨ ∃ a, c.whitelist = some (.valid a) ∧ a ≠ user) ∧ AskOK c.ask := by
  rw [C12_create_listing_nft_iff, C12_whitelist_iff, C12_ask_iff]
  exact ⟨fun h => ⟨h.1, h.2.1, h.2.2.2⟩, fun h => ⟨h.1, h.2.1, hi.listing_fresh h.2.1, h.2.2⟩⟩

example : IdsInv C12Ex.mkt := by
  constructor <;> decide
example : (∃ r, createBucket C12Ex.mkt (.native [⟨1, 5⟩]) 9 8 = .ok r) ∧
    createBucket C12Ex.mkt (.native [⟨1, 0⟩]) 9 8 = .error .badFunds ∧
    createBucket C12Ex.mkt (.native []) 9 8 = .error .badFunds ∧
    createBucket C12Ex.mkt (.native [⟨1, 5⟩, ⟨1, 6⟩]) 9 8 = .error .badFunds ∧
    createBucket C12Ex.mkt (.native [⟨1, 5⟩]) 9 6 = .error .idUsed :=
  ⟨⟨_, rfl⟩, rfl, rfl, rfl, rfl⟩
example : (∃ r, createListing C12Ex.mkt 9 (.cw20 ⟨50, 5⟩) C12Ex.ask 8 = .ok r) ∧
    createListing C12Ex.mkt 9 (.cw20 ⟨50, 0⟩) C12Ex.ask 8 = .error .badFunds ∧
    createListing C12Ex.mkt 9 (.cw20 ⟨50, 5⟩) ⟨C12Ex.ask.ask, some (.valid 9)⟩ 8 = .error .badWhitelist ∧
    createListing C12Ex.mkt 9 (.cw20 ⟨50, 5⟩) ⟨⟨[], [], []⟩, none⟩ 8 = .error .badAsk :=
  ⟨⟨_, rfl⟩, rfl, rfl, rfl⟩

/-- The observation of the header's NOTE, computed: the creation handlers (in the Rust as in the
    model they run `normalized_check` only) do not cap the number of native denominations of the
    deposit — a bucket (or a listing) can be created with 26 assets. -/
theorem C12_create_no_cap :
    (match createBucket (instantiate 0 none) (.native ((List.range 26).map fun i => ⟨i + 1, 1⟩)) 7 3 with
     | .ok r => (alookup (7, 3) r.1.buckets).map (·.funds.count)
     | .error _ => none) = some 26 := by decide +kernel

-- `Funds.fits`, the side condition of `C12_topup_bucket_iff'` below: onto the 1000 of denomination 1
-- in the example bucket `U128MAX − 1000` more fit; with one unit more `add_tokens` aborts
example : (Funds.native [⟨1, U128MAX - 1000⟩]).fits C12Ex.bkt.funds := by
  intro k
  show coinAmt [⟨1, 1000⟩] k + coinAmt [⟨1, U128MAX - 1000⟩] k ≤ U128MAX
  rw [coinAmt_single, coinAmt_single]
  split <;> decide
example : addTokens C12Ex.bkt.funds (.native [⟨1, U128MAX - 999⟩]) = none := by decide

/-- "cannot be topped up beyond 25 distinct assets … those that keep it are accepted (for … any
    owned bucket)", with the 128-bit overflow abort explicit (no arithmetic hypothesis): on an
    owned well-formed bucket a deposit is accepted exactly when it passes `normalized_check`,
    `add_tokens` does not abort, and the resulting balance has at most 25 assets.  In particular
    the `genbal_cmp` ("nothing added") test never refuses a valid deposit, and `check_valid` can
    only fail on the cap. -/
theorem C12_topup_bucket_exact {m : Market} {funds : Funds} {s id : Nat} {b : Bucket}
    (hb : alookup (s, id) m.buckets = some b) (ho : s = b.owner) (wf : wfBal b.funds = true) :
    (∃ r, addToBucket m funds s id = .ok r) ↔
      normalizedCheck funds = true ∧
      ∃ nf, addTokens b.funds funds = some nf ∧ nf.count ≤ MAX_ASSETS := by
  constructor
  · rintro ⟨⟨m', out⟩, h⟩
    obtain ⟨b', nf, hn, hb', _, hadd, _, hv, _⟩ := addToBucket_ok_iff.1 h
    cases hb.symm.trans hb'
    exact ⟨hn, nf, hadd, ((checkValid_iff nf).1 hv).2⟩
  · rintro ⟨hn, nf, hadd, hc⟩
    exact ⟨_, addToBucket_ok_iff.2 ⟨b, nf, hn, hb, ho, hadd, addTokens_changed wf hn hadd,
      (checkValid_iff nf).2 ⟨addTokens_wf wf hn hadd, hc⟩, rfl, rfl⟩⟩

/-- "cannot be topped up beyond 25 distinct assets … those that keep it are accepted (for … any
    owned bucket)", for a deposit whose addition does not overflow (`hadd`) -/
theorem C12_topup_bucket_iff {m : Market} {funds : Funds} {s id : Nat} {b : Bucket} {nf : GBal}
    (hb : alookup (s, id) m.buckets = some b) (ho : s = b.owner) (wf : wfBal b.funds = true)
    (hadd : addTokens b.funds funds = some nf) :
    (∃ r, addToBucket m funds s id = .ok r) ↔
      normalizedCheck funds = true ∧ nf.count ≤ MAX_ASSETS := by
  rw [C12_topup_bucket_exact hb ho wf, hadd]
  exact and_congr_right fun _ => ⟨fun ⟨_, e, h⟩ => Option.some.inj e ▸ h, fun h => ⟨nf, rfl, h⟩⟩

/-- the `genbal_cmp` test of the top-up handlers can never fire for a `normalized_check`-ed
    deposit onto a well-formed balance -/
theorem C12_nothing_added_unreachable {g nf : GBal} {funds : Funds} (wf : wfBal g = true)
    (hn : normalizedCheck funds = true) (hadd : addTokens g funds = some nf) :
    genbalCmp g nf = false ∧ wfBal nf = true :=
  ⟨addTokens_changed wf hn hadd, addTokens_wf wf hn hadd⟩

/-- `C12_topup_bucket_iff` with both side conditions discharged: if the amounts fit a `Uint128`
    (`Funds.fits`), a deposit onto an owned well-formed bucket is accepted exactly when it passes
    `normalized_check` and old assets plus new distinct assets are at most 25 -/
theorem C12_topup_bucket_iff' {m : Market} {funds : Funds} {s id : Nat} {b : Bucket}
    (hb : alookup (s, id) m.buckets = some b) (ho : s = b.owner) (wf : wfBal b.funds = true)
    (hfit : funds.fits b.funds) :
    (∃ r, addToBucket m funds s id = .ok r) ↔
      normalizedCheck funds = true ∧ b.funds.count + funds.newAssets b.funds ≤ MAX_ASSETS := by
  obtain ⟨nf, hadd⟩ := addTokens_total hfit
  rw [C12_topup_bucket_iff hb ho wf hadd]
  exact and_congr_right fun hn => by rw [addTokens_count hn hadd]

example : alookup (7, 6) C12Ex.mkt.buckets = some C12Ex.bkt ∧ 7 = C12Ex.bkt.owner ∧
    wfBal C12Ex.bkt.funds = true ∧
    addTokens C12Ex.bkt.funds (.native [⟨1, 5⟩, ⟨3, 1⟩]) =
      some ⟨[⟨1, 1005⟩, ⟨3, 1⟩], [⟨50, 5⟩], []⟩ ∧
    normalizedCheck (.native [⟨1, 5⟩, ⟨3, 1⟩]) = true := by decide
example : ∃ r, addToBucket C12Ex.mkt (.native [⟨1, 5⟩, ⟨3, 1⟩]) 7 6 = .ok r := ⟨_, rfl⟩
-- refused only by the cap: 24 new denominations on top of 2 assets
example : C12Ex.errOf (addToBucket C12Ex.mkt (.native ((List.range 24).map fun i => ⟨i + 10, 1⟩)) 7 6) =
    some .invalid := by decide +kernel
example : C12Ex.errOf (addToBucket C12Ex.mkt (.native ((List.range 23).map fun i => ⟨i + 10, 1⟩)) 7 6) =
    none := by decide +kernel

/-- "… (for … an owned listing still in preparation …)": `execute_add_to_listing`, which only
    caps the item count after `add_tokens` -/
theorem C12_topup_listing_exact {m : Market} {funds : Funds} {s id : Nat} {l : Listing}
    (hl : alookup (s, id) m.listings = some l) (ho : s = l.creator) (hst : l.status = .preparing)
    (hcl : l.claimant = none) (wf : wfBal l.forSale = true) :
    (∃ r, addToListing m funds s id = .ok r) ↔
      normalizedCheck funds = true ∧
      ∃ nf, addTokens l.forSale funds = some nf ∧ nf.count ≤ MAX_ASSETS := by
  constructor
  · rintro ⟨⟨m', out⟩, h⟩
    obtain ⟨l', nf, hn, hl', _, _, _, hadd, _, hc, _⟩ := addToListing_ok_iff.1 h
    cases hl.symm.trans hl'
    exact ⟨hn, nf, hadd, hc⟩
  · rintro ⟨hn, nf, hadd, hc⟩
    exact ⟨_, addToListing_ok_iff.2 ⟨l, nf, hn, hl, ho, hst, hcl, hadd,
      addTokens_changed wf hn hadd, hc, rfl, rfl⟩⟩

/-- "… (for … an owned listing still in preparation …)": `execute_add_to_listing` -/
theorem C12_topup_listing_iff {m : Market} {funds : Funds} {s id : Nat} {l : Listing} {nf : GBal}
    (hl : alookup (s, id) m.listings = some l) (ho : s = l.creator) (hst : l.status = .preparing)
    (hcl : l.claimant = none) (wf : wfBal l.forSale = true)
    (hadd : addTokens l.forSale funds = some nf) :
    (∃ r, addToListing m funds s id = .ok r) ↔
      normalizedCheck funds = true ∧ nf.count ≤ MAX_ASSETS := by
  rw [C12_topup_listing_exact hl ho hst hcl wf, hadd]
  exact and_congr_right fun _ => ⟨fun ⟨_, e, h⟩ => Option.some.inj e ▸ h, fun h => ⟨nf, rfl, h⟩⟩

example : alookup (7, 5) C12Ex.mkt.listings = some C12Ex.lst ∧ 7 = C12Ex.lst.creator ∧
    C12Ex.lst.status = .preparing ∧ C12Ex.lst.claimant = none ∧ wfBal C12Ex.lst.forSale = true ∧
    addTokens C12Ex.lst.forSale (.cw20 ⟨50, 9⟩) = some ⟨[⟨1, 1000⟩], [⟨50, 9⟩], []⟩ ∧
    normalizedCheck (.cw20 ⟨50, 9⟩) = true := by decide
example : ∃ r, addToListing C12Ex.mkt (.cw20 ⟨50, 9⟩) 7 5 = .ok r := ⟨_, rfl⟩

theorem C12_topup_listing_iff' {m : Market} {funds : Funds} {s id : Nat} {l : Listing}
    (hl : alookup (s, id) m.listings = some l) (ho : s = l.creator) (hst : l.status = .preparing)
    (hcl : l.claimant = none) (wf : wfBal l.forSale = true) (hfit : funds.fits l.forSale) :
    (∃ r, addToListing m funds s id = .ok r) ↔
      normalizedCheck funds = true ∧ l.forSale.count + funds.newAssets l.forSale ≤ MAX_ASSETS := by
  obtain ⟨nf, hadd⟩ := addTokens_total hfit
  rw [C12_topup_listing_iff hl ho hst hcl wf hadd]
  exact and_congr_right fun hn => by rw [addTokens_count hn hadd]

example : (Funds.cw20 ⟨50, 9⟩).fits C12Ex.lst.forSale := by
  show coinAmt C12Ex.lst.forSale.cw20 50 + 9 ≤ U128MAX
  decide

/-- the CW721 top-up of an owned bucket: accepted exactly when there is room for one more asset
    and the NFT is not already in the record -/
theorem C12_topup_bucket_nft_iff {m : Market} {nft : Nft} {s id : Nat} {b : Bucket}
    (hb : alookup (s, id) m.buckets = some b) (ho : s = b.owner) (wf : wfBal b.funds = true) :
    (∃ r, addToBucketNft m s nft id = .ok r) ↔
      b.funds.count + 1 ≤ MAX_ASSETS ∧ nft ∉ b.funds.nfts := by
  rw [← checkValid_addNft wf nft]
  constructor
  · rintro ⟨⟨m', out⟩, h⟩
    obtain ⟨b', hb', _, _, hv, _⟩ := addToBucketNft_ok_iff.1 h
    cases hb.symm.trans hb'
    exact hv
  · intro hv
    exact ⟨_, addToBucketNft_ok_iff.2 ⟨b, hb, ho, addNft_changed _ _, hv, rfl, rfl⟩⟩

theorem C12_topup_listing_nft_iff {m : Market} {nft : Nft} {s id : Nat} {l : Listing}
    (hl : alookup (s, id) m.listings = some l) (ho : s = l.creator) (hst : l.status = .preparing)
    (hcl : l.claimant = none) (wf : wfBal l.forSale = true) :
    (∃ r, addToListingNft m s nft id = .ok r) ↔
      l.forSale.count + 1 ≤ MAX_ASSETS ∧ nft ∉ l.forSale.nfts := by
  rw [← checkValid_addNft wf nft]
  constructor
  · rintro ⟨⟨m', out⟩, h⟩
    obtain ⟨l', hl', _, _, _, _, hv, _⟩ := addToListingNft_ok_iff.1 h
    cases hl.symm.trans hl'
    exact hv
  · intro hv
    exact ⟨_, addToListingNft_ok_iff.2 ⟨l, hl, ho, hst, hcl, addNft_changed _ _, hv, rfl, rfl⟩⟩

example : (∃ r, addToBucketNft C12Ex.mkt 7 ⟨60, 1⟩ 6 = .ok r) ∧
    (∃ r, addToListingNft C12Ex.mkt 7 ⟨60, 1⟩ 5 = .ok r) := ⟨⟨_, rfl⟩, ⟨_, rfl⟩⟩

/-- what the bank and the token contracts get to see when balance `g` (and the pending fee) is
    paid out to `to` by `msgs`: every message is well-formed (`OutMsg.wellFormed`: a bank send
    carries a non-empty, zero-free, duplicate-free coin list; a CW20 transfer and a community-pool
    funding a non-zero amount), there is at most one bank send (the whole native list), exactly one
    CW20 transfer per CW20 entry (distinct tokens), exactly one NFT transfer per NFT (all distinct)
    and a pool funding exactly for a pending fee.  `cw20Distinct` and `nftsDistinct` speak of `g`,
    not of `msgs`: with `cw20` and `nfts` they make "one transfer per entry" mean transfers of
    distinct tokens and of distinct NFTs. -/
structure Payable (me to : Nat) (g : GBal) (fee : Option Coin) (msgs : List OutMsg) : Prop where
  wellFormed : ∀ msg ∈ msgs, msg.wellFormed
  bank : msgs.filterMap OutMsg.bankCoins = if g.native = [] then [] else [(to, g.native)]
  cw20 : msgs.filterMap OutMsg.cw20Of = g.cw20.map (fun c => (c.key, to, c.amount))
  cw20Distinct : (keys g.cw20).Nodup
  nfts : msgs.filterMap OutMsg.nftOf = g.nfts.map (fun n => (n, to))
  nftsDistinct : g.nfts.Nodup
  pool : msgs.filterMap OutMsg.poolOf = match fee with | none => [] | some f => [(me, f)]

theorem C12_payable_withdraw {j u self to : Nat} {g : GBal} {fee : Option Coin}
    (wf : wfBal g = true) (wff : wfFee j u fee = true) :
    Payable self to g fee (withdrawMsgs self to g fee) := by
  obtain ⟨h1, h2, h3, h4⟩ := withdrawMsgs_parts self to g fee
  obtain ⟨_, _, _, _, w5, w6⟩ := (wfBal_iff g).1 wf
  exact ⟨withdrawMsgs_wellFormed wf wff, h1, h2, w5, h3, w6, h4.trans (by cases fee <;> rfl)⟩

theorem C12_payable_send {self to : Nat} {g : GBal} (wf : wfBal g = true) :
    Payable self to g none (sendTokens to g) :=
  withdrawMsgs_none self to g ▸ C12_payable_withdraw (j := 0) (u := 0) wf rfl

-- the hypotheses of `C12_payable_withdraw` (`exBal`: the sample balance of Lemmas/Arith.lean)
example : wfBal exBal = true ∧ wfFee 1 2 (some ⟨1, 5⟩) = true := by decide

/-- "so a payout can never be rejected by the bank or a token contract for being empty, zero or
    duplicated": for every stored bucket the withdrawal messages, and for every stored listing
    both the deletion refund (`send_tokens_cosmos` to the creator) and the withdrawal of a
    purchase (to whichever claimant `c`), are `Payable`. -/
theorem C12_payable {j u : Nat} {m : Market} (hw : WFInv j u m) (self : Nat) :
    (∀ p ∈ m.buckets,
      Payable self p.2.owner p.2.funds p.2.fee (withdrawMsgs self p.2.owner p.2.funds p.2.fee)) ∧
    (∀ p ∈ m.listings,
      Payable self p.2.creator p.2.forSale none (sendTokens p.2.creator p.2.forSale) ∧
      ∀ c, Payable self c p.2.forSale p.2.fee (withdrawMsgs self c p.2.forSale p.2.fee)) := by
  constructor
  · intro p hp
    obtain ⟨_, wfb, wff⟩ := wfBucket_iff.1 (hw.bwf p hp)
    exact C12_payable_withdraw wfb wff
  · intro p hp
    have h := hw.lwf p hp
    have wfs := (wfListing_iff.1 h).2.1
    exact ⟨C12_payable_send wfs, fun c => C12_payable_withdraw wfs (wfListing_wfFee h)⟩

theorem C12_payouts_wellFormed {j u : Nat} {m m' : Market} {env : Env} {s id : Nat}
    {out : List OutMsg} (hw : WFInv j u m)
    (h : withdrawBucket m env s id = .ok (m', out) ∨ deleteListing m env s id = .ok (m', out) ∨
         withdrawPurchased m env s id = .ok (m', out)) :
    ∀ msg ∈ out, msg.wellFormed := by
  have a : Asset := .funds (.native [])
  rcases h with h | h | h
  · exact (withdrawBucket_effect (a := a) h).wellFormed hw
  · exact (deleteListing_effect (a := a) h).wellFormed hw
  · exact (withdrawPurchased_effect (a := a) h).wellFormed hw

example : WFInv 1 2 C12Ex.mkt := by
  constructor <;> decide
example : (∃ r, withdrawBucket C12Ex.mkt C12Ex.env 7 6 = .ok r) ∧
    (∃ r, deleteListing C12Ex.mkt C12Ex.env 7 5 = .ok r) := ⟨⟨_, rfl⟩, ⟨_, rfl⟩⟩
-- the purchase of the trade history is withdrawn by the buyer: goods (minus 0.5 % fee) and the fee
example : (step (run C12Ex.w C12Ex.history) (.exec 8 [] (.withdrawPurchased 5))).2.msgs =
    [.bankSend 8 [⟨1, 995⟩], .fundPool 100 ⟨1, 5⟩] := by decide

/-- "so a payout can never be rejected by the bank or a token contract for being empty, zero or
    duplicated", for the whole contract: every message emitted by any accepted `execute` call in a
    well-formed state is well-formed — the three paying-out handlers as above, a purchase (the
    pending fee of the paying bucket and the royalty payouts of both sides, each a single non-zero
    coin or CW20 amount); every other handler emits nothing. -/
theorem C12_msgs_wellFormed {j u : Nat} {m m' : Market} {env : Env} {s : Nat} {f : List Coin}
    {msg : ExecMsg} {out : List OutMsg} (hw : WFInv j u m)
    (h : execute m env s f msg = .ok (m', out)) : ∀ x ∈ out, x.wellFormed :=
  let ⟨_, _, _, _, _, e⟩ := execute_effect h
  e.wellFormed hw

-- the purchase of the trade history in a well-formed state
example : checkWF (run C12Ex.w [C12Ex.opCreate, C12Ex.opFinal, C12Ex.opBucket]) = true ∧
    (step (run C12Ex.w [C12Ex.opCreate, C12Ex.opFinal, C12Ex.opBucket]) C12Ex.opBuy).2.ok = true := by
  decide

#print axioms C12_inv_execute
#print axioms C12_inv_step
#print axioms C12_inv_run
#print axioms C12_reach
#print axioms C12_checkWF_iff
#print axioms C12_checkWF_reach
#print axioms C12_ask_iff
#print axioms C12_ask_wf
#print axioms C12_changeAsk_iff
#print axioms C12_changeAsk_iff'
#print axioms C12_normalized_iff
#print axioms C12_normalized_wf
#print axioms C12_create_bucket_iff
#print axioms C12_create_bucket_iff'
#print axioms C12_create_bucket_nft_iff
#print axioms C12_create_bucket_nft_iff'
#print axioms C12_whitelist_iff
#print axioms C12_create_listing_iff
#print axioms C12_create_listing_iff'
#print axioms C12_create_listing_nft_iff
#print axioms C12_create_listing_nft_iff'
#print axioms C12_create_no_cap
#print axioms C12_topup_bucket_iff
#print axioms C12_nothing_added_unreachable
#print axioms C12_topup_bucket_iff'
#print axioms C12_topup_listing_iff
#print axioms C12_topup_listing_iff'
#print axioms C12_topup_bucket_nft_iff
#print axioms C12_topup_listing_nft_iff
#print axioms C12_payable_withdraw
#print axioms C12_payable_send
#print axioms C12_payable
#print axioms C12_payouts_wellFormed
#print axioms C12_msgs_wellFormed
#print axioms C12_topup_bucket_exact
#print axioms C12_topup_listing_exact

end Fuzion
