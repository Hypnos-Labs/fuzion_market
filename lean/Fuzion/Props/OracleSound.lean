/-
  Fuzion.Props.OracleSound — the driver's oracles raise no false alarm on the model.

  The correspondence check evaluates, on every step the real contracts take, a set of *oracles*
  on the implementation's own pre/post states (`Fuzion/Driver/Oracles.lean`, `Compare.lean`, and
  tests written out in `processStep`, Driver/Run.lean, under the tag they report).  A theorem
  `sound_oXX` says that on the MODEL's own transition — `w' := (step w op).1`,
  `o := (step w op).2` — oracle `oXX` answers `true`: an implementation that behaves like the
  model cannot trip it.

  Every oracle that reads only the two states, the op and the response has a theorem: here, or
  in `OracleSoundFault.lean` (`o15`, `o10f`) and `OracleSoundForge.lean` (the classes of forged
  hook calls); of `oIdx` the model's half.  Without a theorem: `o02n` and `oSub` (they test what
  the harness reports — the flags `same`, `dirty`, the sub-messages — and the model's outcome has
  none of these; the model's side of `o02n` is `C04_refused_noop`) and the monitors over the
  driver's own history (`o03`, `o09c`, `o10`, `o07`).

  The hypotheses are invariants of the model (`IdsInv`, `WFInv`, `LedgersNodup`, `C01Inv`, `Reach`,
  the registry's rate bound, the stored registry address) or the `u64` / `Uint128` bounds of the
  C13 / C06 theorems.  For the `u64` bound of `o13`, `LedgersNodup` of `o04`, and `WFInv` of `o08`
  and of `o04r`, an evaluated example shows the oracle answering `false` on a model step when the
  hypothesis is dropped (from a state no history reaches).

  On fault-injected steps (`STEPF`) the model's side is `stepF fail`: the oracles evaluated there
  are proved for `stepF fail` (`…_fault`) and specialised to `step`.  `o10m`, `o13r`, `o10d` and
  `o02t` are evaluated without fault only; `o14b` is proved for `step` only; `o04b` does not read
  the post-state.
-/
import Fuzion.Lemmas.OracleLemmas
import Fuzion.Props.C01Closed
import Fuzion.Props.C02
import Fuzion.Props.C02World
import Fuzion.Props.C06
import Fuzion.Props.C09
import Fuzion.Props.C12
import Fuzion.Props.C13
import Fuzion.Props.C14
namespace Fuzion
open Fuzion.Orc Fuzion.Cmp Fuzion.Codec

namespace OrcEx

/-- the deployment `deployedEx` (Props/C01Closed.lean) a week and a second later: a fee cycle is
    accepted -/
def wCyc : World := { deployedEx with nowNs := deployedEx.nowNs + 604801 * NS }
def opCyc : Op := .exec 1 [] .feeCycle

/-- the sample history of C01 (`AcctEx`, Lemmas/AcctLemmas.lean) just before the purchase: listing 3
    of account 1 is finalized,
    bucket 8 of account 2 holds the ask -/
def wBuy : World := run AcctEx.w0 (AcctEx.ops.take 6)
def opBuy : Op := .exec 2 [] (.buy 3 8)

/-- … and just before the buyer withdraws the purchased listing, on which a fee of 5 of
    denomination 1 is pending -/
def wWd : World := run AcctEx.w0 (AcctEx.ops.take 8)
def opWd : Op := .exec 2 [] (.withdrawPurchased 3)

theorem wBuy_ids : IdsInv wBuy.mkt := C09_reach (w := AcctEx.w0) rfl _
theorem wBuy_wf : WFInv wBuy.junoD wBuy.usdcD wBuy.mkt :=
  C12_inv_run (w := AcctEx.w0) (WFInv.init _ _ _ _) _
theorem wWd_ids : IdsInv wWd.mkt := C09_reach (w := AcctEx.w0) rfl _
theorem wBuy_ledgers : LedgersNodup wBuy := run_ledgersNodup ⟨by decide, by decide, by decide⟩ _

/-! states no history reaches, for the "hypothesis needed" examples -/

/-- the clock beyond `u64` seconds, the stamp at `u64::MAX` -/
def wSat : World :=
  { deployedEx with nowNs := (U64MAX + 1) * NS, mkt := { deployedEx.mkt with feeSince := U64MAX } }

/-- a bank ledger with a duplicated key -/
def wDup : World := { deployedEx with bank := [((1, 0), 5), ((1, 0), 10)] }

/-- a finalized listing without expiration (ill-formed: `checkWF` rejects it) and a bucket
    holding its ask -/
def lNoExp : Listing :=
  { creator := 1, id := 7, finalizedAt := some 0, expiresAt := none, status := .finalized,
    claimant := none, whitelist := none, forSale := ⟨[⟨0, 1000⟩], [], []⟩,
    ask := ⟨[⟨2, 2000⟩], [], []⟩, fee := none }
def wNoExp : World :=
  { deployedEx with
    mkt := { deployedEx.mkt with listings := [((1, 7), lNoExp)],
                                 buckets := [((2, 8), ⟨2, ⟨[⟨2, 2000⟩], [], []⟩, none⟩)],
                                 listingUsed := [7, 0], bucketUsed := [8, 0] },
    bank := [((9, 0), 1000), ((9, 2), 2000)] }

end OrcEx

/-- The three state oracles the driver evaluates on every implementation state (`checkC01`,
    `checkIds`, `checkWF`) hold in every model state satisfying the accounting invariant. -/
theorem sound_state_oracles {w : World} (h : C01Inv w) (hl : NftLedgerOk w) :
    checkC01 w = true ∧ checkIds w.mkt = true ∧ checkWF w = true :=
  ⟨C01_check h.backed hl, C09_checkIds_of_inv h.ids, (C12_checkWF_iff w).2 h.wf⟩

example : C01Inv AcctEx.w0 ∧ NftLedgerOk AcctEx.w0 :=
  ⟨C01Ex.w0_inv, ⟨by decide, by decide⟩⟩

/-- … and along every history from a deployment (ops not signed by the marketplace, no honest
    token forging a hook call — the side conditions of C01): all three state oracles hold in
    every reached state. -/
theorem sound_state_oracles_reach {w : World} (h : Deployed w) (hl : NftLedgerOk w) (ops : List Op)
    (hops : ∀ op ∈ ops, op.avoids w.self ∧ op.honest w) :
    checkC01 (run w ops) = true ∧ checkIds (run w ops).mkt = true ∧ checkWF (run w ops) = true := by
  obtain ⟨t, r, hm⟩ := h.mkt
  exact ⟨C01_check_run_closed (C01Inv_deployed h) hl ops hops, C09_checkIds_reach hm ops,
    C12_checkWF_reach hm ops⟩

example : Deployed deployedEx ∧ NftLedgerOk deployedEx ∧
    ∀ op ∈ C02WEx.opsD, op.avoids deployedEx.self ∧ op.honest deployedEx :=
  ⟨C02WEx.deployedEx_ok, ⟨by decide, by decide⟩, by decide⟩

/-- `checkIds` and `checkWF` along *every* history from instantiation (no side condition on the
    ops at all) -/
theorem sound_ids_wf_reach {w : World} {t : Nat} {r : Option Nat} (h0 : w.mkt = instantiate t r)
    (ops : List Op) : checkIds (run w ops).mkt = true ∧ checkWF (run w ops) = true :=
  ⟨C09_checkIds_reach h0 ops, C12_checkWF_reach h0 ops⟩

example : AcctEx.w0.mkt = instantiate 0 (some 102) := rfl

/-! ## C09: the id logs only grow -/

theorem sound_o09m_fault (fail : Nat → Bool) (w : World) (op : Op) :
    oracle09m w (stepF fail w op).1 = true := by
  unfold oracle09m subsetNats
  simp only [Bool.and_eq_true, List.all_eq_true, decide_eq_true_eq]
  rcases stepF_mkt_cases fail w op with ⟨h, _⟩ | ⟨c, f, msg, _, _, hx, _⟩
  · rw [h]; exact ⟨fun _ h => h, fun _ h => h⟩
  · exact C09_used_monotone hx

theorem sound_o09m (w : World) (op : Op) : oracle09m w (step w op).1 = true :=
  sound_o09m_fault noFault w op

-- the oracle is not trivially true: it rejects a post-state that forgot an id
example : oracle09m OrcEx.wBuy (step OrcEx.wBuy OrcEx.opBuy).1 = true ∧
    oracle09m OrcEx.wBuy { OrcEx.wBuy with mkt := { OrcEx.wBuy.mkt with listingUsed := [0] } } = false := by
  decide +kernel

/-! ## C13: the fee item -/

/-- the fee item is written only by an accepted cycle (`stepF_feeCfg`), which flips the
    denomination, stamps the current second (`C13_cycle_effect`) and comes more than a week after
    the previous stamp (`C13_cycle_ok_iff`) -/
theorem sound_o13_fault (fail : Nat → Bool) (w : World) (op : Op)
    (hU : w.mkt.feeSince + WEEK ≤ U64MAX ∨ w.nowNs / NS ≤ U64MAX) :
    oracle13 w (stepF fail w op).1 op (stepF fail w op).2.ok = true := by
  rcases stepF_feeCfg fail w op with ⟨h1, h2, -⟩ | ⟨c, rfl, hok, hcy⟩
  · simp [oracle13, h1, h2]
  · obtain ⟨_, _, h3, h4, _⟩ := C13_cycle_effect hcy
    -- the handler reads the clock as `w.env.nowNs`, the oracle as `w.nowNs`: the same by `World.env`
    have h4 : (stepF fail w (.exec c [] .feeCycle)).1.mkt.feeSince = w.nowNs / NS := h4
    have h5 : w.nowNs / NS > w.mkt.feeSince + WEEK :=
      (sat_gt_iff hU).1 ((C13_cycle_ok_iff w.mkt w.env).1 ⟨_, hcy⟩)
    have hne : ¬ w.mkt.feeKind = (stepF fail w (.exec c [] .feeCycle)).1.mkt.feeKind :=
      fun e => h3 e.symm
    unfold oracle13
    rw [hok]
    simp [h4, h5, hne]

/-- The hypothesis is the `u64` side condition of the C13 theorems (either bound; block time is a
    `u64` number of nanoseconds, so the second always holds on a chain). -/
theorem sound_o13 (w : World) (op : Op)
    (hU : w.mkt.feeSince + WEEK ≤ U64MAX ∨ w.nowNs / NS ≤ U64MAX) :
    oracle13 w (step w op).1 op (step w op).2.ok = true :=
  sound_o13_fault noFault w op hU

-- non-vacuity: the bound holds in the sample world, where a cycle is accepted; the oracle is
-- `true` on the model's step and `false` on a post-state that kept the old stamp
example : (OrcEx.wCyc.mkt.feeSince + WEEK ≤ U64MAX ∨ OrcEx.wCyc.nowNs / NS ≤ U64MAX) ∧
    (step OrcEx.wCyc OrcEx.opCyc).2.ok = true ∧
    oracle13 OrcEx.wCyc (step OrcEx.wCyc OrcEx.opCyc).1 OrcEx.opCyc true = true ∧
    oracle13 OrcEx.wCyc { OrcEx.wCyc with mkt := { OrcEx.wCyc.mkt with feeKind := .usdc } }
      OrcEx.opCyc true = false := by
  refine ⟨.inr (by decide), by decide, by decide, by decide⟩

/-- the side condition is needed: with the stamp at `u64::MAX` and a clock beyond `u64` seconds
    the saturating comparison of the model accepts a cycle that the oracle's plain comparison
    calls premature (no chain reaches such a clock) -/
example : (step OrcEx.wSat OrcEx.opCyc).2.ok = true ∧
    oracle13 OrcEx.wSat (step OrcEx.wSat OrcEx.opCyc).1 OrcEx.opCyc
      (step OrcEx.wSat OrcEx.opCyc).2.ok = false := by decide

/-! ## C14: the registry -/

theorem sound_o14_fault (fail : Nat → Bool) (w : World) (op : Op) :
    oracle14 w (stepF fail w op).1 op (stepF fail w op).2.ok = true := by
  rcases stepF_reg_cases fail w op with h | ⟨s, m, r, rfl, _, h⟩
  · -- `reg` is literally unchanged
    simp [oracle14, h]
  · -- an accepted registry message (`op` is now `.royalty s m`, the outcome `ok`) may change it
    rw [h]
    simp [oracle14]

theorem sound_o14 (w : World) (op : Op) : oracle14 w (step w op).1 op (step w op).2.ok = true :=
  sound_o14_fault noFault w op

/-- `o14b`: the registry's rate bound is kept by every model step.  (The oracle has no named
    function: the conclusion is the test tagged `"o14b"` in `processStep`, Driver/Run.lean.) -/
theorem sound_o14b (w : World) (op : Op)
    (hinv : ∀ p ∈ w.reg, MIN_BPS ≤ p.2.bps ∧ p.2.bps ≤ MAX_BPS) :
    (step w op).1.reg.all (fun p => bpsOk p.2.bps) = true := by
  rw [List.all_eq_true]
  intro p hp
  exact (bpsOk_iff _).2 (C14_step_bps op hinv p hp)

example : ∀ p ∈ AcctEx.w0.reg, MIN_BPS ≤ p.2.bps ∧ p.2.bps ≤ MAX_BPS := by decide

/-! ## C16: no cycle before the announced `next_change` -/

theorem sound_o16n_fault (fail : Nat → Bool) (w : World) (op : Op) :
    oracle16n w op (stepF fail w op).2.ok = true := by
  unfold oracle16n
  split
  · next s f =>
    cases hok : (stepF fail w (.exec s f .feeCycle)).2.ok with
    | false => rfl
    | true =>
      obtain ⟨_, hcy⟩ := execute_feeCycle_ok (stepF_ok_execute (op := .exec s f .feeCycle) rfl hok).1
      have h : w.nowNs / NS > min (w.mkt.feeSince + WEEK) U64MAX :=
        (C13_cycle_ok_iff w.mkt w.env).1 ⟨_, hcy⟩
      simp only [qFeeDenom, Bool.true_and, Bool.not_eq_eq_eq_not, Bool.not_true]
      exact decide_eq_false (by omega)
  · rfl

/-- no `u64` bound is needed here: the saturating arithmetic of the query and of the handler
    agree, even at saturation -/
theorem sound_o16n (w : World) (op : Op) : oracle16n w op (step w op).2.ok = true :=
  sound_o16n_fault noFault w op

-- the oracle is not trivially true: a cycle accepted one second earlier is flagged
example : oracle16n OrcEx.wCyc OrcEx.opCyc (step OrcEx.wCyc OrcEx.opCyc).2.ok = true ∧
    oracle16n { OrcEx.wCyc with nowNs := OrcEx.wCyc.nowNs - NS } OrcEx.opCyc true = false := by decide
-- … and no false alarm at saturation either
example : oracle16n OrcEx.wSat OrcEx.opCyc (step OrcEx.wSat OrcEx.opCyc).2.ok = true := by decide

/-! ## C04 / C19: wallets -/

theorem sound_o04_fault (fail : Nat → Bool) (w : World) (op : Op) (hl : LedgersNodup w) :
    oracle04 w (stepF fail w op).1 op = true := by
  refine walletsKept_of_noDebit hl fun y hy => ?_
  simp only [Bool.and_eq_true, bne_iff_ne, ne_eq] at hy
  refine stepF_noDebit fail w op (fun hp => hy.1 ?_) hy.2
  -- the payer of an op is its sender
  cases op with
  | exec | send20 | send721 => exact hp.symm
  | _ => cases hp

/-- Hypothesis: the pre-state ledgers are maps (`walletsKept` walks the *entries* of the pre-state
    ledgers, so a shadowed entry of a duplicated key would be compared with the value `lget` reads
    from the first one); every op keeps them maps (`stepF_ledgersNodup`). -/
theorem sound_o04 (w : World) (op : Op) (hl : LedgersNodup w) : oracle04 w (step w op).1 op = true :=
  sound_o04_fault noFault w op hl

theorem sound_o19_fault (fail : Nat → Bool) (w : World) (op : Op) (hl : LedgersNodup w) :
    oracle19 w (stepF fail w op).1 op = true := by
  unfold oracle19
  cases hd : isDepositOp op with
  | true => rfl
  | false =>
    refine (Bool.false_or _).trans (walletsKept_of_noDebit hl fun y hy => ?_)
    have hs : y ≠ w.self := by simpa using (Bool.and_eq_true_iff.1 hy).2
    -- an op that is not a deposit debits nobody but the marketplace: with coins attached it is
    -- refused, without coins only the marketplace pays
    cases op with
    | exec s f m =>
      cases f with
      | nil => exact stepF_exec_nil_noDebit fail s m hs
      | cons a t =>
        rw [(stepF_refused rfl (execute_fundsAttached _ _ _ _ hd (List.cons_ne_nil a t))).2]
        exact .refl _ _
    | send20 | send721 => cases hd
    | _ => exact stepF_noDebit fail w _ nofun hs

theorem sound_o19 (w : World) (op : Op) (hl : LedgersNodup w) : oracle19 w (step w op).1 op = true :=
  sound_o19_fault noFault w op hl

-- non-vacuity, and the oracles are not trivially true: a post-state in which account 1 lost its
-- 1000 coins is flagged by `o04` when somebody else acted and by `o19` when 1 sent a non-deposit
example : LedgersNodup AcctEx.w0 ∧ LedgersNodup deployedEx ∧ LedgersNodup OrcEx.wBuy :=
  ⟨⟨by decide, by decide, by decide⟩, ⟨by decide, by decide, by decide⟩, OrcEx.wBuy_ledgers⟩
example : oracle04 AcctEx.w0 (step AcctEx.w0 AcctEx.ops.head!).1 AcctEx.ops.head! = true ∧
    oracle19 AcctEx.w0 (step AcctEx.w0 AcctEx.ops.head!).1 AcctEx.ops.head! = true ∧
    oracle04 AcctEx.w0 { AcctEx.w0 with bank := [] } (.exec 2 [] .feeCycle) = false ∧
    oracle19 AcctEx.w0 { AcctEx.w0 with bank := [] } (.exec 1 [] .feeCycle) = false := by decide +kernel

/-- the hypothesis is needed: with a duplicated ledger key even the passage of time trips `o04` -/
example : oracle04 OrcEx.wDup (step OrcEx.wDup (.advance 1 1)).1 (.advance 1 1) = false := by decide

/-! ## C08: the per-id monitor -/

theorem sound_o08_fault (fail : Nat → Bool) (w : World) (op : Op) (hI : IdsInv w.mkt)
    (hW : WFInv w.junoD w.usdcD w.mkt) : monotone08 w (stepF fail w op).1 = true := by
  rcases stepF_mkt_cases fail w op with ⟨hm, _⟩ | ⟨c, f, msg, _, _, hx, _⟩
  · -- every listing is kept, a fate that mentions neither sender nor message: any will do
    exact monotone08_of_fate (s := 0) (msg := .feeCycle) hI hW (by rw [hm]; exact fun _ h => h)
      fun k l h => .kept (by rw [hm]; exact h)
  · exact monotone08_of_fate hI hW (C09_used_monotone hx).1 fun k l h => execute_fate hI h hx

/-- `WFInv` is used for one fact only: a finalized listing has an expiration (the monitor demands
    `now ≥ e` of a finalized listing that disappears and answers `false` when there is no `e`). -/
theorem sound_o08 (w : World) (op : Op) (hI : IdsInv w.mkt) (hW : WFInv w.junoD w.usdcD w.mkt) :
    monotone08 w (step w op).1 = true :=
  sound_o08_fault noFault w op hI hW

-- non-vacuity: the invariants hold before the sample purchase, which is accepted
example : IdsInv OrcEx.wBuy.mkt ∧ WFInv OrcEx.wBuy.junoD OrcEx.wBuy.usdcD OrcEx.wBuy.mkt ∧
    (step OrcEx.wBuy OrcEx.opBuy).2.ok = true :=
  ⟨OrcEx.wBuy_ids, OrcEx.wBuy_wf, by decide +kernel⟩

/-- `WFInv` is needed (`IdsInv` alone is not enough): the model lets the creator delete a
    finalized listing that has no expiration, the monitor calls that premature.  Such a record is
    never stored (`C12`), and `checkWF` flags it on the spot. -/
example : IdsInv OrcEx.wNoExp.mkt ∧ checkWF OrcEx.wNoExp = false ∧
    (step OrcEx.wNoExp (.exec 1 [] (.deleteListing 7))).2.ok = true ∧
    monotone08 OrcEx.wNoExp (step OrcEx.wNoExp (.exec 1 [] (.deleteListing 7))).1 = false :=
  ⟨by constructor <;> decide +kernel, by decide +kernel, by decide +kernel, by decide +kernel⟩

/-! ## C04: other wallets' records -/

theorem sound_o04r_fault (fail : Nat → Bool) (w : World) (op : Op) (hI : IdsInv w.mkt)
    (hW : WFInv w.junoD w.usdcD w.mkt) : oracle04r w (stepF fail w op).1 op = true := by
  unfold oracle04r
  dsimp only
  refine ite_eq_left_iff.2 fun hcf => ?_
  cases ha : actorOf w op with
  | none =>
    rw [stepF_mkt_of_asExec_none (actorOf_none_iff.1 ha)]
    exact Bool.and_eq_true_iff.2 ⟨beq_self_eq_true _, beq_self_eq_true _⟩
  | some a =>
    simp only [Bool.and_eq_true, List.all_eq_true, Bool.or_eq_true, beq_iff_eq]
    rcases stepF_mkt_cases fail w op with ⟨hm, _⟩ | ⟨c, f, msg, ho, _, hx, _⟩
    · rw [hm]
      exact ⟨fun p hp => .inl (.inr (mem_nodup_alookup hI.lkeys hp)),
        fun p hp => .inr (mem_nodup_alookup hI.bkeys hp)⟩
    · have hnf : ∀ caller tag, isForgedHook w op = some (caller, tag) →
          (w.kindOf caller).isSome = false := by
        intro caller tag h
        rw [h] at hcf
        exact Bool.eq_false_iff.2 hcf
      obtain rfl : actor msg c = a := Option.some.inj ((actorOf_eq_actor ho hx hnf).symm.trans ha)
      refine ⟨fun p hp => ?_, fun p hp => ?_⟩
      · by_cases hne : p.1.1 = actor msg c
        · exact .inl (.inl hne)
        · rcases o04r_listing_entry hI hW hx hp hne with h | ⟨⟨bid, hb⟩, hst, e, he, hle⟩
          · exact .inl (.inr h)
          · right
            subst hb
            obtain rfl := asExec_of_noCoins ho rfl
            simp [hst, he, show w.nowNs ≤ e from hle]
      · by_cases hne : p.1.1 = actor msg c
        · exact .inl hne
        · exact .inr (o04r_bucket_entry hI hx hp hne)

/-- `WFInv` is again used only for "a finalized listing has an expiration" (the oracle's exception
    for the listing a purchase takes asks for one that has not passed). -/
theorem sound_o04r (w : World) (op : Op) (hI : IdsInv w.mkt) (hW : WFInv w.junoD w.usdcD w.mkt) :
    oracle04r w (step w op).1 op = true :=
  sound_o04r_fault noFault w op hI hW

-- non-vacuity: see the example after `sound_o08`; the purchase is the exception of the oracle
example : oracle04r OrcEx.wBuy (step OrcEx.wBuy OrcEx.opBuy).1 OrcEx.opBuy = true := by decide +kernel

/-- `WFInv` is needed: the model sells a finalized listing that has no expiration, the oracle's
    purchase exception asks for an expiration that has not passed -/
example : IdsInv OrcEx.wNoExp.mkt ∧ (step OrcEx.wNoExp (.exec 2 [] (.buy 7 8))).2.ok = true ∧
    oracle04r OrcEx.wNoExp (step OrcEx.wNoExp (.exec 2 [] (.buy 7 8))).1 (.exec 2 [] (.buy 7 8)) = false :=
  ⟨by constructor <;> decide +kernel, by decide +kernel, by decide +kernel⟩

/-! ## `o04b` (C04: a purchase never overwrites a third party's bucket) follows from unique bucket ids -/

theorem sound_o04b (w : World) (op : Op) (ok : Bool) (hI : IdsInv w.mkt) : oracle04b w op ok = true := by
  unfold oracle04b
  split
  · next bid =>
    -- the buckets with id `bid` are the occurrences of `bid` among the ids, which are distinct
    have hn : (w.mkt.buckets.map fun p => p.1.2).Nodup :=
      nodup_map_of_inj (l := w.mkt.buckets) (f := fun p => p.1) (g := fun p => p.1.2) hI.bkeys
        hI.bidInj
    have h1 := List.nodup_iff_count.1 hn bid
    rw [List.count_eq_countP, List.countP_map, List.countP_eq_length_filter] at h1
    have h2 : w.mkt.buckets.filter (fun p => decide (p.1.2 = bid)) =
        w.mkt.buckets.filter ((· == bid) ∘ fun p => p.1.2) :=
      List.filter_congr fun p _ => (Bool.beq_eq_decide_eq _ _).symm
    rw [h2, decide_eq_false (Nat.not_lt.2 h1), Bool.and_false]
    rfl
  · rfl

/-! ## C10: the pool messages of a response -/

/-- Handler level: whenever the handler accepts — also when the chain then rejects one of its
    messages and the implementation reports the response as `errm` — the community-pool codes of
    the response (after the driver's sorting) are exactly what `o10m` expects: the code of the
    pending fee of the record that leaves, with the marketplace as depositor. -/
theorem sound_o10m_execute {w : World} {op : Op} {c : Nat} {f : List Coin} {msg : ExecMsg}
    {m' : Market} {out : List OutMsg} (hI : IdsInv w.mkt) (ho : op.asExec = some (c, f, msg))
    (hx : execute w.mkt w.env c f msg = .ok (m', out)) :
    oracle10m w op (sortCodes (out.map (fun m => implMsgCode (.msg m)))) = true := by
  show oracle10m w op (sortCodes (out.map outMsgCode)) = true
  rw [oracle10m_eq, expectPool13_accepted hI ho hx]
  refine poolCodes_sortCodes_of_le_one ?_ ?_
  · rw [poolCodes_map_outMsgCode, execute_poolOf hx, List.map_map]
    rfl
  · rw [List.length_map]
    exact Option.length_toList_le

/-- `IdsInv` relates the oracle's lookup of a bucket by id to the handler's lookup by
    `(sender, id)`.  The driver evaluates `o10m` only on responses that carry messages or were
    accepted, without fault. -/
theorem sound_o10m (w : World) (op : Op) (hI : IdsInv w.mkt) (hok : (step w op).2.ok = true) :
    oracle10m w op (sortCodes ((step w op).2.msgs.map (fun m => implMsgCode (.msg m)))) = true := by
  unfold step at hok ⊢
  cases ho : op.asExec with
  | none =>
    -- no message, and the oracle expects none of a registry message, an admin change or a tick
    rw [stepF_msgs_of_asExec_none noFault ho]
    have h0 : (poolCodes (sortCodes []) == sortCodes []) = true :=
      poolCodes_sortCodes_of_le_one rfl (Nat.zero_le 1)
    cases op with
    | exec | send20 | send721 => cases ho
    | _ => exact h0
  | some t =>
    obtain ⟨c, f, msg⟩ := t
    exact sound_o10m_execute hI ho (stepF_ok_execute ho hok).1

/-- the same with the pool messages reported the way the harness reports them (`P` entries,
    `toImpl`): the codes are the same -/
theorem sound_o10m_impl (w : World) (op : Op) (hI : IdsInv w.mkt) (hok : (step w op).2.ok = true) :
    oracle10m w op (sortCodes (((step w op).2.msgs.map toImpl).map implMsgCode)) = true := by
  have h : ((step w op).2.msgs.map toImpl).map implMsgCode =
      (step w op).2.msgs.map (fun m => implMsgCode (.msg m)) := by
    rw [List.map_map]
    exact List.map_congr_left (fun m _ => implMsgCode_toImpl m)
  rw [h]
  exact sound_o10m w op hI hok

/-- `o10d` never fires on a model step: every pool message of a response decodes and names the
    marketplace as depositor, whatever the fault.  (No named function: the `any` is the test tagged
    `"o10d"` in `processStep`, Driver/Run.lean, on the messages as the harness reports them.) -/
theorem sound_o10d_fault (fail : Nat → Bool) (w : World) (op : Op) :
    ((stepF fail w op).2.msgs.map toImpl).any (fun m => match m with
      | .pool false _ _ => true
      | .pool true d _ => d != w.self
      | _ => false) = false := by
  rcases stepF_mkt_cases fail w op with ⟨_, h⟩ | ⟨c, f, msg, _, _, hx, _⟩
  · rw [h]
    rfl
  · rw [List.any_eq_false]
    intro x hm'
    obtain ⟨m, hm, rfl⟩ := List.mem_map.1 hm'
    cases m with
    | fundPool d c =>
      have hd : d = w.self := execute_pool_depositor hx hm
      simp [toImpl, hd]
    | _ => simp [toImpl]

theorem sound_o10d (w : World) (op : Op) :
    ((step w op).2.msgs.map toImpl).any (fun m => match m with
      | .pool false _ _ => true
      | .pool true d _ => d != w.self
      | _ => false) = false :=
  sound_o10d_fault noFault w op

-- non-vacuity of `sound_o10m_execute`: the handler accepts the withdrawal in the sample world
example : OrcEx.opWd.asExec = some (2, [], .withdrawPurchased 3) ∧
    ∃ r, execute OrcEx.wWd.mkt OrcEx.wWd.env 2 [] (.withdrawPurchased 3) = .ok r :=
  ⟨rfl, _, (stepF_ok_execute (fail := noFault) (op := OrcEx.opWd) rfl (by decide +kernel)).1⟩
-- non-vacuity: the withdrawal of the purchased listing is accepted and emits the pool message
-- for the fee of 5 pending on it
example : IdsInv OrcEx.wWd.mkt ∧ (step OrcEx.wWd OrcEx.opWd).2.ok = true ∧
    OutMsg.fundPool 100 ⟨1, 5⟩ ∈ (step OrcEx.wWd OrcEx.opWd).2.msgs :=
  ⟨OrcEx.wWd_ids, by decide +kernel, by decide +kernel⟩

/-! ## `o13r` (C13: a recorded fee keeps its denomination) is a consequence of `o10m` -/

theorem sound_o13r (w : World) (op : Op) (hI : IdsInv w.mkt) (hok : (step w op).2.ok = true) :
    oracle13r w op (sortCodes ((step w op).2.msgs.map (fun m => implMsgCode (.msg m)))) = true :=
  o13r_of_o10m _ _ _ (sound_o10m w op hI hok)

theorem sound_o13r_impl (w : World) (op : Op) (hI : IdsInv w.mkt) (hok : (step w op).2.ok = true) :
    oracle13r w op (sortCodes (((step w op).2.msgs.map toImpl).map implMsgCode)) = true :=
  o13r_of_o10m _ _ _ (sound_o10m_impl w op hI hok)

/-- `o13r` separates: the sample withdrawal's recorded fee (5 of denomination 1) paid in another
    denomination is flagged; the same fee with a wrong amount is not (that is `o10m`'s business) -/
example : oracle13r OrcEx.wWd OrcEx.opWd [[4, 100, 2, 5]] = false ∧
    oracle13r OrcEx.wWd OrcEx.opWd [[4, 100, 1, 6]] = true := by decide +kernel

/-! ## C06 / C10 / C11 / C13: the purchase oracle -/

theorem sound_buyOracle_fault (fail : Nat → Bool) (w : World) (buyer lid bid : Nat) (f : List Coin)
    (hI : IdsInv w.mkt) (hW : WFInv w.junoD w.usdcD w.mkt)
    (hbl : ∀ p ∈ w.mkt.listings, p.2.forSale.bounded) (hbb : ∀ p ∈ w.mkt.buckets, p.2.funds.bounded)
    (hok : (stepF fail w (.exec buyer f (.buy lid bid))).2.ok = true) :
    buyOracle w (stepF fail w (.exec buyer f (.buy lid bid))).1 lid bid = [] := by
  have hx := (stepF_ok_execute (op := .exec buyer f (.buy lid bid)) rfl hok).1
  have hI' := C09_inv_execute hI hx
  have hb := buy_of_execute hx
  -- index 1 is the paying bucket, 2 the listing's goods.  `C06_buy_effect` gives per side the
  -- recorded fee `e`, what is left per native key `n` and per token `c`, the NFTs `nf`;
  -- `buy_closed` that both balances are well formed (`wl`, `wb`) and that the rates charged to
  -- each side (those of the collections among the OTHER side's NFTs) sum to at most one half (`s`)
  obtain ⟨l, b, l', b', hl, hbk, hl', hb', e1, e2, n1, c1, n2, c2, nf1, nf2, _⟩ :=
    C06_buy_effect rfl hW hI hbl hbb hb
  obtain ⟨k0, l0, b0, hf0, hb0, _, wl, wb, s1, s2, _⟩ := buy_closed hW hbl hbb hb
  have hfl := (hI.findById_of_alookup hl).1
  rw [hfl] at hf0
  cases hf0
  rw [hbk] at hb0
  cases hb0
  unfold buyOracle
  simp only [hfl, (hI'.findById_of_alookup hl').1, hI.find_bucket hbk, hI'.find_bucket hb']
  rw [sideFails_nil wl e2 n2 c2 nf2 (royaltyOn_le_half s2),
    sideFails_nil wb e1 n1 c1 nf1 (royaltyOn_le_half s1)]
  rfl

/-- `buyOracle` reports nothing on an accepted model purchase: both records are found afterwards
    and each side passes every part of `Cmp.sideFails` (Driver/Compare.lean).  Hypotheses: the
    storage invariants and `Uint128` amounts (the side conditions of `C06_buy_effect`). -/
theorem sound_buyOracle (w : World) (buyer lid bid : Nat) (f : List Coin)
    (hI : IdsInv w.mkt) (hW : WFInv w.junoD w.usdcD w.mkt)
    (hbl : ∀ p ∈ w.mkt.listings, p.2.forSale.bounded) (hbb : ∀ p ∈ w.mkt.buckets, p.2.funds.bounded)
    (hok : (step w (.exec buyer f (.buy lid bid))).2.ok = true) :
    buyOracle w (step w (.exec buyer f (.buy lid bid))).1 lid bid = [] :=
  sound_buyOracle_fault noFault w buyer lid bid f hI hW hbl hbb hok

-- non-vacuity: the sample purchase (fee on the goods, 2.5 % royalty on the payment) meets every
-- hypothesis
example : IdsInv OrcEx.wBuy.mkt ∧ WFInv OrcEx.wBuy.junoD OrcEx.wBuy.usdcD OrcEx.wBuy.mkt ∧
    (∀ p ∈ OrcEx.wBuy.mkt.listings, p.2.forSale.bounded) ∧
    (∀ p ∈ OrcEx.wBuy.mkt.buckets, p.2.funds.bounded) ∧
    (step OrcEx.wBuy (.exec 2 [] (.buy 3 8))).2.ok = true :=
  ⟨OrcEx.wBuy_ids, OrcEx.wBuy_wf, by decide +kernel, by decide +kernel, by decide +kernel⟩

/-- `o02t` never fires on a model step: in a reachable world whose registry address is the
    configured one, a purchase without coins is accepted iff `buyTerms` holds.  (No named function:
    the conclusion is the test tagged `"o02t"` in `processStep`, Driver/Run.lean, which evaluates
    it only when `!hasForeignAsset cur`: the decidable part of `Reach`'s `CleanRecords`.) -/
theorem sound_o02t {w : World} (h : Reach w) (hreg : w.mkt.registry = some w.regAddr)
    (buyer lid bid : Nat) :
    ((step w (.exec buyer [] (.buy lid bid))).2.ok != buyTerms w buyer lid bid) = false :=
  bne_eq_false_iff_eq.2 (Bool.eq_iff_iff.2
    ((C02_step_iff_world h.inv h.clean hreg).trans (C02_oracle w buyer lid bid).symm))

example : Reach C02WEx.wBefore ∧ C02WEx.wBefore.mkt.registry = some C02WEx.wBefore.regAddr :=
  ⟨C02WEx.wBefore_reach, by decide +kernel⟩

/-- the stored registry address stays the chain's registry address along every model step: the
    second conjunct of the test tagged `"oIdx"` in `processStep`, Driver/Run.lean.  The first,
    `idxOk`, is the harness' report that the contract's three listing indexes agree with the
    primary records (PROTOCOL.md, MKT); the model stores no indexes. -/
theorem sound_oIdx_fault (fail : Nat → Bool) (w : World) (op : Op)
    (hreg : w.mkt.registry = some w.regAddr) :
    ((stepF fail w op).1.mkt.registry == some (stepF fail w op).1.regAddr) = true := by
  rw [stepF_registry, stepF_regAddr, hreg]
  exact beq_self_eq_true _

example : AcctEx.w0.mkt.registry = some AcctEx.w0.regAddr := rfl

#print axioms OrcEx.wBuy_ids
#print axioms OrcEx.wBuy_wf
#print axioms OrcEx.wWd_ids
#print axioms OrcEx.wBuy_ledgers
#print axioms sound_state_oracles
#print axioms sound_state_oracles_reach
#print axioms sound_ids_wf_reach
#print axioms sound_o09m_fault
#print axioms sound_o09m
#print axioms sound_o13_fault
#print axioms sound_o13
#print axioms sound_o14_fault
#print axioms sound_o14
#print axioms sound_o14b
#print axioms sound_o16n_fault
#print axioms sound_o16n
#print axioms sound_o04_fault
#print axioms sound_o04
#print axioms sound_o19_fault
#print axioms sound_o19
#print axioms sound_o08_fault
#print axioms sound_o08
#print axioms sound_o04r_fault
#print axioms sound_o04r
#print axioms sound_o10m_execute
#print axioms sound_o10m
#print axioms sound_o10m_impl
#print axioms sound_o10d_fault
#print axioms sound_o10d
#print axioms sound_buyOracle_fault
#print axioms sound_buyOracle
#print axioms sound_o02t
#print axioms sound_oIdx_fault
#print axioms sound_o13r
#print axioms sound_o13r_impl
#print axioms sound_o04b

end Fuzion
