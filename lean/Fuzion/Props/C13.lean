/-
  Fuzion.Props.C13 — "The fee denomination alternates, at most once per week".

  Property text:  The fee denomination only ever switches between the two configured
  denominations, only through the public cycle message, and never when fewer than 604800 seconds
  have elapsed since the previous switch or instantiation; once more than 604800 seconds have
  elapsed any account can switch it.  Each purchase is charged in the denomination in force at
  that moment and a fee already recorded is unaffected by later switches.

  About saturation.  The Rust tests `now_seconds <= last.saturating_add(604800)` on `u64`s.
  `C13_cycle_ok_iff` is exact (it carries the `min … U64MAX`).  The saturation is invisible as
  soon as either `feeSince + WEEK ≤ U64MAX` or `nowNs / NS ≤ U64MAX` (block time is itself a `u64`
  number of nanoseconds, so the latter always holds on a real chain); the "never when …" theorems
  take one of these as side condition, the "any account can" theorems need none.

  NOTE on the wording: the code refuses when `now ≤ since + 604800`, i.e. also when *exactly*
  604800 s have elapsed; a switch needs strictly more (`>`), which is what is proved.
-/
import Fuzion.Lemmas.RegistryLemmas
import Fuzion.Lemmas.Records
import Fuzion.Lemmas.Arith
namespace Fuzion

/-- exact acceptance condition of `execute_cycle_fee`, saturation included -/
theorem C13_cycle_ok_iff (m : Market) (env : Env) :
    (∃ r, cycleFee m env = .ok r) ↔ env.nowNs / NS > min (m.feeSince + WEEK) U64MAX :=
  ⟨fun ⟨⟨_, _⟩, h⟩ => (cycleFee_ok_iff.1 h).1, fun h => ⟨_, cycleFee_ok_iff.2 ⟨h, rfl, rfl⟩⟩⟩

/-- "never when fewer than 604800 seconds have elapsed since the previous switch or
    instantiation; once more than 604800 seconds have elapsed any account can switch it":
    the cycle message is accepted exactly when more than a week of block time separates now from
    the stored time stamp. -/
theorem C13_cycle_iff (m : Market) (env : Env) (hU : m.feeSince + WEEK ≤ U64MAX) :
    (∃ r, cycleFee m env = .ok r) ↔ env.nowNs / NS > m.feeSince + WEEK := by
  rw [C13_cycle_ok_iff, sat_gt_iff (.inl hU)]

/-- `C13_cycle_iff` under the alternative side condition "block time in seconds is a `u64`". -/
theorem C13_cycle_iff' (m : Market) (env : Env) (hU : env.nowNs / NS ≤ U64MAX) :
    (∃ r, cycleFee m env = .ok r) ↔ env.nowNs / NS > m.feeSince + WEEK := by
  rw [C13_cycle_ok_iff, sat_gt_iff (.inr hU)]

/-- the same in nanoseconds of block time: accepted from the first nanosecond of second
    `feeSince + 604801` on. -/
theorem C13_cycle_iff_ns (m : Market) (env : Env) (hU : m.feeSince + WEEK ≤ U64MAX) :
    (∃ r, cycleFee m env = .ok r) ↔ env.nowNs ≥ (m.feeSince + WEEK + 1) * NS := by
  rw [C13_cycle_iff m env hU, div_gt_iff_ns]

/-- "once more than 604800 seconds have elapsed any account can switch it" needs no side
    condition at all. -/
theorem C13_cycle_can (m : Market) (env : Env) (h : env.nowNs / NS > m.feeSince + WEEK) :
    ∃ r, cycleFee m env = .ok r :=
  (C13_cycle_ok_iff m env).2 (Nat.lt_of_le_of_lt (Nat.min_le_left _ _) h)

/-- "The fee denomination only ever switches between the two configured denominations …; a fee
    already recorded is unaffected by later switches": an accepted cycle emits no message, flips
    the denomination to the other one, stamps it with the current block time in seconds, and
    leaves every listing and bucket record (hence every recorded fee), both id logs and the
    registry address untouched. -/
theorem C13_cycle_effect {m m' : Market} {env : Env} {msgs : List OutMsg}
    (h : cycleFee m env = .ok (m', msgs)) :
    msgs = [] ∧ m'.feeKind = m.feeKind.other ∧ m'.feeKind ≠ m.feeKind ∧
    m'.feeSince = env.nowNs / NS ∧ m'.listings = m.listings ∧ m'.buckets = m.buckets ∧
    m'.listingUsed = m.listingUsed ∧ m'.bucketUsed = m.bucketUsed ∧ m'.registry = m.registry := by
  obtain ⟨_, rfl, rfl⟩ := cycleFee_ok_iff.1 h
  exact ⟨rfl, rfl, m.feeKind.other_ne, rfl, rfl, rfl, rfl, rfl, rfl⟩

/-- "only ever … between the two configured denominations": whatever the state, the denomination
    in force is one of the two configured ones, and two consecutive switches restore it. -/
theorem C13_two_denoms (env : Env) (k : FeeKind) :
    (feeDenomOf env k = env.junoD ∨ feeDenomOf env k = env.usdcD) ∧ k.other.other = k := by
  cases k with
  | juno => exact ⟨.inl rfl, rfl⟩
  | usdc => exact ⟨.inr rfl, rfl⟩

/-- "since the previous switch or instantiation": instantiation starts in the first of the two
    denominations and stamps it with the block time in seconds, exactly like a switch. -/
theorem C13_instantiate (nowNs : Nat) (registry : Option Nat) :
    (instantiate nowNs registry).feeKind = .juno ∧
    (instantiate nowNs registry).feeSince = nowNs / NS := ⟨rfl, rfl⟩

private def exEnv (nowNs : Nat) : Env :=
  { self := 100, nowNs := nowNs, junoD := 1, usdcD := 2, regAddr := 102,
    isToken20 := fun _ => false, isContract := fun _ => false, regLookup := fun _ => none }

-- instantiated at t = 0 s; refused at 604800 s, accepted at 604801 s
example : (instantiate 0 none).feeSince + WEEK ≤ U64MAX := by decide
example : (exEnv (604801 * NS)).nowNs / NS ≤ U64MAX := by decide
example : (exEnv (604801 * NS)).nowNs / NS > (instantiate 0 none).feeSince + WEEK := by decide
example : ∃ r, cycleFee (instantiate 0 none) (exEnv (604801 * NS)) = .ok r := ⟨_, rfl⟩
example : cycleFee (instantiate 0 none) (exEnv (604800 * NS + 999999999)) = .error .notReady := rfl

/-- "through the public cycle message … any account can switch it": the entry point hands the
    message to `cycleFee` whoever the sender is — the sender is not even looked at. -/
theorem C13_any_sender (m : Market) (env : Env) (s : Nat) :
    execute m env s [] .feeCycle = cycleFee m env :=
  execute_nil_feeCycle m env s

/-- with coins attached the cycle message is refused, like every message that takes no funds
    (repair of D6) -/
theorem C13_no_funds (m : Market) (env : Env) (s : Nat) {f : List Coin} (hf : f ≠ []) :
    execute m env s f .feeCycle = .error .fundsAttached :=
  execute_fundsAttached m env s f rfl hf

example : ([⟨1, 5⟩] : List Coin) ≠ [] := by decide

/-- "only through the public cycle message": no other message — whatever its sender, funds or
    outcome — changes the denomination in force or its time stamp. -/
theorem C13_only_cycle {m m' : Market} {env : Env} {s : Nat} {f : List Coin} {msg : ExecMsg}
    {out : List OutMsg} (hne : msg ≠ .feeCycle) (h : execute m env s f msg = .ok (m', out)) :
    m'.feeKind = m.feeKind ∧ m'.feeSince = m.feeSince := by
  obtain ⟨h1, h2, _⟩ := execute_feeCfg hne h
  exact ⟨h1, h2⟩

example : ExecMsg.createBucket 8 ≠ .feeCycle := by decide
example : ∃ r, execute (instantiate 0 none) (exEnv 0) 2 [⟨2, 2000⟩] (.createBucket 8) = .ok r :=
  ⟨_, rfl⟩

/-- "only through the public cycle message": `C13_only_cycle` for every operation that is not a
    direct `feeCycle` call — other marketplace messages, CW20 / CW721 sends (which run `receive` /
    `receiveNft`), registry messages, admin changes, the passage of time. -/
theorem C13_step_frame {w : World} {op : Op} (hop : ∀ s f, op ≠ .exec s f .feeCycle) :
    (step w op).1.mkt.feeKind = w.mkt.feeKind ∧ (step w op).1.mkt.feeSince = w.mkt.feeSince := by
  rcases stepF_feeCfg noFault w op with ⟨h1, h2, -⟩ | ⟨c, rfl, -⟩
  · exact ⟨h1, h2⟩
  · exact (hop c [] rfl).elim

example : ∀ s f, Op.send20 3 1 5 none ≠ .exec s f .feeCycle := by intro s f h; cases h

/-- what a successful cycle transaction does to the world's marketplace record: the handler ran
    on the pre-state record and the pre-state clock -/
theorem C13_step_cycle_run {w : World} {s : Nat} {f : List Coin}
    (h : (step w (.exec s f .feeCycle)).2.ok = true) :
    f = [] ∧ cycleFee w.mkt w.env = .ok ((step w (.exec s f .feeCycle)).1.mkt, []) ∧
      (step w (.exec s f .feeCycle)).1.nowNs = w.nowNs := by
  obtain ⟨hx, hc⟩ := stepF_ok_execute (op := .exec s f .feeCycle) rfl h
  obtain ⟨hf, hcy⟩ := execute_feeCycle_ok hx
  -- the messages the transaction reports are those of `cycleFee`: none
  exact ⟨hf, (cycleFee_ok_iff.1 hcy).2.2 ▸ hcy, hc.nowNs⟩

/-- "never when fewer than 604800 seconds have elapsed since the previous switch or
    instantiation": `C13_cycle_iff`, left to right, as a transaction.  Side condition: either
    `u64` bound (see the header). -/
theorem C13_step_cycle {w : World} {s : Nat} {f : List Coin}
    (hU : w.mkt.feeSince + WEEK ≤ U64MAX ∨ w.nowNs / NS ≤ U64MAX)
    (h : (step w (.exec s f .feeCycle)).2.ok = true) :
    w.nowNs / NS > w.mkt.feeSince + WEEK := by
  obtain ⟨_, hcy, _⟩ := C13_step_cycle_run h
  have := (C13_cycle_ok_iff w.mkt w.env).1 ⟨_, hcy⟩
  exact (sat_gt_iff hU).1 this

/-- "switches between the two configured denominations … a fee already recorded is unaffected":
    `C13_cycle_effect` as a transaction. -/
theorem C13_step_cycle_effect {w : World} {s : Nat} {f : List Coin}
    (h : (step w (.exec s f .feeCycle)).2.ok = true) :
    (step w (.exec s f .feeCycle)).1.mkt.feeKind = w.mkt.feeKind.other ∧
    (step w (.exec s f .feeCycle)).1.mkt.feeSince = w.nowNs / NS ∧
    (step w (.exec s f .feeCycle)).1.mkt.listings = w.mkt.listings ∧
    (step w (.exec s f .feeCycle)).1.mkt.buckets = w.mkt.buckets := by
  obtain ⟨_, hcy, _⟩ := C13_step_cycle_run h
  obtain ⟨_, h2, _, h4, h5, h6, _⟩ := C13_cycle_effect hcy
  exact ⟨h2, h4, h5, h6⟩

/-- "once more than 604800 seconds have elapsed any account can switch it": `C13_cycle_can` as a
    transaction, of any sender `s` (no side condition). -/
theorem C13_step_can_cycle {w : World} (s : Nat) (h : w.nowNs / NS > w.mkt.feeSince + WEEK) :
    (step w (.exec s [] .feeCycle)).2.ok = true := by
  obtain ⟨⟨m', out⟩, hr⟩ := C13_cycle_can w.mkt w.env h
  obtain ⟨rfl, _⟩ := C13_cycle_effect hr
  -- nothing is deposited and nothing is emitted, so deposit and dispatch hold by evaluation
  exact congrArg (·.2.ok) (stepF_market_ok (fail := noFault) (op := .exec s [] .feeCycle)
    (ho := rfl) (hd := rfl) (hx := hr) (hdd := rfl))

/-- "a fee already recorded is unaffected by later switches": whether it succeeds or not, a cycle
    transaction leaves every listing and bucket record as it was. -/
theorem C13_cycle_keeps_records (w : World) (s : Nat) (f : List Coin) :
    (step w (.exec s f .feeCycle)).1.mkt.listings = w.mkt.listings ∧
    (step w (.exec s f .feeCycle)).1.mkt.buckets = w.mkt.buckets := by
  cases hok : (step w (.exec s f .feeCycle)).2.ok with
  | true => exact (C13_step_cycle_effect hok).2.2
  | false =>
    rw [show (step w (.exec s f .feeCycle)).1 = w from stepF_failed_noop noFault w _ hok]
    exact ⟨rfl, rfl⟩

theorem C13_step_since {w : World} (op : Op) (hinv : w.mkt.feeSince ≤ w.nowNs / NS) :
    w.mkt.feeSince ≤ (step w op).1.mkt.feeSince ∧
    (step w op).1.mkt.feeSince ≤ (step w op).1.nowNs / NS := by
  -- the clock does not go back, and the new stamp is the old one or the second of the old clock
  have hclk : w.nowNs / NS ≤ (step w op).1.nowNs / NS :=
    Nat.div_le_div_right (stepF_nowNs noFault w op ▸ Nat.le_add_right _ _)
  have hs : (step w op).1.mkt.feeSince = w.mkt.feeSince ∨
      (step w op).1.mkt.feeSince = w.nowNs / NS := by
    rcases stepF_feeCfg noFault w op with h | ⟨c, -, -, hcy⟩
    · exact .inl h.2.1
    · exact .inr (C13_cycle_effect hcy).2.2.2.1
  rcases hs with h | h <;> rw [h]
  · exact ⟨Nat.le_refl _, Nat.le_trans hinv hclk⟩
  · exact ⟨hinv, hclk⟩

/-- "since the previous switch or instantiation": along any history the stamp never decreases
    and never runs ahead of the clock (time only moves forward).  `instantiate` establishes the
    hypothesis. -/
theorem C13_monotone_since {w : World} (hinv : w.mkt.feeSince ≤ w.nowNs / NS) (ops : List Op) :
    w.mkt.feeSince ≤ (run w ops).mkt.feeSince ∧
    (run w ops).mkt.feeSince ≤ (run w ops).nowNs / NS := by
  refine run_invariant
    (P := fun w' => w.mkt.feeSince ≤ w'.mkt.feeSince ∧ w'.mkt.feeSince ≤ w'.nowNs / NS)
    (fun w' op ⟨h, hinv'⟩ => ?_) ops ⟨Nat.le_refl _, hinv⟩
  obtain ⟨h1, h2⟩ := C13_step_since op hinv'
  exact ⟨Nat.le_trans h h1, h2⟩

/-- "never when fewer than 604800 seconds have elapsed since the previous switch": between two
    successful switches — whatever anybody does in between — strictly more than 604800 s of
    block time elapse.  `w` is the world of the first switch, `run (step w …).1 ops` the world of
    the second. -/
theorem C13_between_switches {w : World} {s₁ s₂ : Nat} {f₁ f₂ : List Coin} (ops : List Op)
    (h₁ : (step w (.exec s₁ f₁ .feeCycle)).2.ok = true)
    (hU : (run (step w (.exec s₁ f₁ .feeCycle)).1 ops).mkt.feeSince + WEEK ≤ U64MAX ∨
          (run (step w (.exec s₁ f₁ .feeCycle)).1 ops).nowNs / NS ≤ U64MAX)
    (h₂ : (step (run (step w (.exec s₁ f₁ .feeCycle)).1 ops) (.exec s₂ f₂ .feeCycle)).2.ok = true) :
    (run (step w (.exec s₁ f₁ .feeCycle)).1 ops).nowNs / NS > w.nowNs / NS + WEEK := by
  have e1 := (C13_step_cycle_effect h₁).2.1
  have n1 := (C13_step_cycle_run h₁).2.2
  have hinv : (step w (.exec s₁ f₁ .feeCycle)).1.mkt.feeSince ≤
      (step w (.exec s₁ f₁ .feeCycle)).1.nowNs / NS := by rw [e1, n1]; exact Nat.le_refl _
  have hm := (C13_monotone_since hinv ops).1
  have h2 := C13_step_cycle hU h₂
  rw [e1] at hm
  exact Nat.lt_of_le_of_lt (Nat.add_le_add_right hm _) h2

-- instantiated at t = 0, clock at 604801 s
private def exW (nowNs : Nat) : World :=
  { self := 100, pool := 101, regAddr := 102, junoD := 1, usdcD := 2, nowNs := nowNs, height := 1,
    mkt := instantiate 0 (some 102), reg := [], bank := [], cw20 := [], nft := [], contracts := [] }

example : (step (exW (604801 * NS)) (.exec 77 [] .feeCycle)).2.ok = true := by decide
example : (step (exW (604801 * NS)) (.exec 78 [] .feeCycle)).2.ok = true := by decide
example : (step (exW (604800 * NS)) (.exec 77 [] .feeCycle)).2.ok = false := by decide
example : (exW (604801 * NS)).mkt.feeSince + WEEK ≤ U64MAX ∨ (exW (604801 * NS)).nowNs / NS ≤ U64MAX :=
  .inl (by decide)
example : (exW (604801 * NS)).nowNs / NS > (exW (604801 * NS)).mkt.feeSince + WEEK := by decide
example : (exW (604801 * NS)).mkt.feeSince ≤ (exW (604801 * NS)).nowNs / NS := by decide
-- two switches, a week and a second apart (`C13_between_switches`); the second
-- is refused when only a week has passed
example : (step (run (step (exW (604801 * NS)) (.exec 77 [] .feeCycle)).1 [.advance (604801 * NS) 1])
    (.exec 78 [] .feeCycle)).2.ok = true := by decide
example : (step (run (step (exW (604801 * NS)) (.exec 77 [] .feeCycle)).1 [.advance (604800 * NS) 1])
    (.exec 78 [] .feeCycle)).2.ok = false := by decide
example : (run (step (exW (604801 * NS)) (.exec 77 [] .feeCycle)).1 [.advance (604801 * NS) 1]).nowNs / NS
    ≤ U64MAX := by decide
example : (run (exW (604801 * NS)) [.exec 77 [] .feeCycle, .advance (604801 * NS) 1,
    .exec 78 [] .feeCycle]).mkt.feeKind = .juno := by decide

/-- "Each purchase is charged in the denomination in force at that moment": an accepted `buy`
    re-stores the listing under `(buyer, lid)` and the paying bucket under `(seller, bid)`; the
    `fee` recorded on each is exactly what `calc_fee_coin` computes from the goods for the
    denomination `feeDenomOf env m.feeKind` of the *pre-state* — hence, when present, a coin of
    that denomination. -/
theorem C13_charged_now {m m' : Market} {env : Env} {buyer lid bid : Nat} {out : List OutMsg}
    (h : buy m env buyer lid bid = .ok (m', out)) :
    ∃ k l b l' b' lbal bbal,
      findById lid m.listings = some (k, l) ∧ alookup (buyer, bid) m.buckets = some b ∧
      findById lid m'.listings = some ((buyer, lid), l') ∧
      alookup (l.creator, bid) m'.buckets = some b' ∧
      calcFeeCoin (feeDenomOf env m.feeKind) l.forSale = some (l'.fee, lbal) ∧
      calcFeeCoin (feeDenomOf env m.feeKind) b.funds = some (b'.fee, bbal) ∧
      (∀ f, l'.fee = some f → f.key = feeDenomOf env m.feeKind) ∧
      (∀ f, b'.fee = some f → f.key = feeDenomOf env m.feeKind) := by
  cases buy_effect (a := .funds (.native [])) h with
  | buy hb hl ho hcmp hst hwl hcl hexp hlfee hbfee =>
    exact ⟨_, _, _, _, _, _, _, hl, hb,
      (findById_ainsert ..).trans (if_pos (findById_some hl).1), alookup_ainsert_self ..,
      hlfee, hbfee, calcFeeCoin_key hlfee, calcFeeCoin_key hbfee⟩

/-- "Each purchase is charged in the denomination in force at that moment", listing side of
    `C13_charged_now`: the record found under the purchased id afterwards. -/
theorem C13_charged_listing {m m' : Market} {env : Env} {buyer lid bid : Nat} {out : List OutMsg}
    (h : buy m env buyer lid bid = .ok (m', out)) :
    ∀ l', findById lid m'.listings = some l' →
      ∀ f, l'.2.fee = some f → f.key = feeDenomOf env m.feeKind := by
  obtain ⟨_, _, _, _, _, _, _, _, _, hfound, _, _, _, hkey, _⟩ := C13_charged_now h
  intro l' hl' f hf
  cases hfound.symm.trans hl'
  exact hkey f hf

/-- "Each purchase is charged in the denomination in force at that moment", bucket side of
    `C13_charged_now`: the bucket handed to the seller (the creator of the listing that was found
    under `lid`). -/
theorem C13_charged_bucket {m m' : Market} {env : Env} {buyer lid bid : Nat} {out : List OutMsg}
    (h : buy m env buyer lid bid = .ok (m', out)) {k : Nat × Nat} {l : Listing}
    (hl : findById lid m.listings = some (k, l)) :
    ∀ b', alookup (l.creator, bid) m'.buckets = some b' →
      ∀ f, b'.fee = some f → f.key = feeDenomOf env m.feeKind := by
  obtain ⟨_, _, _, _, _, _, _, hl0, _, _, hfound, _, _, _, hkey⟩ := C13_charged_now h
  cases hl.symm.trans hl0
  intro b' hb' f hf
  cases hfound.symm.trans hb'
  exact hkey f hf

-- seller 1 offers 1000 of denom 1 (= JUNO) for 2000 of denom 2 (= USDC); buyer 2
-- pays from bucket 8
private def exL : Listing :=
  { creator := 1, id := 7, finalizedAt := some 0, expiresAt := some (600 * NS), status := .finalized,
    claimant := none, whitelist := none, forSale := ⟨[⟨1, 1000⟩], [], []⟩,
    ask := ⟨[⟨2, 2000⟩], [], []⟩, fee := none }

private def exM (k : FeeKind) : Market :=
  { listings := [((1, 7), exL)], buckets := [((2, 8), ⟨2, ⟨[⟨2, 2000⟩], [], []⟩, none⟩)],
    listingUsed := [7, 0], bucketUsed := [8, 0], feeKind := k, feeSince := 0, registry := some 102 }

private def feesAfter (r : HRes) : Option (Option Coin) × Option (Option Coin) :=
  match r with
  | .ok (m', _) => ((findById 7 m'.listings).map (·.2.fee), (alookup (1, 8) m'.buckets).map (·.fee))
  | .error _ => (none, none)

example : ∃ r, buy (exM .juno) (exEnv 5) 2 7 8 = .ok r := ⟨_, rfl⟩
example : findById 7 (exM .juno).listings = some ((1, 7), exL) := by decide
-- while JUNO is in force the fee is taken from the JUNO side, in JUNO (0.5 % of 1000) …
example : feesAfter (buy (exM .juno) (exEnv 5) 2 7 8) = (some (some ⟨1, 5⟩), some none) := by decide
-- … and while USDC is in force from the USDC side, in USDC (0.5 % of 2000)
example : feesAfter (buy (exM .usdc) (exEnv 5) 2 7 8) = (some none, some (some ⟨2, 10⟩)) := by decide

#print axioms C13_cycle_ok_iff
#print axioms C13_cycle_iff
#print axioms C13_cycle_iff'
#print axioms C13_cycle_iff_ns
#print axioms C13_cycle_can
#print axioms C13_cycle_effect
#print axioms C13_two_denoms
#print axioms C13_instantiate
#print axioms C13_any_sender
#print axioms C13_no_funds
#print axioms C13_only_cycle
#print axioms C13_step_frame
#print axioms C13_step_cycle_run
#print axioms C13_step_cycle
#print axioms C13_step_cycle_effect
#print axioms C13_step_can_cycle
#print axioms C13_cycle_keeps_records
#print axioms C13_step_since
#print axioms C13_monotone_since
#print axioms C13_between_switches
#print axioms C13_charged_now
#print axioms C13_charged_listing
#print axioms C13_charged_bucket

end Fuzion
