/-
  Fuzion.Props.C01 — "Escrow is exactly backed: holdings equal recorded obligations".

  Property text:  At every point in any history of marketplace messages, for each native
  denomination and each CW20 token the marketplace's on-chain balance equals the total of that
  asset promised by open listings, by buckets and by not-yet-paid community-pool fees, and the NFTs
  it owns are exactly the NFTs recorded in listings and buckets, each in exactly one record.
  Nothing is promised twice and nothing it holds is unaccounted for (assuming nobody sends it
  assets outside its deposit interface).

  Every accepted call changes what the records promise (`owedNative`, `owedCw20`, `recordedNfts`) by
  exactly what came in minus what the emitted messages pay out; the deposit and the dispatch of
  those messages change what the marketplace holds by the same; so holdings = obligations is kept
  by every transaction.

  Side conditions ("nobody sends it assets outside its deposit interface", and no message pays
  the marketplace itself): the marketplace never signs a transaction, the community pool is a
  different account, no royalty payout address is the marketplace (`Op.avoids`), and no *honest*
  token contract forges a `Receive` / `ReceiveNft` hook call (`Op.honest`).  CW20 tokens and NFT
  collections are the honest ones (kind 1 / kind 2 of the chain model); hooks forged by hostile
  contracts (finding C18) are allowed in the histories — what they record is not an honest asset,
  and the honest assets stay exactly backed.
-/
import Fuzion.Lemmas.AcctLemmas
namespace Fuzion

/-! ## handler level -/

section handler
variable {m m' : Market} {env : Env} {out : List OutMsg} {j u : Nat}
  {sender : Nat} {funds : List Coin} {msg : ExecMsg}

/-- "for each native denomination … the total of that asset promised by open listings, by buckets
    and by not-yet-paid community-pool fees": an accepted call changes that total by exactly the
    attached coins minus what its bank-send and fund-community-pool messages pay out. -/
theorem C01_execute_native (hI : IdsInv m) (hW : WFInv j u m)
    (h : execute m env sender funds msg = .ok (m', out)) :
    ∀ d, owedNative m' d + paidNative out d = owedNative m d + coinAmt funds d :=
  (execute_acct hI hW h).native

/-- "… and each CW20 token": an accepted call changes the promised total of token `t` by exactly
    the amount the calling token contract's `Receive` hook announces minus what its transfer
    messages pay out. -/
theorem C01_execute_cw20 (hI : IdsInv m) (hW : WFInv j u m)
    (h : execute m env sender funds msg = .ok (m', out)) :
    ∀ t, owedCw20 m' t + paidCw20 out t = owedCw20 m t + msgIn20 sender msg t :=
  (execute_acct hI hW h).cw20

/-- "the NFTs recorded in listings and buckets, each in exactly one record": as multisets, the
    recorded NFTs after an accepted call plus the NFTs its messages transfer away are the NFTs
    recorded before plus the one the calling collection's `ReceiveNft` hook announces. -/
theorem C01_execute_nft (hI : IdsInv m) (hW : WFInv j u m)
    (h : execute m env sender funds msg = .ok (m', out)) :
    (recordedNfts m' ++ sentNfts out).Perm (recordedNfts m ++ msgInNfts sender msg) :=
  (execute_acct hI hW h).nft

/-- the purchase: the pending fee of the paying bucket is paid, the two new fees are recorded, the
    royalties are paid — everything that leaves the records leaves the contract in this very
    response, in all three asset classes. -/
theorem C01_buy {buyer lid bid : Nat} (hI : IdsInv m) (hW : WFInv j u m)
    (h : buy m env buyer lid bid = .ok (m', out)) :
    (∀ d, owedNative m' d + paidNative out d = owedNative m d) ∧
    (∀ t, owedCw20 m' t + paidCw20 out t = owedCw20 m t) ∧
    (recordedNfts m' ++ sentNfts out).Perm (recordedNfts m) := by
  have a := buy_acct hI hW h
  refine ⟨fun d => a.native d, fun t => a.cw20 t, ?_⟩
  have := a.nft
  rwa [List.append_nil] at this

end handler

example : IdsInv AcctEx.mkt ∧ WFInv 1 2 AcctEx.mkt ∧
    ∃ r, execute AcctEx.mkt AcctEx.env0 2 [] (.buy 3 8) = .ok r := ⟨AcctEx.ids, AcctEx.wf, _, rfl⟩
example : IdsInv AcctEx.mkt ∧ WFInv 1 2 AcctEx.mkt ∧
    ∃ r, execute AcctEx.mkt AcctEx.env0 5 [⟨1, 30⟩, ⟨2, 1⟩] (.createBucket 9) = .ok r :=
  ⟨AcctEx.ids, AcctEx.wf, _, rfl⟩
example : IdsInv AcctEx.mkt ∧ WFInv 1 2 AcctEx.mkt ∧
    ∃ r, execute AcctEx.mkt AcctEx.env0 50 [] (.receive (.valid 5) 77 (some (.createBucket 9))) = .ok r :=
  ⟨AcctEx.ids, AcctEx.wf, _, rfl⟩
example : IdsInv AcctEx.mkt ∧ WFInv 1 2 AcctEx.mkt ∧
    ∃ r, execute AcctEx.mkt AcctEx.env0 60 [] (.receiveNft (.valid 2) 11 (some (.addToBucket 8))) = .ok r :=
  ⟨AcctEx.ids, AcctEx.wf, _, rfl⟩
example : IdsInv AcctEx.mkt ∧ WFInv 1 2 AcctEx.mkt ∧ ∃ r, buy AcctEx.mkt AcctEx.env0 2 3 8 = .ok r :=
  ⟨AcctEx.ids, AcctEx.wf, _, rfl⟩
/-- what the sample market promises before the purchase: 1000 (goods) + 4 (the bucket's pending fee)
    of denom 1, and the payment of 2000 of denom 2 -/
example : owedNative AcctEx.mkt 1 = 1004 ∧ owedNative AcctEx.mkt 2 = 2000 := by decide

/-- `WFInv` cannot be dropped: on an ill-formed record — a never-traded listing that carries a
    fee — `deleteListing` returns the goods and silently drops the fee from the records, so 5 coins
    of denomination 1 stay in the marketplace unaccounted for. -/
example : IdsInv AcctEx.badMkt ∧ ∃ m' out,
    execute AcctEx.badMkt AcctEx.env0 1 [] (.deleteListing 3) = .ok (m', out) ∧
    owedNative m' 1 + paidNative out 1 + 5 = owedNative AcctEx.badMkt 1 :=
  ⟨by constructor <;> decide, _, _, rfl, by decide⟩

/-! ## chain level -/

/-- "the marketplace's on-chain balance": dispatching a message list none of whose messages is
    addressed to the marketplace itself lowers its bank balance, its balance of every honest CW20
    token and its set of honest NFTs by exactly what the messages pay out. -/
theorem C01_dispatch {fail : Nat → Bool} {ms : List OutMsg} {w w' : World} {i : Nat}
    (h : dispatchAll fail w ms i = some w') (hd : ∀ x ∈ ms, x.dest w.pool ≠ w.self) :
    (∀ d, lget w'.bank (w.self, d) + paidNative ms d = lget w.bank (w.self, d)) ∧
    (∀ t, w.isHonest20 t = true →
      lget w'.cw20 (t, w.self) + paidCw20 ms t = lget w.cw20 (t, w.self)) ∧
    (∀ n : Nft, w.isHonest721 n.coll = true → held w' n + (sentNfts ms).count n = held w n) :=
  dispatchAll_acct h hd

/-- without any side condition the marketplace never loses more than the messages say (a message
    to itself only moves coins from it to it) -/
theorem C01_dispatch_solvent {fail : Nat → Bool} {ms : List OutMsg} {w w' : World} {i : Nat}
    (h : dispatchAll fail w ms i = some w') (d : Nat) :
    lget w.bank (w.self, d) ≤ lget w'.bank (w.self, d) + paidNative ms d :=
  dispatchAll_solvent h d

example : (dispatchAll noFault AcctEx.wd AcctEx.msgs 0).isSome = true ∧
    (∀ x ∈ AcctEx.msgs, x.dest AcctEx.wd.pool ≠ AcctEx.wd.self) ∧
    AcctEx.wd.isHonest20 50 = true ∧ AcctEx.wd.isHonest721 60 = true ∧
    paidNative AcctEx.msgs 1 = 305 ∧ paidCw20 AcctEx.msgs 50 = 150 ∧ sentNfts AcctEx.msgs = [⟨60, 7⟩] := by
  decide

/-! ## world level -/

def BackedNative (w : World) : Prop := ∀ d, lget w.bank (w.self, d) = owedNative w.mkt d

def BackedCw20 (w : World) : Prop :=
  ∀ t, w.isHonest20 t = true → lget w.cw20 (t, w.self) = owedCw20 w.mkt t

/-- NFTs of honest collections: no NFT is recorded twice, and an NFT is recorded iff the
    marketplace owns it -/
def NftExact (w : World) : Prop :=
  ((recordedNfts w.mkt).filter (fun n => w.isHonest721 n.coll)).Nodup ∧
  ∀ n : Nft, w.isHonest721 n.coll = true →
    (n ∈ recordedNfts w.mkt ↔ alookup (n.coll, n.tid) w.nft = some w.self)

/-- "holdings equal recorded obligations" -/
def Backed (w : World) : Prop := BackedNative w ∧ BackedCw20 w ∧ NftExact w

/-- `NftExact` says: every honest NFT is recorded as many times (0 or 1) as the marketplace owns it -/
theorem NftExact_iff_count (w : World) :
    NftExact w ↔ ∀ n : Nft, w.isHonest721 n.coll = true → (recordedNfts w.mkt).count n = held w n := by
  -- no duplicate among the honest: every honest NFT counts ≤ 1; recorded iff owned: it counts 1 or 0
  simp only [NftExact, nodup_filter_iff_count, held, count_eq_ite_iff]
  exact ⟨fun h n hn => ⟨h.1 n hn, h.2 n hn⟩, fun h => ⟨fun n hn => (h n hn).1, fun n hn => (h n hn).2⟩⟩

theorem Backed.empty {w : World} (hl : w.mkt.listings = []) (hb : w.mkt.buckets = [])
    (bank0 : ∀ d, lget w.bank (w.self, d) = 0) (cw200 : ∀ t, lget w.cw20 (t, w.self) = 0)
    (nft0 : ∀ k, alookup k w.nft ≠ some w.self) : Backed w := by
  refine ⟨fun d => ?_, fun t _ => ?_, (NftExact_iff_count w).2 fun n _ => ?_⟩
  · rw [bank0, owedNative_eq, wsum_empty _ _ hl hb]
  · rw [cw200, owedCw20_eq, wsum_empty _ _ hl hb]
  · rw [count_recordedNfts, wsum_empty _ _ hl hb, held, if_neg (nft0 _)]

section step
variable {w : World} {op : Op}

/-- Native coins stay exactly backed across any transaction.  Side conditions: the community pool
    is not the marketplace, no registry entry pays out to the marketplace, and the operation is
    not signed by the marketplace nor registers it as payout address. -/
theorem C01_step_native (hI : IdsInv w.mkt) (hW : WFInv w.junoD w.usdcD w.mkt)
    (hB : BackedNative w) (hpool : w.pool ≠ w.self) (hpay : PayoutsNe w.reg w.self)
    (hop : op.avoids w.self) : BackedNative (step w op).1 := by
  unfold step
  intro d
  show lget _ ((stepF noFault w op).1.self, d) = _
  rw [(stepF_static noFault w op).self]
  exact eq_of_moves_together ((stepF_backing hI hW hpool hpay hop).1 d) (hB d)

/-- Honest CW20 tokens stay exactly backed across any transaction (hooks forged by hostile contracts
    included; an honest token contract never forges one). -/
theorem C01_step_cw20 (hI : IdsInv w.mkt) (hW : WFInv w.junoD w.usdcD w.mkt)
    (hB : BackedCw20 w) (hpool : w.pool ≠ w.self) (hpay : PayoutsNe w.reg w.self)
    (hop : op.avoids w.self) (hh : op.honest w) : BackedCw20 (step w op).1 := by
  have hst := stepF_static noFault w op
  unfold step
  intro t ht
  rw [hst.honest20] at ht
  rw [hst.self]
  exact eq_of_moves_together (((stepF_backing hI hW hpool hpay hop).2 hh).1 t ht) (hB t ht)

/-- The NFTs of honest collections the marketplace owns stay exactly the recorded ones, each
    recorded once, across any transaction (hooks forged by hostile contracts included; an honest
    collection never forges one). -/
theorem C01_step_nft (hI : IdsInv w.mkt) (hW : WFInv w.junoD w.usdcD w.mkt)
    (hB : NftExact w) (hpool : w.pool ≠ w.self) (hpay : PayoutsNe w.reg w.self)
    (hop : op.avoids w.self) (hh : op.honest w) : NftExact (step w op).1 := by
  rw [NftExact_iff_count] at hB ⊢
  unfold step
  intro n hn
  rw [(stepF_static noFault w op).honest721] at hn
  exact (eq_of_moves_together (((stepF_backing hI hW hpool hpay hop).2 hh).2 n hn) (hB n hn).symm).symm

/-- "holdings equal recorded obligations" is preserved by every transaction -/
theorem C01_step (hI : IdsInv w.mkt) (hW : WFInv w.junoD w.usdcD w.mkt)
    (hB : Backed w) (hpool : w.pool ≠ w.self) (hpay : PayoutsNe w.reg w.self)
    (hop : op.avoids w.self) (hh : op.honest w) : Backed (step w op).1 :=
  ⟨C01_step_native hI hW hB.1 hpool hpay hop, C01_step_cw20 hI hW hB.2.1 hpool hpay hop hh,
   C01_step_nft hI hW hB.2.2 hpool hpay hop hh⟩

end step

namespace C01Ex

open AcctEx in
theorem w0_backed : Backed w0 :=
  .empty rfl rfl (fun d => by simp [w0, lget, alookup]) (fun t => by simp [w0, lget, alookup])
    fun k h => (by decide : ∀ p ∈ w0.nft, p.2 ≠ w0.self) _ (alookup_some_mem h) rfl

end C01Ex

example : IdsInv AcctEx.w0.mkt ∧ WFInv AcctEx.w0.junoD AcctEx.w0.usdcD AcctEx.w0.mkt ∧ Backed AcctEx.w0 ∧
    AcctEx.w0.pool ≠ AcctEx.w0.self ∧ PayoutsNe AcctEx.w0.reg AcctEx.w0.self :=
  ⟨IdsInv.init _ _, WFInv.init _ _ _ _, C01Ex.w0_backed, by decide, AcctEx.w0_payouts 100 (by decide)⟩
example : ∀ op ∈ AcctEx.ops, op.avoids AcctEx.w0.self ∧ op.honest AcctEx.w0 := by decide
/-- the first operation of the sample history succeeds and moves 1000 coins into escrow -/
example : (step AcctEx.w0 (AcctEx.ops.head!)).2.ok = true ∧
    lget (step AcctEx.w0 (AcctEx.ops.head!)).1.bank (100, 1) = 1000 := by decide

/-! ## every history -/

/-- what `C01_backed` carries along a history: `Backed`, the two invariants of the records its step
    needs, and the two side conditions on the world, which a transaction keeps under `Op.avoids` -/
structure C01Inv (w : World) : Prop where
  ids : IdsInv w.mkt
  wf : WFInv w.junoD w.usdcD w.mkt
  backed : Backed w
  pool : w.pool ≠ w.self
  payouts : PayoutsNe w.reg w.self

/-- the invariant is kept by every transaction that is not signed by the marketplace, does not
    register it as payout address and is no hook call forged by an honest token (`hIds`, `hWF`: see
    `C01_backed`; `C01Inv_step`, Props/C01Closed.lean, has them supplied) -/
theorem C01Inv.preserved
    (hIds : ∀ {m m' : Market} {env : Env} {s : Nat} {f : List Coin} {msg : ExecMsg}
      {out : List OutMsg}, IdsInv m → execute m env s f msg = .ok (m', out) → IdsInv m')
    (hWF : ∀ {m m' : Market} {env : Env} {s : Nat} {f : List Coin} {msg : ExecMsg}
      {out : List OutMsg}, IdsInv m → WFInv env.junoD env.usdcD m →
      execute m env s f msg = .ok (m', out) → WFInv env.junoD env.usdcD m')
    {w : World} {op : Op} (h : C01Inv w) (hop : op.avoids w.self) (hh : op.honest w) :
    C01Inv (step w op).1 :=
  have hst : StaticEq w (step w op).1 := stepF_static noFault w op
  ⟨stepF_mkt_inv (P := IdsInv) h.ids (fun hx => hIds h.ids hx),
    hst.junoD ▸ hst.usdcD ▸
      stepF_mkt_inv (P := WFInv w.junoD w.usdcD) h.wf (fun hx => hWF h.ids h.wf hx),
    C01_step h.ids h.wf h.backed h.pool h.payouts hop hh,
    hst.pool_ne_self h.pool, hst.self ▸ stepF_payouts h.payouts hop⟩

/-- "At every point in any history of marketplace messages … holdings equal recorded obligations".
    `hIds` / `hWF` ask that `execute` preserves the id and well-formedness invariants; both hold
    outright (`C09_inv_execute`, `C12_inv_execute`: `Shape.ids`, `Shape.wf` of `execute_shape`,
    Lemmas/InvLemmas.lean), and `C01_backed_closed` (Props/C01Closed.lean) is this theorem with both
    supplied.  Side conditions on the history: no operation is signed
    by the marketplace or registers it as royalty payout address, and no honest token contract
    forges a hook call. -/
theorem C01_backed
    (hIds : ∀ {m m' : Market} {env : Env} {s : Nat} {f : List Coin} {msg : ExecMsg}
      {out : List OutMsg}, IdsInv m → execute m env s f msg = .ok (m', out) → IdsInv m')
    (hWF : ∀ {m m' : Market} {env : Env} {s : Nat} {f : List Coin} {msg : ExecMsg}
      {out : List OutMsg}, IdsInv m → WFInv env.junoD env.usdcD m →
      execute m env s f msg = .ok (m', out) → WFInv env.junoD env.usdcD m')
    (ops : List Op) : ∀ {w : World}, C01Inv w → (∀ op ∈ ops, op.avoids w.self ∧ op.honest w) →
      C01Inv (run w ops) :=
  fun h hops => run_induct_static
    (fun _ _ hs hq h' => h'.preserved hIds hWF (hs.self ▸ hq.1) (Op.honest_static hs hq.2)) ops hops h

theorem C01Ex.w0_inv : C01Inv AcctEx.w0 :=
  ⟨IdsInv.init _ _, WFInv.init _ _ _ _, C01Ex.w0_backed, by decide, AcctEx.w0_payouts 100 (by decide)⟩

example : C01Inv AcctEx.w0 := C01Ex.w0_inv
example : ∀ op ∈ AcctEx.ops, op.avoids AcctEx.w0.self ∧ op.honest AcctEx.w0 := by decide
/-- every operation of the sample history is accepted, and at the end the marketplace is empty
    again: goods, proceeds, both fees and the royalty have left -/
example : (AcctEx.ops.zipIdx.all fun p => (step (run AcctEx.w0 (AcctEx.ops.take p.2)) p.1).2.ok) = true ∧
    (run AcctEx.w0 AcctEx.ops).mkt.listings = [] ∧ (run AcctEx.w0 AcctEx.ops).mkt.buckets = [] ∧
    lget (run AcctEx.w0 AcctEx.ops).bank (100, 1) = 0 ∧ lget (run AcctEx.w0 AcctEx.ops).bank (100, 2) = 0 ∧
    lget (run AcctEx.w0 AcctEx.ops).bank (101, 1) = 5 ∧ lget (run AcctEx.w0 AcctEx.ops).bank (6, 2) = 50 ∧
    lget (run AcctEx.w0 AcctEx.ops).bank (1, 2) = 1950 ∧ lget (run AcctEx.w0 AcctEx.ops).cw20 (50, 2) = 400 ∧
    alookup (60, 7) (run AcctEx.w0 AcctEx.ops).nft = some 2 := by
  decide +kernel

/-! ## the executable oracle -/

/-- The decidable form of this property that the driver evaluates on every implementation state
    (`checkC01`, Inv/Defs.lean) follows from `Backed`, provided the NFT ledger is a map over
    honest collections (`NftLedgerOk`, which every operation preserves: `stepF_nftLedger`). -/
theorem C01_check {w : World} (hB : Backed w) (hl : NftLedgerOk w) : checkC01 w = true := by
  obtain ⟨hn, hc, hnd, hiff⟩ := hB
  unfold checkC01
  simp only [Bool.and_eq_true, List.all_eq_true, decide_eq_true_eq]
  refine ⟨⟨fun d _ => hn d, fun t ht => hc t ?_⟩, ⟨hnd, ?_⟩, ?_⟩
  · unfold cw20Universe at ht
    exact (List.mem_filter.1 ht).2
  · intro n hm
    obtain ⟨h1, h2⟩ := List.mem_filter.1 hm
    exact mem_heldNfts.2 (alookup_some_mem ((hiff n h2).1 h1))
  · intro n hm
    have hmem := mem_heldNfts.1 hm
    have hh : w.isHonest721 n.coll = true := hl.2 _ hmem
    exact List.mem_filter.2 ⟨(hiff n hh).2 (mem_nodup_alookup hl.1 hmem), hh⟩

example : Backed AcctEx.w0 ∧ NftLedgerOk AcctEx.w0 := ⟨C01Ex.w0_backed, by decide, by decide⟩

example : C01Inv AcctEx.w0 ∧ NftLedgerOk AcctEx.w0 ∧
    ∀ op ∈ AcctEx.ops, op.avoids AcctEx.w0.self ∧ op.honest AcctEx.w0 :=
  ⟨C01Ex.w0_inv, ⟨by decide, by decide⟩, by decide⟩
/-- a hook forged by a hostile contract is within the side conditions: the oracle on honest assets
    still holds afterwards, although a record now holds a foreign asset (C18) -/
example : (∀ op ∈ AcctEx.opsForged, op.avoids AcctEx.w0.self ∧ op.honest AcctEx.w0) ∧
    (step (run AcctEx.w0 AcctEx.ops) (.exec 70 [] (.receive (.valid 5) 999 (some (.createBucket 4))))).2.ok
      = true ∧
    hasForeignAsset (run AcctEx.w0 AcctEx.opsForged) = true ∧
    checkC01 (run AcctEx.w0 AcctEx.opsForged) = true := by decide +kernel
/-- … and indeed evaluates to `true` at every point of the sample history -/
example : ((List.range 11).all fun k => checkC01 (run AcctEx.w0 (AcctEx.ops.take k))) = true := by decide +kernel

#print axioms C01_execute_native
#print axioms C01_execute_cw20
#print axioms C01_execute_nft
#print axioms C01_buy
#print axioms C01_dispatch
#print axioms C01_dispatch_solvent
#print axioms NftExact_iff_count
#print axioms C01_step_native
#print axioms C01_step_cw20
#print axioms C01_step_nft
#print axioms C01_step
#print axioms C01_backed
#print axioms C01_check
#print axioms C01Ex.w0_backed
#print axioms Backed.empty
#print axioms C01Inv.preserved
#print axioms C01Ex.w0_inv

end Fuzion
