/-
  Fuzion.Props.C15 — "Purchases, deposits and payouts are all-or-nothing when a transfer fails".

  PARTIAL BY DESIGN.  The rollback of a failed transaction is performed by the chain runtime
  (cw-multi-test / wasmd), not by the contract.  What the contract contributes is the *shape* of
  its responses: every outgoing message is a plain `add_message` (id 0, `ReplyOn::Never`), so a
  failing transfer can never be caught and swallowed, and `reply` accepts nothing but the
  instantiation reply (id 1).  The theorems here are therefore about

  * the model's transaction semantics (`stepF`): any failure — a refusing guard, a missing
    balance, a failing / hostile token contract, or a fault injected at an arbitrary position of
    the emitted message list — yields the original world; once the fault is gone the very same
    operation has its normal effect;
  * the chain's `dispatchAll` (Model/Chain), which has no error-recovery path, and the contract's
    `reply`, which rejects every id other than 1.

  The implementation-side counterpart — every `SubMsg` of every recorded response has id 0 and
  `ReplyOn::Never` — is checked on every response by the driver (oracle `oSub`); the runtime's
  rollback itself is validated by the fault-injection runs of the harness (hostile token
  contracts whose `Transfer` / `TransferNft` fail), which compare the full state dump with the
  model's `stepF fail`.
-/
import Fuzion.Lemmas.Ledgers
namespace Fuzion

/-- "all-or-nothing": whatever the operation (purchase, deposit, payout, …) and whatever fails,
    a transaction that does not succeed leaves the world — marketplace records, all three token
    ledgers, the registry — exactly as it was. -/
theorem C15_abort (fail : Nat → Bool) (w : World) (op : Op)
    (h : (stepF fail w op).2.ok = false) : (stepF fail w op).1 = w :=
  stepF_failed_noop fail w op h

/-- A fault at position `k` of the emitted message list makes the dispatch of the whole list
    fail, wherever the dispatch starts counting (`i`). -/
theorem C15_fault_fails_from {fail : Nat → Bool} {msgs : List OutMsg} (w : World) (i k : Nat)
    (hk : k < msgs.length) (hf : fail (i + k) = true) : dispatchAll fail w msgs i = none :=
  -- the last argument is where the fault-free dispatch of the other branch starts counting
  (dispatchAll_faults fail msgs w i 0).trans (if_pos ⟨k, hk, hf⟩)

/-- "when a transfer fails": if the `k`-th transfer is made to fail, dispatch fails. -/
theorem C15_fault_fails {fail : Nat → Bool} {msgs : List OutMsg} (w : World) (k : Nat)
    (hk : k < msgs.length) (hf : fail k = true) : dispatchAll fail w msgs 0 = none :=
  C15_fault_fails_from w 0 k hk (by rwa [Nat.zero_add])

/-- "Purchases, deposits and payouts are all-or-nothing when a transfer fails": if the handler
    accepts the message and emits `msgs`, and the `k`-th of these transfers is made to fail, the
    transaction as a whole fails and returns the original world — the deposit that had already
    been moved to the marketplace and the record changes of the handler are gone with it. -/
theorem C15_fault_aborts {fail : Nat → Bool} {w : World} {op : Op} {c : Nat} {f : List Coin}
    {msg : ExecMsg} {m' : Market} {msgs : List OutMsg} {k : Nat}
    (ho : op.asExec = some (c, f, msg)) (hx : execute w.mkt w.env c f msg = .ok (m', msgs))
    (hk : k < msgs.length) (hf : fail k = true) :
    (stepF fail w op).1 = w ∧ (stepF fail w op).2.ok = false := by
  rcases stepF_market_full (fail := fail) (w := w) ho with
    ⟨e, h⟩ | ⟨w1, m2, msgs2, w2, _, hx2, hdd, _⟩
  · rw [h]; exact ⟨rfl, rfl⟩
  -- accepted under `fail`: then all of `msgs` was dispatched under `fail`, past position `k`
  · cases hx.symm.trans hx2
    rw [C15_fault_fails _ k hk hf] at hdd
    cases hdd

/-- `step` is `stepF` without faults: retrying the same operation in the (unchanged) world after
    the fault has gone is an ordinary step. -/
theorem C15_retry (w : World) (op : Op) : stepF noFault w op = step w op := rfl

/-- a fault predicate that is silent on the positions of this message list is invisible -/
theorem C15_fault_beyond {fail : Nat → Bool} {msgs : List OutMsg} (w : World)
    (h : ∀ i, i < msgs.length → fail i = false) :
    dispatchAll fail w msgs 0 = dispatchAll noFault w msgs 0 :=
  (dispatchAll_faults fail msgs w 0 0).trans
    (if_neg fun ⟨k, hk, hf⟩ => by rw [Nat.zero_add, h k hk] at hf; cases hf)

/-- … hence the whole transaction is the normal one: if the fault predicate spares every
    message the handler emits, `stepF fail` and `step` agree (world and outcome). -/
theorem C15_fault_beyond_step {fail : Nat → Bool} {w : World} {op : Op} {c : Nat} {f : List Coin}
    {msg : ExecMsg} {m' : Market} {msgs : List OutMsg}
    (ho : op.asExec = some (c, f, msg)) (hx : execute w.mkt w.env c f msg = .ok (m', msgs))
    (h : ∀ i, i < msgs.length → fail i = false) : stepF fail w op = step w op := by
  -- with and without `fail` the transaction is the same equation up to the dispatch of `msgs`
  unfold step
  rw [stepF_market_eq ho, stepF_market_eq ho]
  simp only [hx, C15_fault_beyond _ h]

/-- a failing handler is not affected by fault injection at all (there is nothing to dispatch) -/
theorem C15_refused_same {fail : Nat → Bool} {w : World} {op : Op} {c : Nat} {f : List Coin}
    {msg : ExecMsg} {e : Err} (ho : op.asExec = some (c, f, msg))
    (hx : execute w.mkt w.env c f msg = .error e) : stepF fail w op = step w op := by
  unfold step
  rw [stepF_market_eq ho, stepF_market_eq ho]
  simp only [hx]

/-- If any single message of the list cannot be dispatched — wherever it stands — the dispatch
    of the whole list fails: the model has no reply-on-error path. -/
theorem C15_any_failure {fail : Nat → Bool} (pre post : List OutMsg) (m : OutMsg) (w w1 : World)
    (i : Nat) (hpre : dispatchAll fail w pre i = some w1) (hm : dispatch1 w1 m = none) :
    dispatchAll fail w (pre ++ m :: post) i = none := by
  rw [dispatchAll_append, hpre]
  refine Option.eq_none_iff_forall_ne_some.2 fun w' h => ?_
  obtain ⟨_, w2, hd, _⟩ := dispatchAll_cons.1 h
  cases hm.symm.trans hd

/-- Conversely a successful dispatch means every single message was dispatched successfully, in
    order, each in the world its predecessors left behind. -/
theorem C15_all_dispatched {fail : Nat → Bool} {msgs : List OutMsg} {w w' : World}
    (h : dispatchAll fail w msgs 0 = some w') (k : Nat) (hk : k < msgs.length) :
    fail k = false ∧ ∃ wk wk', dispatchAll fail w (msgs.take k) 0 = some wk ∧
      dispatch1 wk msgs[k] = some wk' := by
  have hsplit : msgs = msgs.take k ++ msgs[k] :: msgs.drop (k + 1) := by
    rw [List.getElem_cons_drop, List.take_append_drop]
  rw [hsplit, dispatchAll_append] at h
  cases hp : dispatchAll fail w (msgs.take k) 0 with
  | none => rw [hp] at h; cases h
  | some wk =>
    rw [hp] at h
    obtain ⟨hfk, wk', hd, _⟩ := dispatchAll_cons.1 h
    rw [List.length_take, Nat.zero_add, Nat.min_eq_left (Nat.le_of_lt hk)] at hfk
    exact ⟨hfk, wk, wk', rfl, hd⟩

/-- The contract's `reply` entry point accepts nothing but the instantiation reply: a reply with
    any other id (in particular one that would report a failed transfer) is an error.  Together
    with "every emitted message has id 0 / `ReplyOn::Never`" (driver oracle `oSub`) this is the
    contract's side of all-or-nothing. -/
theorem C15_reply_only_1 (m : Market) (id : Nat) (addr : RawAddr) (h : id ≠ 1) :
    reply m id addr = .error .badReply := by
  rw [reply, if_pos h]

/-- and id 1 with a valid address is accepted: it only stores the registry address -/
theorem C15_reply_1 (m : Market) (a : Nat) :
    reply m 1 (.valid a) = .ok { m with registry := some a } := by
  rw [reply, if_neg (fun h => h rfl)]
  rfl

-- seller 1 has listing 7 (1000 of denom 1 and 5 units of CW20 token 3, preparing, not finalized)
private def exL : Listing :=
  { creator := 1, id := 7, finalizedAt := none, expiresAt := none, status := .preparing,
    claimant := none, whitelist := none, forSale := ⟨[⟨1, 1000⟩], [⟨3, 5⟩], []⟩,
    ask := ⟨[⟨2, 2000⟩], [], []⟩, fee := none }

-- `kind3` = what contract 3 is: 1 = an honest CW20 token, 3 = a hostile one, whose `Transfer`
-- fails when the `fails` flag (set here for both) is on
private def exW (kind3 : Nat) : World :=
  { self := 100, pool := 101, regAddr := 102, junoD := 1, usdcD := 2, nowNs := 5, height := 1,
    mkt := { listings := [((1, 7), exL)], buckets := [], listingUsed := [7, 0], bucketUsed := [0],
             feeKind := .juno, feeSince := 0, registry := some 102 },
    reg := [], bank := [((100, 1), 1000), ((1, 1), 50)], cw20 := [((3, 100), 5)], nft := [],
    contracts := [(3, ⟨none, kind3, true, true⟩)] }

-- the delete pays out with two messages; both can be made to fail, and a hostile token fails
-- by itself
example : (step (exW 1) (.exec 1 [] (.deleteListing 7))).2.ok = true := by decide
example : (step (exW 1) (.exec 1 [] (.deleteListing 7))).2.msgs.length = 2 := by decide
example : (stepF (fun i => i == 0) (exW 1) (.exec 1 [] (.deleteListing 7))).2.ok = false := by decide
example : (stepF (fun i => i == 1) (exW 1) (.exec 1 [] (.deleteListing 7))).2.ok = false := by decide
example : (stepF (fun i => i == 2) (exW 1) (.exec 1 [] (.deleteListing 7))).2.ok = true := by decide
example : (step (exW 3) (.exec 1 [] (.deleteListing 7))).2.ok = false := by decide
example : (step (exW 3) (.exec 1 [] (.deleteListing 7))).2.err = some .dispatch := by decide
example : (Op.exec 1 [] (.deleteListing 7)).asExec = some (1, [], .deleteListing 7) := rfl
example : ∃ r, execute (exW 1).mkt (exW 1).env 1 [] (.deleteListing 7) = .ok r := ⟨_, rfl⟩
-- hypotheses of `C15_any_failure`: the bank payout goes through, the hostile token's transfer
-- does not
example : ∃ w1, dispatchAll noFault (exW 3) [.bankSend 1 [⟨1, 1000⟩]] 0 = some w1 := ⟨_, rfl⟩
example : (dispatch1 (exW 3) (.cw20Transfer 3 1 5)).isNone = true := by decide
-- hypothesis of `C15_reply_only_1`
example : (2 : Nat) ≠ 1 := by decide
-- hypothesis of `C15_fault_beyond` / `C15_fault_beyond_step`: a fault at position 2 spares both
-- messages of the delete
example : ∀ i, i < 2 → (fun i => i == 2) i = false := by decide
-- hypothesis of `C15_refused_same`: a stranger's delete is refused by the handler
example : execute (exW 1).mkt (exW 1).env 9 [] (.deleteListing 7) = .error .notFound := rfl
-- hypothesis of `C15_all_dispatched`: both payouts of the delete are dispatched
example : ∃ w', dispatchAll noFault (exW 1) [.bankSend 1 [⟨1, 1000⟩], .cw20Transfer 3 1 5] 0 = some w' :=
  ⟨_, rfl⟩

#print axioms C15_abort
#print axioms C15_fault_fails_from
#print axioms C15_fault_fails
#print axioms C15_fault_aborts
#print axioms C15_retry
#print axioms C15_fault_beyond
#print axioms C15_fault_beyond_step
#print axioms C15_refused_same
#print axioms C15_any_failure
#print axioms C15_all_dispatched
#print axioms C15_reply_only_1
#print axioms C15_reply_1

end Fuzion
