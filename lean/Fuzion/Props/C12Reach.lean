/-
  Fuzion.Props.C12Reach — the theorems of Props/C12.lean (handler level) and Props/C12World.lean
  (transaction level; property text in both) for every state `run w0 ops` reached from
  `w0.mkt = instantiate t r`.  The invariant itself is `C12_reach`.

  Discharged by `C09_reach`, `C12_reach`, `closed_wf`: `IdsInv` for the creations (the storage-key
  test is implied by the id-log test); for top-ups and ask changes that the record found under
  `(sender, id)` is owned by the sender, well-formed, and — for a preparing listing — never
  finalized and unclaimed.  What remains are hypotheses about the input: which record
  `(sender, id)` names (for a listing: that it is still in preparation), the deposit, the ask.

  The 128-bit hypothesis `Funds.fits` of the primed top-up theorems (stored + deposited amount
  ≤ 2^128 − 1) is kept: reachability, and `BoundedInv` + `Op.fits128` (Lemmas/ClosedLemmas.lean),
  bound the stored and the deposited amount separately, not their sum.  In the model (balances
  are unbounded naturals, the initial ledgers are arbitrary) the sum does exceed 2^128 − 1 in a
  reachable state whose history carries 128-bit amounts only; there `add_tokens` aborts and the
  primed equivalence without `Funds.fits` would be false: the `decide`d witness after
  `C12_add_to_bucket_step_iff'_reach`.  `Funds.fits` would follow from a bound on the total supply
  in the initial world through C01, with side conditions on the history; that is left out.  The
  unprimed forms need no arithmetic hypothesis: an overflow abort is a refusal and appears in the
  acceptance condition.
-/
import Fuzion.Props.C12
import Fuzion.Props.C12World
import Fuzion.Lemmas.ClosedLemmas
namespace Fuzion

/-! ## sample reachable states for the examples

`C12WEx.w = run AcctEx.w0 C12WEx.ops` (Props/C12World.lean): from the sample deployment, account 2
has opened listing 3 (preparing, 2000 of denom 2) and bucket 8 (1000 of denom 2); it still holds
2000 of denom 2 and NFT (60, 11); account 5 holds 77 of the honest token 50.  `C12REx.wSold` is the
state after the trade of the sample history (seven operations): a closed listing with a pending
fee and the seller's proceeds bucket.  `C12REx.wBig`: the same deployment, except that account 2
holds 2^129 of denom 2 and has opened bucket 8 with 2^128 − 1 of it.  `C12REx.wTok`: as `C12WEx.w`, but
from the deployment with 10 units of token 50 credited to account 2. -/

namespace C12REx
def wSold : World := run AcctEx.w0 (AcctEx.ops.take 7)
def w0Big : World := { AcctEx.w0 with bank := [((2, 2), 2 * (U128MAX + 1))] }
def opsBig : List Op := [.exec 2 [⟨2, U128MAX⟩] (.createBucket 8)]
def wBig : World := run w0Big opsBig
def w0Tok : World := { AcctEx.w0 with cw20 := ((50, 2), 10) :: AcctEx.w0.cw20 }
def wTok : World := run w0Tok C12WEx.ops
end C12REx

example : AcctEx.w0.mkt = instantiate 0 (some 102) ∧ C12REx.w0Big.mkt = instantiate 0 (some 102) :=
  ⟨rfl, rfl⟩
example : C12WEx.w.mkt.listings.map (fun p => (p.1, p.2.status, p.2.forSale)) =
      [((2, 3), .preparing, ⟨[⟨2, 2000⟩], [], []⟩)] ∧
    C12WEx.w.mkt.buckets.map (fun p => (p.1, p.2.owner, p.2.funds)) =
      [((2, 8), 2, ⟨[⟨2, 1000⟩], [], []⟩)] := by decide +kernel

section
variable {w0 : World} {t : Nat} {r : Option Nat}

/-- "Every listing and bucket the marketplace holds contains at least one asset, no zero amount,
    no duplicate …; and status, timestamps, buyer and pending fee are mutually consistent and the
    record is filed under its owner and id": the inductive step from a reachable state
    (`C12_inv_execute` with its premise discharged); `env` must show the world's two fee
    denominations. -/
theorem C12_inv_execute_reach (h0 : w0.mkt = instantiate t r) (ops : List Op) {m' : Market}
    {env : Env} {s : Nat} {f : List Coin} {msg : ExecMsg} {out : List OutMsg}
    (hj : env.junoD = w0.junoD) (hu : env.usdcD = w0.usdcD)
    (h : execute (run w0 ops).mkt env s f msg = .ok (m', out)) : WFInv env.junoD env.usdcD m' :=
  C12_inv_execute (hj ▸ hu ▸ C12_reach h0 ops) h

example : C12WEx.w.env.junoD = AcctEx.w0.junoD ∧ C12WEx.w.env.usdcD = AcctEx.w0.usdcD ∧
    C12Ex.errOf (execute C12WEx.w.mkt C12WEx.w.env 2 [⟨2, 5⟩] (.addToBucket 8)) = none :=
  ⟨rfl, rfl, by decide⟩

/-- the consistency of "status, timestamps, buyer and pending fee", spelled out for every listing
    stored in a reachable state; a closed (sold) one has its holder as claimant -/
theorem C12_listing_consistent_reach (h0 : w0.mkt = instantiate t r) (ops : List Op)
    {k : Nat × Nat} {l : Listing} (hm : (k, l) ∈ (run w0 ops).mkt.listings) :
    k = (l.creator, l.id) ∧ wfBal l.forSale = true ∧ wfAsk l.ask = true ∧
    (l.status = .preparing →
      l.finalizedAt = none ∧ l.expiresAt = none ∧ l.claimant = none ∧ l.fee = none) ∧
    (l.status = .finalized →
      (∃ f e, l.finalizedAt = some f ∧ l.expiresAt = some e ∧ f ≤ e) ∧ l.claimant = none ∧
      l.fee = none) ∧
    (l.status = .closed →
      (∃ f e, l.finalizedAt = some f ∧ l.expiresAt = some e ∧ f ≤ e) ∧
      l.claimant = some l.creator) := by
  obtain ⟨hk, hb, ha, h1, h2, h3⟩ := wfListing_iff.1 ((C12_reach h0 ops).lwf (k, l) hm)
  exact ⟨hk, hb, ha, h1, fun hs => ⟨wfTimes_spec (h2 hs).1, (h2 hs).2⟩,
    fun hs => ⟨wfTimes_spec (h3 hs).1, (h3 hs).2.1⟩⟩

example : ∃ p ∈ C12REx.wSold.mkt.listings, p.2.status = .closed := by decide +kernel

/-- "asks that would break this are refused and those that keep it are accepted (for … an owned
    listing still in preparation …)", in every reachable state; `AskOK`: addresses validate, no
    zero, 1–25 items, no duplicate.  "`s` is the creator", "never finalized", "unclaimed" of
    `C12_changeAsk_iff'` are discharged. -/
theorem C12_changeAsk_iff_reach (h0 : w0.mkt = instantiate t r) (ops : List Op) {s id : Nat}
    {l : Listing} (ask : RawGBal) (hl : alookup (s, id) (run w0 ops).mkt.listings = some l)
    (hst : l.status = .preparing) :
    (∃ res, changeAsk (run w0 ops).mkt s id ask = .ok res) ↔ AskOK ask := by
  have hwf := (C12_reach h0 ops).listing hl
  have h1 := wfListing_preparing hwf hst
  exact C12_changeAsk_iff' ask hl (Prod.mk.inj (wfListing_iff.1 hwf).1).1 hst h1.1 h1.2.2.1

/-- listing 3 of account 2 is preparing in the sample state; a valid ask is accepted, the empty
    ask is refused -/
example : (alookup (2, 3) C12WEx.w.mkt.listings).map (·.status) = some .preparing ∧
    C12Ex.errOf (changeAsk C12WEx.w.mkt 2 3 ⟨[⟨1, 9⟩], [], []⟩) = none ∧
    C12Ex.errOf (changeAsk C12WEx.w.mkt 2 3 ⟨[], [], []⟩) = some .badAsk := by decide +kernel

/-- "Deposits … that would break this are refused and those that keep it are accepted (for a
    fresh legal id …)", in every reachable state; the storage-key test of `execute_create_bucket`
    is implied (`C09_reach`). -/
theorem C12_create_bucket_iff_reach (h0 : w0.mkt = instantiate t r) (ops : List Op) (funds : Funds)
    (creator id : Nat) :
    (∃ res, createBucket (run w0 ops).mkt funds creator id = .ok res) ↔
      id < MAX_SAFE_INT ∧ id ∉ (run w0 ops).mkt.bucketUsed ∧ normalizedCheck funds = true :=
  C12_create_bucket_iff' (C09_reach h0 ops) funds creator id

/-- the CW721 bucket creation: only the id is tested -/
theorem C12_create_bucket_nft_iff_reach (h0 : w0.mkt = instantiate t r) (ops : List Op) (user : Nat)
    (nft : Nft) (id : Nat) :
    (∃ res, createBucketNft (run w0 ops).mkt user nft id = .ok res) ↔
      id < MAX_SAFE_INT ∧ id ∉ (run w0 ops).mkt.bucketUsed :=
  C12_create_bucket_nft_iff' (C09_reach h0 ops) user nft id

theorem C12_create_listing_iff_reach (h0 : w0.mkt = instantiate t r) (ops : List Op) (user : Nat)
    (funds : Funds) (c : CreateMsg) (id : Nat) :
    (∃ res, createListing (run w0 ops).mkt user funds c id = .ok res) ↔
      id < MAX_SAFE_INT ∧ normalizedCheck funds = true ∧ id ∉ (run w0 ops).mkt.listingUsed ∧
      (c.whitelist = none ∨ ∃ a, c.whitelist = some (.valid a) ∧ a ≠ user) ∧ AskOK c.ask :=
  C12_create_listing_iff' (C09_reach h0 ops) user funds c id

theorem C12_create_listing_nft_iff_reach (h0 : w0.mkt = instantiate t r) (ops : List Op)
    (user : Nat) (nft : Nft) (c : CreateMsg) (id : Nat) :
    (∃ res, createListingNft (run w0 ops).mkt user nft c id = .ok res) ↔
      id < MAX_SAFE_INT ∧ id ∉ (run w0 ops).mkt.listingUsed ∧
      (c.whitelist = none ∨ ∃ a, c.whitelist = some (.valid a) ∧ a ≠ user) ∧ AskOK c.ask :=
  C12_create_listing_nft_iff' (C09_reach h0 ops) user nft c id

/-- both sides of the four equivalences occur in the sample state: fresh ids are accepted; the
    used ids 8 / 3, a zero coin and an empty ask are refused -/
example :
    C12Ex.errOf (createBucket C12WEx.w.mkt (.native [⟨1, 5⟩]) 9 4) = none ∧
    C12Ex.errOf (createBucket C12WEx.w.mkt (.native [⟨1, 5⟩]) 9 8) = some .idUsed ∧
    C12Ex.errOf (createBucket C12WEx.w.mkt (.native [⟨1, 0⟩]) 9 4) = some .badFunds ∧
    C12Ex.errOf (createBucketNft C12WEx.w.mkt 9 ⟨60, 1⟩ 4) = none ∧
    C12Ex.errOf (createListing C12WEx.w.mkt 9 (.cw20 ⟨50, 5⟩) C12WEx.ask 4) = none ∧
    C12Ex.errOf (createListing C12WEx.w.mkt 9 (.cw20 ⟨50, 5⟩) C12WEx.ask 3) = some .idUsed ∧
    C12Ex.errOf (createListing C12WEx.w.mkt 9 (.cw20 ⟨50, 5⟩) ⟨⟨[], [], []⟩, none⟩ 4) = some .badAsk ∧
    C12Ex.errOf (createListingNft C12WEx.w.mkt 9 ⟨60, 1⟩ C12WEx.ask 4) = none := by decide +kernel

/-- "cannot be topped up beyond 25 distinct assets … those that keep it are accepted (for … any
    owned bucket)", in every reachable state, without arithmetic hypothesis: the overflow of
    `add_tokens` past a `Uint128` is part of the condition.  Owner and well-formedness of the
    record are discharged. -/
theorem C12_topup_bucket_exact_reach (h0 : w0.mkt = instantiate t r) (ops : List Op) {funds : Funds}
    {s id : Nat} {b : Bucket} (hb : alookup (s, id) (run w0 ops).mkt.buckets = some b) :
    (∃ res, addToBucket (run w0 ops).mkt funds s id = .ok res) ↔
      normalizedCheck funds = true ∧
      ∃ nf, addTokens b.funds funds = some nf ∧ nf.count ≤ MAX_ASSETS := by
  obtain ⟨ho, wf, _⟩ := wfBucket_iff.1 ((C12_reach h0 ops).bucket hb)
  exact C12_topup_bucket_exact hb ho wf

theorem C12_topup_bucket_iff_reach (h0 : w0.mkt = instantiate t r) (ops : List Op) {funds : Funds}
    {s id : Nat} {b : Bucket} {nf : GBal}
    (hb : alookup (s, id) (run w0 ops).mkt.buckets = some b)
    (hadd : addTokens b.funds funds = some nf) :
    (∃ res, addToBucket (run w0 ops).mkt funds s id = .ok res) ↔
      normalizedCheck funds = true ∧ nf.count ≤ MAX_ASSETS := by
  obtain ⟨ho, wf, _⟩ := wfBucket_iff.1 ((C12_reach h0 ops).bucket hb)
  exact C12_topup_bucket_iff hb ho wf hadd

theorem C12_topup_bucket_iff'_reach (h0 : w0.mkt = instantiate t r) (ops : List Op) {funds : Funds}
    {s id : Nat} {b : Bucket} (hb : alookup (s, id) (run w0 ops).mkt.buckets = some b)
    (hfit : funds.fits b.funds) :
    (∃ res, addToBucket (run w0 ops).mkt funds s id = .ok res) ↔
      normalizedCheck funds = true ∧ b.funds.count + funds.newAssets b.funds ≤ MAX_ASSETS := by
  obtain ⟨ho, wf, _⟩ := wfBucket_iff.1 ((C12_reach h0 ops).bucket hb)
  exact C12_topup_bucket_iff' hb ho wf hfit

/-- bucket 8 of account 2 in the sample state; a deposit of one old and one new denomination fits,
    merges and is accepted; 24 new denominations on top of the one asset are accepted, 25 are
    refused by the cap alone -/
example : (alookup (2, 8) C12WEx.w.mkt.buckets).map (·.funds) = some ⟨[⟨2, 1000⟩], [], []⟩ ∧
    addTokens ⟨[⟨2, 1000⟩], [], []⟩ (.native [⟨2, 5⟩, ⟨3, 1⟩]) = some ⟨[⟨2, 1005⟩, ⟨3, 1⟩], [], []⟩ ∧
    (Funds.cw20 ⟨50, 9⟩).fits ⟨[⟨2, 1000⟩], [], []⟩ ∧
    C12Ex.errOf (addToBucket C12WEx.w.mkt (.native [⟨2, 5⟩, ⟨3, 1⟩]) 2 8) = none ∧
    C12Ex.errOf (addToBucket C12WEx.w.mkt (.cw20 ⟨50, 9⟩) 2 8) = none ∧
    C12Ex.errOf (addToBucket C12WEx.w.mkt (.native ((List.range 24).map fun i => ⟨i + 10, 1⟩)) 2 8) =
      none ∧
    C12Ex.errOf (addToBucket C12WEx.w.mkt (.native ((List.range 25).map fun i => ⟨i + 10, 1⟩)) 2 8) =
      some .invalid :=
  ⟨by decide, by decide, (by show coinAmt ([] : List Coin) 50 + 9 ≤ U128MAX; decide), by decide,
   by decide, by decide +kernel, by decide +kernel⟩

/-- "… (for … an owned listing still in preparation …)": the same for `execute_add_to_listing`;
    creator, "unclaimed" and well-formedness of the goods are discharged. -/
theorem C12_topup_listing_exact_reach (h0 : w0.mkt = instantiate t r) (ops : List Op)
    {funds : Funds} {s id : Nat} {l : Listing}
    (hl : alookup (s, id) (run w0 ops).mkt.listings = some l) (hst : l.status = .preparing) :
    (∃ res, addToListing (run w0 ops).mkt funds s id = .ok res) ↔
      normalizedCheck funds = true ∧
      ∃ nf, addTokens l.forSale funds = some nf ∧ nf.count ≤ MAX_ASSETS := by
  obtain ⟨ho, hc, wf⟩ := (C12_reach h0 ops).preparing hl hst
  exact C12_topup_listing_exact hl ho hst hc wf

theorem C12_topup_listing_iff_reach (h0 : w0.mkt = instantiate t r) (ops : List Op) {funds : Funds}
    {s id : Nat} {l : Listing} {nf : GBal}
    (hl : alookup (s, id) (run w0 ops).mkt.listings = some l) (hst : l.status = .preparing)
    (hadd : addTokens l.forSale funds = some nf) :
    (∃ res, addToListing (run w0 ops).mkt funds s id = .ok res) ↔
      normalizedCheck funds = true ∧ nf.count ≤ MAX_ASSETS := by
  obtain ⟨ho, hc, wf⟩ := (C12_reach h0 ops).preparing hl hst
  exact C12_topup_listing_iff hl ho hst hc wf hadd

theorem C12_topup_listing_iff'_reach (h0 : w0.mkt = instantiate t r) (ops : List Op)
    {funds : Funds} {s id : Nat} {l : Listing}
    (hl : alookup (s, id) (run w0 ops).mkt.listings = some l) (hst : l.status = .preparing)
    (hfit : funds.fits l.forSale) :
    (∃ res, addToListing (run w0 ops).mkt funds s id = .ok res) ↔
      normalizedCheck funds = true ∧ l.forSale.count + funds.newAssets l.forSale ≤ MAX_ASSETS := by
  obtain ⟨ho, hc, wf⟩ := (C12_reach h0 ops).preparing hl hst
  exact C12_topup_listing_iff' hl ho hst hc wf hfit

/-- listing 3 of account 2 is preparing; a CW20 deposit is accepted, a zero amount refused -/
example : (alookup (2, 3) C12WEx.w.mkt.listings).map (fun l => (l.status, l.forSale)) =
      some (.preparing, ⟨[⟨2, 2000⟩], [], []⟩) ∧
    addTokens ⟨[⟨2, 2000⟩], [], []⟩ (.cw20 ⟨50, 9⟩) = some ⟨[⟨2, 2000⟩], [⟨50, 9⟩], []⟩ ∧
    (Funds.cw20 ⟨50, 9⟩).fits ⟨[⟨2, 2000⟩], [], []⟩ ∧
    C12Ex.errOf (addToListing C12WEx.w.mkt (.cw20 ⟨50, 9⟩) 2 3) = none ∧
    C12Ex.errOf (addToListing C12WEx.w.mkt (.cw20 ⟨50, 0⟩) 2 3) = some .badFunds :=
  ⟨by decide, by decide, (by show coinAmt ([] : List Coin) 50 + 9 ≤ U128MAX; decide), by decide,
   by decide⟩

/-- the CW721 top-up: room for one more asset, and the NFT not already in the record -/
theorem C12_topup_bucket_nft_iff_reach (h0 : w0.mkt = instantiate t r) (ops : List Op) {nft : Nft}
    {s id : Nat} {b : Bucket} (hb : alookup (s, id) (run w0 ops).mkt.buckets = some b) :
    (∃ res, addToBucketNft (run w0 ops).mkt s nft id = .ok res) ↔
      b.funds.count + 1 ≤ MAX_ASSETS ∧ nft ∉ b.funds.nfts := by
  obtain ⟨ho, wf, _⟩ := wfBucket_iff.1 ((C12_reach h0 ops).bucket hb)
  exact C12_topup_bucket_nft_iff hb ho wf

theorem C12_topup_listing_nft_iff_reach (h0 : w0.mkt = instantiate t r) (ops : List Op) {nft : Nft}
    {s id : Nat} {l : Listing} (hl : alookup (s, id) (run w0 ops).mkt.listings = some l)
    (hst : l.status = .preparing) :
    (∃ res, addToListingNft (run w0 ops).mkt s nft id = .ok res) ↔
      l.forSale.count + 1 ≤ MAX_ASSETS ∧ nft ∉ l.forSale.nfts := by
  obtain ⟨ho, hc, wf⟩ := (C12_reach h0 ops).preparing hl hst
  exact C12_topup_listing_nft_iff hl ho hst hc wf

/-- an NFT is accepted once, and refused the second time -/
example : C12Ex.errOf (addToBucketNft C12WEx.w.mkt 2 ⟨60, 11⟩ 8) = none ∧
    C12Ex.errOf (addToListingNft C12WEx.w.mkt 2 ⟨60, 11⟩ 3) = none ∧
    (step (step C12WEx.w (.send721 60 2 11 (some (.addToBucket 8)))).1
      (.exec 60 [] (.receiveNft (.valid 2) 11 (some (.addToBucket 8))))).2.ok = false := by decide +kernel

/-- "so a payout can never be rejected by the bank or a token contract for being empty, zero or
    duplicated", in every reachable state: for every stored bucket the withdrawal messages, and
    for every stored listing both the deletion refund (to the creator) and the withdrawal of a
    purchase (to whichever claimant `c`). -/
theorem C12_payable_reach (h0 : w0.mkt = instantiate t r) (ops : List Op) (self : Nat) :
    (∀ p ∈ (run w0 ops).mkt.buckets,
      Payable self p.2.owner p.2.funds p.2.fee (withdrawMsgs self p.2.owner p.2.funds p.2.fee)) ∧
    (∀ p ∈ (run w0 ops).mkt.listings,
      Payable self p.2.creator p.2.forSale none (sendTokens p.2.creator p.2.forSale) ∧
      ∀ c, Payable self c p.2.forSale p.2.fee (withdrawMsgs self c p.2.forSale p.2.fee)) :=
  C12_payable (C12_reach h0 ops) self

/-- the reached state after the sample trade holds a closed listing with a pending fee and the
    proceeds bucket -/
example : C12REx.wSold.mkt.listings.map (fun p => (p.1, p.2.fee)) = [((2, 3), some ⟨1, 5⟩)] ∧
    C12REx.wSold.mkt.buckets.map (·.1) = [(1, 8)] := by decide +kernel

theorem C12_payouts_wellFormed_reach (h0 : w0.mkt = instantiate t r) (ops : List Op) {m' : Market}
    {env : Env} {s id : Nat} {out : List OutMsg}
    (h : withdrawBucket (run w0 ops).mkt env s id = .ok (m', out) ∨
         deleteListing (run w0 ops).mkt env s id = .ok (m', out) ∨
         withdrawPurchased (run w0 ops).mkt env s id = .ok (m', out)) :
    ∀ msg ∈ out, msg.wellFormed :=
  C12_payouts_wellFormed (C12_reach h0 ops) h

example : C12Ex.errOf (withdrawBucket C12REx.wSold.mkt C12REx.wSold.env 1 8) = none ∧
    C12Ex.errOf (withdrawPurchased C12REx.wSold.mkt C12REx.wSold.env 2 3) = none ∧
    C12Ex.errOf (deleteListing C12WEx.w.mkt C12WEx.w.env 2 3) = none := by decide +kernel

/-- "so a payout can never be rejected … for being empty, zero or duplicated", for the whole
    contract: every message emitted by any `execute` call accepted in a reachable state -/
theorem C12_msgs_wellFormed_reach (h0 : w0.mkt = instantiate t r) (ops : List Op) {m' : Market}
    {env : Env} {s : Nat} {f : List Coin} {msg : ExecMsg} {out : List OutMsg}
    (h : execute (run w0 ops).mkt env s f msg = .ok (m', out)) : ∀ x ∈ out, x.wellFormed :=
  C12_msgs_wellFormed (C12_reach h0 ops) h

example : C12Ex.errOf (execute C12REx.wSold.mkt C12REx.wSold.env 2 [] (.withdrawPurchased 3)) = none := by
  decide +kernel

/-- Every message reported by any transaction from any reachable state is well-formed: a bank
    send carries a non-empty, zero-free, duplicate-free coin list; a CW20 transfer and a
    community-pool funding a non-zero amount.  No hypothesis other than reachability. -/
theorem C12_msgs_wellFormed_step_reach (h0 : w0.mkt = instantiate t r) (ops : List Op) (op : Op) :
    ∀ x ∈ (step (run w0 ops) op).2.msgs, x.wellFormed := by
  intro x hx
  obtain ⟨_, _, _, _, _, hex, hm⟩ := mem_step_msgs hx
  exact C12_msgs_wellFormed (C12_reach h0 ops) hex x hm

/-- the buyer's withdrawal from the reached state after the trade -/
example : (step C12REx.wSold (.exec 2 [] (.withdrawPurchased 3))).2.msgs =
    [.bankSend 2 [⟨1, 995⟩], .cw20Transfer 50 2 400, .nftTransfer 60 7 2, .fundPool 100 ⟨1, 5⟩] := by
  decide +kernel

/-! ## deposits as transactions

accepted ⇔ handler-level condition ∧ the depositor owns the assets -/

/-- `CreateBucket` with coins attached: accepted exactly for a legal id that was never used, a
    deposit that passes `normalized_check`, and a sender who holds every attached coin. -/
theorem C12_create_bucket_step_iff_reach (h0 : w0.mkt = instantiate t r) (ops : List Op) (x : Nat)
    (funds : List Coin) (id : Nat) :
    (step (run w0 ops) (.exec x funds (.createBucket id))).2.ok = true ↔
      id < MAX_SAFE_INT ∧ id ∉ (run w0 ops).mkt.bucketUsed ∧
      normalizedCheck (.native funds) = true ∧
      ∀ c ∈ funds, c.amount ≤ lget (run w0 ops).bank (x, c.key) :=
  C12_create_bucket_step_iff (C09_reach h0 ops) x funds id

/-- both sides occur: account 2 (2000 of denom 2 left) creates bucket 9 with 2000; with 2001
    (cannot pay), with a zero coin, or under the used id 8 it is refused -/
example : (step C12WEx.w (.exec 2 [⟨2, 2000⟩] (.createBucket 9))).2.ok = true ∧
    (step C12WEx.w (.exec 2 [⟨2, 2001⟩] (.createBucket 9))).2.ok = false ∧
    (step C12WEx.w (.exec 2 [⟨2, 0⟩] (.createBucket 9))).2.ok = false ∧
    (step C12WEx.w (.exec 2 [⟨2, 2000⟩] (.createBucket 8))).2.ok = false := by decide +kernel

theorem C12_create_listing_step_iff_reach (h0 : w0.mkt = instantiate t r) (ops : List Op) (x : Nat)
    (funds : List Coin) (id : Nat) (c : CreateMsg) :
    (step (run w0 ops) (.exec x funds (.createListing id c))).2.ok = true ↔
      id < MAX_SAFE_INT ∧ normalizedCheck (.native funds) = true ∧
      id ∉ (run w0 ops).mkt.listingUsed ∧
      (c.whitelist = none ∨ ∃ a, c.whitelist = some (.valid a) ∧ a ≠ x) ∧ AskOK c.ask ∧
      ∀ c ∈ funds, c.amount ≤ lget (run w0 ops).bank (x, c.key) :=
  C12_create_listing_step_iff (C09_reach h0 ops) x funds id c

example : (step C12WEx.w (.exec 2 [⟨2, 2000⟩] (.createListing 4 C12WEx.ask))).2.ok = true ∧
    (step C12WEx.w (.exec 2 [⟨2, 2001⟩] (.createListing 4 C12WEx.ask))).2.ok = false ∧
    (step C12WEx.w (.exec 2 [⟨2, 2000⟩] (.createListing 3 C12WEx.ask))).2.ok = false ∧
    (step C12WEx.w (.exec 2 [⟨2, 2000⟩] (.createListing 4 ⟨C12WEx.ask.ask, some (.valid 2)⟩))).2.ok =
      false := by decide +kernel

/-- `AddToBucket` with coins attached, for the bucket stored under `(x, id)`.  No arithmetic side
    condition: an overflow abort of `add_tokens` is a refusal. -/
theorem C12_add_to_bucket_step_iff_reach (h0 : w0.mkt = instantiate t r) (ops : List Op)
    {x id : Nat} {b : Bucket} (funds : List Coin)
    (hb : alookup (x, id) (run w0 ops).mkt.buckets = some b) :
    (step (run w0 ops) (.exec x funds (.addToBucket id))).2.ok = true ↔
      normalizedCheck (.native funds) = true ∧
      (∃ nf, addTokens b.funds (.native funds) = some nf ∧ nf.count ≤ MAX_ASSETS) ∧
      ∀ c ∈ funds, c.amount ≤ lget (run w0 ops).bank (x, c.key) :=
  C12_add_to_bucket_step_iff (closed_wf h0 ops) funds hb

/-- The same with the count spelled out — the bucket's assets plus the new denominations of the
    deposit are at most 25 — when the amounts fit a `Uint128` (`Funds.fits`; see the witness
    below). -/
theorem C12_add_to_bucket_step_iff'_reach (h0 : w0.mkt = instantiate t r) (ops : List Op)
    {x id : Nat} {b : Bucket} {funds : List Coin}
    (hb : alookup (x, id) (run w0 ops).mkt.buckets = some b)
    (hfit : (Funds.native funds).fits b.funds) :
    (step (run w0 ops) (.exec x funds (.addToBucket id))).2.ok = true ↔
      normalizedCheck (.native funds) = true ∧
      b.funds.count + (Funds.native funds).newAssets b.funds ≤ MAX_ASSETS ∧
      ∀ c ∈ funds, c.amount ≤ lget (run w0 ops).bank (x, c.key) :=
  C12_add_to_bucket_step_iff' (closed_wf h0 ops) hb hfit

/-- bucket 8 of account 2; 500 more of denom 2 fit and are accepted, 2001 are not (cannot pay) -/
example : (alookup (2, 8) C12WEx.w.mkt.buckets).map (·.funds) = some ⟨[⟨2, 1000⟩], [], []⟩ ∧
    (Funds.native [⟨2, 500⟩]).fits ⟨[⟨2, 1000⟩], [], []⟩ ∧
    (step C12WEx.w (.exec 2 [⟨2, 500⟩] (.addToBucket 8))).2.ok = true ∧
    (step C12WEx.w (.exec 2 [⟨2, 2001⟩] (.addToBucket 8))).2.ok = false := by
  exact ⟨by decide,
    C12WEx.fits_small (fun k => Nat.le_trans (coinAmt_single_le 2 1000 k) (by decide))
      fun k => Nat.le_trans (coinAmt_single_le 2 500 k) (by decide), by decide, by decide⟩

/-- `Funds.fits` cannot be discharged from reachability, nor from `BoundedInv` + `Op.fits128`: from
    an instantiated marketplace, by a history whose only operation carries a 128-bit amount, a
    state satisfying `BoundedInv` is reached in which bucket 8 of account 2 holds 2^128 − 1 of
    denom 2.  The deposit of one more unit is a 128-bit amount, passes `normalized_check`, adds no
    new asset and is covered by the sender's balance, so the right-hand side of
    `C12_add_to_bucket_step_iff'_reach` holds; but stored + deposited = 2^128 does not fit,
    `add_tokens` aborts and the transaction is refused. -/
example :
    C12REx.w0Big.mkt = instantiate 0 (some 102) ∧ (∀ op ∈ C12REx.opsBig, op.fits128) ∧
    BoundedInv C12REx.wBig.mkt ∧
    (alookup (2, 8) C12REx.wBig.mkt.buckets).map (·.funds) = some ⟨[⟨2, U128MAX⟩], [], []⟩ ∧
    (Op.exec 2 [⟨2, 1⟩] (.addToBucket 8)).fits128 ∧
    ¬ (Funds.native [⟨2, 1⟩]).fits ⟨[⟨2, U128MAX⟩], [], []⟩ ∧
    -- the right-hand side of the primed equivalence holds …
    normalizedCheck (.native [⟨2, 1⟩]) = true ∧
    (⟨[⟨2, U128MAX⟩], [], []⟩ : GBal).count +
      (Funds.native [⟨2, 1⟩]).newAssets ⟨[⟨2, U128MAX⟩], [], []⟩ ≤ MAX_ASSETS ∧
    (∀ c ∈ [(⟨2, 1⟩ : Coin)], c.amount ≤ lget C12REx.wBig.bank (2, c.key)) ∧
    -- … but the transaction is refused: `add_tokens` aborts
    addTokens ⟨[⟨2, U128MAX⟩], [], []⟩ (.native [⟨2, 1⟩]) = none ∧
    (step C12REx.wBig (.exec 2 [⟨2, 1⟩] (.addToBucket 8))).2.ok = false := by
  refine ⟨rfl, by decide, closed_bounded (w0 := C12REx.w0Big) rfl C12REx.opsBig (by decide),
    by decide, by decide, fun h => absurd (h 2) (by decide), by decide, by decide, by decide,
    by decide, by decide⟩

/-- `AddToListing` with coins attached, for the preparing listing stored under `(x, id)` -/
theorem C12_add_to_listing_step_iff_reach (h0 : w0.mkt = instantiate t r) (ops : List Op)
    {x id : Nat} {l : Listing} (funds : List Coin)
    (hl : alookup (x, id) (run w0 ops).mkt.listings = some l) (hs : l.status = .preparing) :
    (step (run w0 ops) (.exec x funds (.addToListing id))).2.ok = true ↔
      normalizedCheck (.native funds) = true ∧
      (∃ nf, addTokens l.forSale (.native funds) = some nf ∧ nf.count ≤ MAX_ASSETS) ∧
      ∀ c ∈ funds, c.amount ≤ lget (run w0 ops).bank (x, c.key) :=
  C12_add_to_listing_step_iff (closed_wf h0 ops) funds hl hs

theorem C12_add_to_listing_step_iff'_reach (h0 : w0.mkt = instantiate t r) (ops : List Op)
    {x id : Nat} {l : Listing} {funds : List Coin}
    (hl : alookup (x, id) (run w0 ops).mkt.listings = some l) (hs : l.status = .preparing)
    (hfit : (Funds.native funds).fits l.forSale) :
    (step (run w0 ops) (.exec x funds (.addToListing id))).2.ok = true ↔
      normalizedCheck (.native funds) = true ∧
      l.forSale.count + (Funds.native funds).newAssets l.forSale ≤ MAX_ASSETS ∧
      ∀ c ∈ funds, c.amount ≤ lget (run w0 ops).bank (x, c.key) :=
  C12_add_to_listing_step_iff' (closed_wf h0 ops) hl hs hfit

/-- listing 3 of account 2 is in preparation; 500 more of denom 2 are accepted, 2001 are not -/
example : (alookup (2, 3) C12WEx.w.mkt.listings).map (fun l => (l.status, l.forSale)) =
      some (.preparing, ⟨[⟨2, 2000⟩], [], []⟩) ∧
    (Funds.native [⟨2, 500⟩]).fits ⟨[⟨2, 2000⟩], [], []⟩ ∧
    (step C12WEx.w (.exec 2 [⟨2, 500⟩] (.addToListing 3))).2.ok = true ∧
    (step C12WEx.w (.exec 2 [⟨2, 2001⟩] (.addToListing 3))).2.ok = false := by
  exact ⟨by decide,
    C12WEx.fits_small (fun k => Nat.le_trans (coinAmt_single_le 2 2000 k) (by decide))
      fun k => Nat.le_trans (coinAmt_single_le 2 500 k) (by decide), by decide, by decide⟩

/-- CW20 `Send` creating a bucket: the token must be an honest CW20 contract that answers
    `TokenInfo`, the amount non-zero and held by the sender, the id legal and never used. -/
theorem C12_send20_create_bucket_step_iff_reach (h0 : w0.mkt = instantiate t r) (ops : List Op)
    (tk x amount id : Nat) :
    (step (run w0 ops) (.send20 tk x amount (some (.createBucket id)))).2.ok = true ↔
      (run w0 ops).isHonest20 tk = true ∧ (run w0 ops).env.isToken20 tk = true ∧ amount ≠ 0 ∧
      amount ≤ lget (run w0 ops).cw20 (tk, x) ∧ id < MAX_SAFE_INT ∧
      id ∉ (run w0 ops).mkt.bucketUsed :=
  C12_send20_create_bucket_step_iff (C09_reach h0 ops) tk x amount id

example : (step C12WEx.w (.send20 50 5 77 (some (.createBucket 9)))).2.ok = true ∧
    (step C12WEx.w (.send20 50 5 78 (some (.createBucket 9)))).2.ok = false ∧
    (step C12WEx.w (.send20 50 5 0 (some (.createBucket 9)))).2.ok = false ∧
    (step C12WEx.w (.send20 50 5 77 (some (.createBucket 8)))).2.ok = false ∧
    (step C12WEx.w (.send20 70 5 77 (some (.createBucket 9)))).2.ok = false := by decide +kernel

theorem C12_send20_create_listing_step_iff_reach (h0 : w0.mkt = instantiate t r) (ops : List Op)
    (tk x amount id : Nat) (c : CreateMsg) :
    (step (run w0 ops) (.send20 tk x amount (some (.createListing id c)))).2.ok = true ↔
      (run w0 ops).isHonest20 tk = true ∧ (run w0 ops).env.isToken20 tk = true ∧ amount ≠ 0 ∧
      amount ≤ lget (run w0 ops).cw20 (tk, x) ∧ id < MAX_SAFE_INT ∧
      id ∉ (run w0 ops).mkt.listingUsed ∧
      (c.whitelist = none ∨ ∃ a, c.whitelist = some (.valid a) ∧ a ≠ x) ∧ AskOK c.ask :=
  C12_send20_create_listing_step_iff (C09_reach h0 ops) tk x amount id c

example : (step C12WEx.w (.send20 50 5 77 (some (.createListing 4 C12WEx.ask)))).2.ok = true ∧
    (step C12WEx.w (.send20 50 5 78 (some (.createListing 4 C12WEx.ask)))).2.ok = false ∧
    (step C12WEx.w (.send20 50 5 77 (some (.createListing 4 ⟨⟨[], [], []⟩, none⟩)))).2.ok = false := by
  decide +kernel

theorem C12_send20_add_to_bucket_step_iff_reach (h0 : w0.mkt = instantiate t r) (ops : List Op)
    {x id : Nat} {b : Bucket} (tk amount : Nat)
    (hb : alookup (x, id) (run w0 ops).mkt.buckets = some b) :
    (step (run w0 ops) (.send20 tk x amount (some (.addToBucket id)))).2.ok = true ↔
      (run w0 ops).isHonest20 tk = true ∧ (run w0 ops).env.isToken20 tk = true ∧ amount ≠ 0 ∧
      amount ≤ lget (run w0 ops).cw20 (tk, x) ∧
      ∃ nf, addTokens b.funds (.cw20 ⟨tk, amount⟩) = some nf ∧ nf.count ≤ MAX_ASSETS :=
  C12_send20_add_to_bucket_step_iff (closed_wf h0 ops) tk amount hb

theorem C12_send20_add_to_bucket_step_iff'_reach (h0 : w0.mkt = instantiate t r) (ops : List Op)
    {tk x amount id : Nat} {b : Bucket} (hb : alookup (x, id) (run w0 ops).mkt.buckets = some b)
    (hfit : (Funds.cw20 ⟨tk, amount⟩).fits b.funds) :
    (step (run w0 ops) (.send20 tk x amount (some (.addToBucket id)))).2.ok = true ↔
      (run w0 ops).isHonest20 tk = true ∧ (run w0 ops).env.isToken20 tk = true ∧ amount ≠ 0 ∧
      amount ≤ lget (run w0 ops).cw20 (tk, x) ∧
      b.funds.count + (Funds.cw20 ⟨tk, amount⟩).newAssets b.funds ≤ MAX_ASSETS :=
  C12_send20_add_to_bucket_step_iff' (closed_wf h0 ops) hb hfit

theorem C12_send20_add_to_listing_step_iff_reach (h0 : w0.mkt = instantiate t r) (ops : List Op)
    {x id : Nat} {l : Listing} (tk amount : Nat)
    (hl : alookup (x, id) (run w0 ops).mkt.listings = some l) (hs : l.status = .preparing) :
    (step (run w0 ops) (.send20 tk x amount (some (.addToListing id)))).2.ok = true ↔
      (run w0 ops).isHonest20 tk = true ∧ (run w0 ops).env.isToken20 tk = true ∧ amount ≠ 0 ∧
      amount ≤ lget (run w0 ops).cw20 (tk, x) ∧
      ∃ nf, addTokens l.forSale (.cw20 ⟨tk, amount⟩) = some nf ∧ nf.count ≤ MAX_ASSETS :=
  C12_send20_add_to_listing_step_iff (closed_wf h0 ops) tk amount hl hs

theorem C12_send20_add_to_listing_step_iff'_reach (h0 : w0.mkt = instantiate t r) (ops : List Op)
    {tk x amount id : Nat} {l : Listing}
    (hl : alookup (x, id) (run w0 ops).mkt.listings = some l) (hs : l.status = .preparing)
    (hfit : (Funds.cw20 ⟨tk, amount⟩).fits l.forSale) :
    (step (run w0 ops) (.send20 tk x amount (some (.addToListing id)))).2.ok = true ↔
      (run w0 ops).isHonest20 tk = true ∧ (run w0 ops).env.isToken20 tk = true ∧ amount ≠ 0 ∧
      amount ≤ lget (run w0 ops).cw20 (tk, x) ∧
      l.forSale.count + (Funds.cw20 ⟨tk, amount⟩).newAssets l.forSale ≤ MAX_ASSETS :=
  C12_send20_add_to_listing_step_iff' (closed_wf h0 ops) hl hs hfit

/-- In `C12WEx.w` the owner 2 of bucket 8 / listing 3 holds no token 50, so its `Send` is refused;
    in `C12REx.wTok`, where 10 tokens are credited to account 2, the `Send` of 10 is accepted, the
    `Send` of 11 is not -/
example :
    C12REx.w0Tok.mkt = instantiate 0 (some 102) ∧
    (alookup (2, 8) C12REx.wTok.mkt.buckets).map (·.funds) = some ⟨[⟨2, 1000⟩], [], []⟩ ∧
    (alookup (2, 3) C12REx.wTok.mkt.listings).map (fun l => (l.status, l.forSale)) =
      some (.preparing, ⟨[⟨2, 2000⟩], [], []⟩) ∧
    (Funds.cw20 ⟨50, 10⟩).fits ⟨[⟨2, 1000⟩], [], []⟩ ∧ (Funds.cw20 ⟨50, 10⟩).fits ⟨[⟨2, 2000⟩], [], []⟩ ∧
    (step C12WEx.w (.send20 50 2 10 (some (.addToBucket 8)))).2.ok = false ∧
    (step C12REx.wTok (.send20 50 2 10 (some (.addToBucket 8)))).2.ok = true ∧
    (step C12REx.wTok (.send20 50 2 11 (some (.addToBucket 8)))).2.ok = false ∧
    (step C12REx.wTok (.send20 50 2 10 (some (.addToListing 3)))).2.ok = true ∧
    (step C12REx.wTok (.send20 50 2 11 (some (.addToListing 3)))).2.ok = false :=
  ⟨rfl, by decide, by decide, (by show coinAmt ([] : List Coin) 50 + 10 ≤ U128MAX; decide),
   (by show coinAmt ([] : List Coin) 50 + 10 ≤ U128MAX; decide), by decide, by decide, by decide,
   by decide, by decide⟩

/-- `SendNft` creating a bucket: the collection must be an honest CW721 contract and the sender
    own the NFT, the id legal and never used. -/
theorem C12_send721_create_bucket_step_iff_reach (h0 : w0.mkt = instantiate t r) (ops : List Op)
    (c x tid id : Nat) :
    (step (run w0 ops) (.send721 c x tid (some (.createBucket id)))).2.ok = true ↔
      (run w0 ops).isHonest721 c = true ∧ alookup (c, tid) (run w0 ops).nft = some x ∧
      id < MAX_SAFE_INT ∧ id ∉ (run w0 ops).mkt.bucketUsed :=
  C12_send721_create_bucket_step_iff (C09_reach h0 ops) c x tid id

example : (step C12WEx.w (.send721 60 2 11 (some (.createBucket 9)))).2.ok = true ∧
    (step C12WEx.w (.send721 60 2 7 (some (.createBucket 9)))).2.ok = false ∧
    (step C12WEx.w (.send721 60 2 11 (some (.createBucket 8)))).2.ok = false := by decide

theorem C12_send721_create_listing_step_iff_reach (h0 : w0.mkt = instantiate t r) (ops : List Op)
    (c x tid id : Nat) (cm : CreateMsg) :
    (step (run w0 ops) (.send721 c x tid (some (.createListing id cm)))).2.ok = true ↔
      (run w0 ops).isHonest721 c = true ∧ alookup (c, tid) (run w0 ops).nft = some x ∧
      id < MAX_SAFE_INT ∧ id ∉ (run w0 ops).mkt.listingUsed ∧
      (cm.whitelist = none ∨ ∃ a, cm.whitelist = some (.valid a) ∧ a ≠ x) ∧ AskOK cm.ask :=
  C12_send721_create_listing_step_iff (C09_reach h0 ops) c x tid id cm

example : (step C12WEx.w (.send721 60 2 11 (some (.createListing 4 C12WEx.ask)))).2.ok = true ∧
    (step C12WEx.w (.send721 60 1 11 (some (.createListing 4 C12WEx.ask)))).2.ok = false := by decide

theorem C12_send721_add_to_bucket_step_iff_reach (h0 : w0.mkt = instantiate t r) (ops : List Op)
    {c x tid id : Nat} {b : Bucket} (hb : alookup (x, id) (run w0 ops).mkt.buckets = some b) :
    (step (run w0 ops) (.send721 c x tid (some (.addToBucket id)))).2.ok = true ↔
      (run w0 ops).isHonest721 c = true ∧ alookup (c, tid) (run w0 ops).nft = some x ∧
      b.funds.count + 1 ≤ MAX_ASSETS ∧ (⟨c, tid⟩ : Nft) ∉ b.funds.nfts :=
  C12_send721_add_to_bucket_step_iff (closed_wf h0 ops) hb

example : (alookup (2, 8) C12WEx.w.mkt.buckets).isSome = true ∧
    (step C12WEx.w (.send721 60 2 11 (some (.addToBucket 8)))).2.ok = true ∧
    (step C12WEx.w (.send721 60 2 7 (some (.addToBucket 8)))).2.ok = false := by decide +kernel

theorem C12_send721_add_to_listing_step_iff_reach (h0 : w0.mkt = instantiate t r) (ops : List Op)
    {c x tid id : Nat} {l : Listing} (hl : alookup (x, id) (run w0 ops).mkt.listings = some l)
    (hs : l.status = .preparing) :
    (step (run w0 ops) (.send721 c x tid (some (.addToListing id)))).2.ok = true ↔
      (run w0 ops).isHonest721 c = true ∧ alookup (c, tid) (run w0 ops).nft = some x ∧
      l.forSale.count + 1 ≤ MAX_ASSETS ∧ (⟨c, tid⟩ : Nft) ∉ l.forSale.nfts :=
  C12_send721_add_to_listing_step_iff (closed_wf h0 ops) hl hs

example : (alookup (2, 3) C12WEx.w.mkt.listings).map (·.status) = some .preparing ∧
    (step C12WEx.w (.send721 60 2 11 (some (.addToListing 3)))).2.ok = true ∧
    (step C12WEx.w (.send721 60 2 7 (some (.addToListing 3)))).2.ok = false := by decide +kernel

/-- "those that keep it are accepted" — and they do keep it: whatever transaction is run from a
    reachable state, a deposit or any other, the records are well-formed afterwards -/
theorem C12_deposit_keeps_wf_reach (h0 : w0.mkt = instantiate t r) (ops : List Op) (op : Op) :
    WFInv (step (run w0 ops) op).1.junoD (step (run w0 ops) op).1.usdcD
      (step (run w0 ops) op).1.mkt :=
  C12_inv_step op (closed_wf h0 ops)

example : (step C12WEx.w (.exec 2 [⟨2, 500⟩] (.addToBucket 8))).2.ok = true := by decide

end

#print axioms C12_inv_execute_reach
#print axioms C12_listing_consistent_reach
#print axioms C12_changeAsk_iff_reach
#print axioms C12_create_bucket_iff_reach
#print axioms C12_create_bucket_nft_iff_reach
#print axioms C12_create_listing_iff_reach
#print axioms C12_create_listing_nft_iff_reach
#print axioms C12_topup_bucket_exact_reach
#print axioms C12_topup_bucket_iff_reach
#print axioms C12_topup_bucket_iff'_reach
#print axioms C12_topup_listing_exact_reach
#print axioms C12_topup_listing_iff_reach
#print axioms C12_topup_listing_iff'_reach
#print axioms C12_topup_bucket_nft_iff_reach
#print axioms C12_topup_listing_nft_iff_reach
#print axioms C12_payable_reach
#print axioms C12_payouts_wellFormed_reach
#print axioms C12_msgs_wellFormed_reach
#print axioms C12_msgs_wellFormed_step_reach
#print axioms C12_create_bucket_step_iff_reach
#print axioms C12_create_listing_step_iff_reach
#print axioms C12_add_to_bucket_step_iff_reach
#print axioms C12_add_to_bucket_step_iff'_reach
#print axioms C12_add_to_listing_step_iff_reach
#print axioms C12_add_to_listing_step_iff'_reach
#print axioms C12_send20_create_bucket_step_iff_reach
#print axioms C12_send20_create_listing_step_iff_reach
#print axioms C12_send20_add_to_bucket_step_iff_reach
#print axioms C12_send20_add_to_bucket_step_iff'_reach
#print axioms C12_send20_add_to_listing_step_iff_reach
#print axioms C12_send20_add_to_listing_step_iff'_reach
#print axioms C12_send721_create_bucket_step_iff_reach
#print axioms C12_send721_create_listing_step_iff_reach
#print axioms C12_send721_add_to_bucket_step_iff_reach
#print axioms C12_send721_add_to_listing_step_iff_reach
#print axioms C12_deposit_keeps_wf_reach

end Fuzion
