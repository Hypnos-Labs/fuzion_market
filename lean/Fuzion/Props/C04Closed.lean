/-
  Fuzion.Props.C04Closed — the authorization theorems of Props/C04.lean for every state
  `run w0 ops` with `w0.mkt = instantiate t r` and `ops` arbitrary: `IdsInv` (resp. `wfListing` of the
  listing looked at) is discharged by `C09_reach` (`C12_reach`).  What remains are hypotheses about
  the input of the probed operation: which record it is aimed at, and that the account it acts for
  is not the record's owner.  Nothing about the initial world other than its marketplace record is
  assumed (balances, token contracts, registry, clock are arbitrary).
-/
import Fuzion.Props.C04
import Fuzion.Lemmas.ClosedLemmas
import Fuzion.Lemmas.AcctLemmas
namespace Fuzion

/-! ### sample reachable state for the examples

From the sample deployment `AcctEx.w0`, the first five operations of `AcctEx.ops`
(Lemmas/AcctLemmas.lean): seller 1's listing 3 is finalized, buyer 2 has created bucket 8. -/

namespace C04CEx
def ops : List Op := AcctEx.ops.take 5
def w : World := run AcctEx.w0 ops
end C04CEx

example : AcctEx.w0.mkt = instantiate 0 (some 102) := rfl
example : C04CEx.w.mkt.listings.map (fun p => (p.1, p.2.creator, p.2.status)) =
    [((1, 3), 1, .finalized)] ∧ C04CEx.w.mkt.buckets.map (fun p => (p.1, p.2.owner)) = [((2, 8), 2)] := by
  decide +kernel

/-- "No message sent by an account … can alter, re-price, finalize, delete, top up … a listing
    … that the account does not currently own", in every reachable state: the five owner-only
    listing handlers, called on behalf of anybody but the creator of the listing stored under
    `id`, are refused. -/
theorem C04_refused_listing_reach {w0 : World} {t : Nat} {r : Option Nat}
    (h0 : w0.mkt = instantiate t r) (ops : List Op) {env : Env} {s id : Nat} {k : Nat × Nat}
    {l : Listing} (hf : findById id (run w0 ops).mkt.listings = some (k, l)) (hs : s ≠ l.creator) :
    (∀ a, changeAsk (run w0 ops).mkt s id a = .error .notFound) ∧
    (∀ secs, finalize (run w0 ops).mkt env s id secs = .error .notFound) ∧
    deleteListing (run w0 ops).mkt env s id = .error .notFound ∧
    (∀ funds, addToListing (run w0 ops).mkt funds s id = .error .badFunds ∨
              addToListing (run w0 ops).mkt funds s id = .error .notFound) ∧
    (∀ nft, addToListingNft (run w0 ops).mkt s nft id = .error .notFound) :=
  C04_refused_listing (C09_reach h0 ops) hf hs

/-- listing 3 of the sample state belongs to 1; account 9 is somebody else -/
example : (findById 3 C04CEx.w.mkt.listings).map (fun p => (p.1, p.2.creator)) = some ((1, 3), 1) ∧
    (9 : Nat) ≠ 1 := by decide +kernel

/-- "… or release assets from a listing", in every reachable state: the claimant of a listing is
    its current owner (`wfListing`, from `C12_reach`), so a non-owner's withdrawal is refused. -/
theorem C04_refused_withdraw_wf_reach {w0 : World} {t : Nat} {r : Option Nat}
    (h0 : w0.mkt = instantiate t r) (ops : List Op) {env : Env} {s id : Nat} {k : Nat × Nat}
    {l : Listing} (hf : findById id (run w0 ops).mkt.listings = some (k, l)) (hs : s ≠ l.creator) :
    withdrawPurchased (run w0 ops).mkt env s id = .error .notClaimant :=
  C04_refused_withdraw_wf ((C12_reach h0 ops).lwf (k, l) (findById_some hf).2) hf hs

example : (step C04CEx.w (.exec 9 [] (.withdrawPurchased 3))).2.ok = false := by decide +kernel

/-- "… top up or release assets from a … bucket that the account does not currently own", in
    every reachable state: the bucket handlers, called on behalf of anybody but the owner of
    bucket `id`, are refused, and nobody can pay for a purchase with somebody else's bucket. -/
theorem C04_refused_bucket_reach {w0 : World} {t : Nat} {r : Option Nat}
    (h0 : w0.mkt = instantiate t r) (ops : List Op) {env : Env} {s id : Nat} {k : Nat × Nat}
    {b : Bucket} (hb : (k, b) ∈ (run w0 ops).mkt.buckets) (hk : k.2 = id) (hs : s ≠ k.1) :
    (∀ funds, addToBucket (run w0 ops).mkt funds s id = .error .badFunds ∨
              addToBucket (run w0 ops).mkt funds s id = .error .notFound) ∧
    (∀ nft, addToBucketNft (run w0 ops).mkt s nft id = .error .notFound) ∧
    withdrawBucket (run w0 ops).mkt env s id = .error .notFound ∧
    (∀ lid, buy (run w0 ops).mkt env s lid id = .error .noBucket) :=
  C04_refused_bucket (C09_reach h0 ops) hb hk hs

/-- bucket 8 of the sample state is filed under (2, 8) -/
example : ((2, 8), (⟨2, ⟨[⟨2, 2000⟩], [], []⟩, none⟩ : Bucket)) ∈ C04CEx.w.mkt.buckets ∧
    (9 : Nat) ≠ 2 := by decide +kernel

/-- `C04_refused_listing_reach` through the entry point: whatever the sender, the attached coins
    and the message kind — direct, or wrapped in a CW20 / CW721 receive hook that names the wallet
    `actor msg s` — an owner-only message aimed at listing `id` on behalf of a non-owner fails in
    every reachable state. -/
theorem C04_execute_refused_listing_reach {w0 : World} {t : Nat} {r : Option Nat}
    (h0 : w0.mkt = instantiate t r) (ops : List Op) {env : Env} {s id : Nat} {f : List Coin}
    {msg : ExecMsg} {k : Nat × Nat} {l : Listing}
    (hf : findById id (run w0 ops).mkt.listings = some (k, l)) (ht : msg.listingTarget = some id)
    (hs : actor msg s ≠ l.creator) : ∃ e, execute (run w0 ops).mkt env s f msg = .error e :=
  C04_execute_refused_listing (C09_reach h0 ops) hf ht hs

example : (ExecMsg.receive (.valid 9) 5 (some (.addToListing 3))).listingTarget = some 3 ∧
    actor (.receive (.valid 9) 5 (some (.addToListing 3))) 50 ≠ 1 := by decide

/-- `C04_refused_bucket_reach` through the entry point (top up, remove, pay with it; direct or
    through a receive hook), in every reachable state. -/
theorem C04_execute_refused_bucket_reach {w0 : World} {t : Nat} {r : Option Nat}
    (h0 : w0.mkt = instantiate t r) (ops : List Op) {env : Env} {s id : Nat} {f : List Coin}
    {msg : ExecMsg} {k : Nat × Nat} {b : Bucket} (hb : (k, b) ∈ (run w0 ops).mkt.buckets)
    (hk : k.2 = id) (ht : msg.bucketTarget = some id) (hs : actor msg s ≠ k.1) :
    ∃ e, execute (run w0 ops).mkt env s f msg = .error e :=
  C04_execute_refused_bucket (C09_reach h0 ops) hb hk ht hs

example : (ExecMsg.buy 3 8).bucketTarget = some 8 ∧ actor (.buy 3 8) 9 ≠ 2 := by decide

/-- "The only effect a non-owner can have is a valid purchase …", in every reachable state:
    after any accepted message, every listing key that does not belong to the wallet the message
    acts for holds exactly what it held before — except that a purchase removes the bought
    (finalized) listing from its seller's key `(seller, lid)`; it reappears, closed and claimed,
    under the buyer's key `(s, lid)`. -/
theorem C04_frame_listings_reach {w0 : World} {t : Nat} {r : Option Nat}
    (h0 : w0.mkt = instantiate t r) (ops : List Op) {m' : Market} {env : Env} {s : Nat}
    {f : List Coin} {msg : ExecMsg} {out : List OutMsg}
    (hx : execute (run w0 ops).mkt env s f msg = .ok (m', out))
    (k : Nat × Nat) (hk : k.1 ≠ actor msg s) :
    alookup k m'.listings = alookup k (run w0 ops).mkt.listings ∨
    ∃ lid bid l l', msg = .buy lid bid ∧ k = (l.creator, lid) ∧
      alookup k (run w0 ops).mkt.listings = some l ∧
      l.status = .finalized ∧ l.claimant = none ∧ alookup k m'.listings = none ∧
      alookup (s, lid) m'.listings = some l' ∧ l'.status = .closed ∧ l'.claimant = some s ∧
      l'.ask = l.ask :=
  C04_frame_listings (C09_reach h0 ops) hx k hk

/-- the purchase by 2 is accepted in the sample state (`errOf … = none`: the handler returned
    `.ok`); key (1, 3) is not the buyer's -/
example : C12Ex.errOf (execute C04CEx.w.mkt C04CEx.w.env 2 [] (.buy 3 8)) = none ∧
    ((1, 3) : Nat × Nat).1 ≠ actor (.buy 3 8) 2 := by decide +kernel

/-- "… which exchanges the listing for the buyer's own bucket", in every reachable state: after
    any accepted message, every bucket key that does not belong to the wallet the message acts for
    holds exactly what it held before — except that a purchase files the buyer's paying bucket
    `bid` under the seller's key `(seller, bid)`, which was free before. -/
theorem C04_frame_buckets_reach {w0 : World} {t : Nat} {r : Option Nat}
    (h0 : w0.mkt = instantiate t r) (ops : List Op) {m' : Market} {env : Env} {s : Nat}
    {f : List Coin} {msg : ExecMsg} {out : List OutMsg}
    (hx : execute (run w0 ops).mkt env s f msg = .ok (m', out))
    (k : Nat × Nat) (hk : k.1 ≠ actor msg s) :
    alookup k m'.buckets = alookup k (run w0 ops).mkt.buckets ∨
    ∃ lid bid kl l b', msg = .buy lid bid ∧ findById lid (run w0 ops).mkt.listings = some (kl, l) ∧
      k = (l.creator, bid) ∧ alookup k (run w0 ops).mkt.buckets = none ∧
      alookup k m'.buckets = some b' ∧ b'.owner = l.creator ∧ alookup (s, bid) m'.buckets = none :=
  C04_frame_buckets (C09_reach h0 ops) hx k hk

example : C12Ex.errOf (execute C04CEx.w.mkt C04CEx.w.env 2 [] (.buy 3 8)) = none ∧
    ((1, 8) : Nat × Nat).1 ≠ actor (.buy 3 8) 2 := by decide +kernel

/-- "such messages fail and leave all state and balances untouched", in every reachable state:
    the owner-only listing messages of a non-owner as transactions — direct, through an honest
    token's `Send` / `SendNft`, or forged — fail, and the world is untouched. -/
theorem C04_step_refused_listing_reach {w0 : World} {t : Nat} {r : Option Nat}
    (h0 : w0.mkt = instantiate t r) (ops : List Op) {op : Op} {c id : Nat} {f : List Coin}
    {msg : ExecMsg} {k : Nat × Nat} {l : Listing}
    (hf : findById id (run w0 ops).mkt.listings = some (k, l))
    (ho : op.asExec = some (c, f, msg)) (ht : msg.listingTarget = some id)
    (hs : actor msg c ≠ l.creator) :
    (step (run w0 ops) op).2.ok = false ∧ (step (run w0 ops) op).1 = run w0 ops :=
  C04_step_refused_listing (C09_reach h0 ops) hf ho ht hs

/-- account 5 (77 of token 50) tries to top up seller 1's listing 3 through the honest token's
    `Send`; the operation meets the hypotheses and is indeed refused -/
example : (Op.send20 50 5 7 (some (.addToListing 3))).asExec =
      some (50, [], .receive (.valid 5) 7 (some (.addToListing 3))) ∧
    (ExecMsg.receive (.valid 5) 7 (some (.addToListing 3))).listingTarget = some 3 ∧
    actor (.receive (.valid 5) 7 (some (.addToListing 3))) 50 ≠ 1 ∧
    (step C04CEx.w (.send20 50 5 7 (some (.addToListing 3)))).2.ok = false := by decide +kernel

/-- the owner-only bucket messages of a non-owner as transactions, in every reachable state -/
theorem C04_step_refused_bucket_reach {w0 : World} {t : Nat} {r : Option Nat}
    (h0 : w0.mkt = instantiate t r) (ops : List Op) {op : Op} {c id : Nat} {f : List Coin}
    {msg : ExecMsg} {k : Nat × Nat} {b : Bucket} (hb : (k, b) ∈ (run w0 ops).mkt.buckets)
    (hk : k.2 = id) (ho : op.asExec = some (c, f, msg)) (ht : msg.bucketTarget = some id)
    (hs : actor msg c ≠ k.1) :
    (step (run w0 ops) op).2.ok = false ∧ (step (run w0 ops) op).1 = run w0 ops :=
  C04_step_refused_bucket (C09_reach h0 ops) hb hk ho ht hs

/-- seller 1 tries to remove buyer 2's bucket 8 -/
example : (Op.exec 1 [] (.removeBucket 8)).asExec = some (1, [], .removeBucket 8) ∧
    (ExecMsg.removeBucket 8).bucketTarget = some 8 ∧ actor (.removeBucket 8) 1 ≠ 2 ∧
    (step C04CEx.w (.exec 1 [] (.removeBucket 8))).2.ok = false := by decide +kernel
/-- … while the owner's own message is accepted (the refusals are not vacuous refusals) -/
example : (step C04CEx.w (.exec 2 [] (.removeBucket 8))).2.ok = true := by decide +kernel

/-- The statement of C04's quantifier in one piece: **for every reachable state, every existing
    listing and every account that is not its owner**, each owner-only message kind aimed at it —
    re-price, finalize, delete, top up with coins, withdraw as purchased; sent directly, through
    an honest token's `Send` / `SendNft`, or by a forged hook call — fails and leaves the whole
    world (all state and all balances) untouched. -/
theorem C04_non_owner_listing_reach {w0 : World} {t : Nat} {r : Option Nat}
    (h0 : w0.mkt = instantiate t r) (ops : List Op) {k : Nat × Nat} {l : Listing}
    (hm : (k, l) ∈ (run w0 ops).mkt.listings) {x : Nat} (hx : x ≠ l.creator) :
    (∀ op c f msg, op.asExec = some (c, f, msg) → msg.listingTarget = some l.id →
      actor msg c = x →
      (step (run w0 ops) op).2.ok = false ∧ (step (run w0 ops) op).1 = run w0 ops) ∧
    (step (run w0 ops) (.exec x [] (.withdrawPurchased l.id))).2.ok = false ∧
    (step (run w0 ops) (.exec x [] (.withdrawPurchased l.id))).1 = run w0 ops := by
  have hI := C09_reach h0 ops
  have hf : findById l.id (run w0 ops).mkt.listings = some (k, l) :=
    hI.findById_iff.2 ⟨hm, rfl⟩
  refine ⟨fun op c f msg ho ht ha => C04_step_refused_listing hI hf ho ht (ha ▸ hx), ?_⟩
  have he := C04_refused_withdraw_wf_reach h0 ops (env := (run w0 ops).env) hf hx
  exact stepF_refused (op := .exec x [] (.withdrawPurchased l.id)) rfl he

/-- listing 3 is stored in the sample state and 9 is not its creator -/
example : ∃ k l, (k, l) ∈ C04CEx.w.mkt.listings ∧ l.id = 3 ∧ (9 : Nat) ≠ l.creator :=
  ⟨(1, 3), _, List.mem_cons_self .., rfl, by decide⟩

/-- … and likewise **for every reachable state, every existing bucket and every account that is
    not its owner**: top up, remove, pay with it — directly or through a hook — fails and leaves
    the world untouched. -/
theorem C04_non_owner_bucket_reach {w0 : World} {t : Nat} {r : Option Nat}
    (h0 : w0.mkt = instantiate t r) (ops : List Op) {k : Nat × Nat} {b : Bucket}
    (hm : (k, b) ∈ (run w0 ops).mkt.buckets) {x : Nat} (hx : x ≠ b.owner) :
    ∀ op c f msg, op.asExec = some (c, f, msg) → msg.bucketTarget = some k.2 →
      actor msg c = x →
      (step (run w0 ops) op).2.ok = false ∧ (step (run w0 ops) op).1 = run w0 ops := by
  have hI := C09_reach h0 ops
  intro op c f msg ho ht ha
  refine C04_step_refused_bucket hI hm rfl ho ht ?_
  rw [ha, hI.bfiled _ hm]
  exact hx

example : ∃ k b, (k, b) ∈ C04CEx.w.mkt.buckets ∧ k.2 = 8 ∧ (9 : Nat) ≠ b.owner :=
  ⟨(2, 8), _, List.mem_cons_self .., rfl, by decide⟩

#print axioms C04_refused_listing_reach
#print axioms C04_refused_withdraw_wf_reach
#print axioms C04_refused_bucket_reach
#print axioms C04_execute_refused_listing_reach
#print axioms C04_execute_refused_bucket_reach
#print axioms C04_frame_listings_reach
#print axioms C04_frame_buckets_reach
#print axioms C04_step_refused_listing_reach
#print axioms C04_step_refused_bucket_reach
#print axioms C04_non_owner_listing_reach
#print axioms C04_non_owner_bucket_reach

end Fuzion
