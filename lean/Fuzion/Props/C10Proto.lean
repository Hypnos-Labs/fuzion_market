/-
  Fuzion.Props.C10Proto — byte-level contract of the community-pool message
  (`GetComPoolMsg::get_cp_msg`, state.rs; encoder = anybuf 0.1.0).

  Part of property C10: "… deposited … by a well-formed fund-community-pool message whose
  depositor is the marketplace and whose amount is the recorded fee".  The handlers of the model
  emit the abstract `OutMsg.fundPool depositor coin`; the theorems below say that the bytes the
  Rust puts into the Stargate `value` (modelled by `Proto.encodeFund`) determine exactly one
  `(denom, amount, depositor)` triple and that a reference protobuf reader (`Proto.decodeFund`)
  gets that triple back, with the decimal amount string denoting the recorded amount.
  Denominations and addresses are arbitrary byte strings here: the model's `OutMsg.fundPool` keeps
  them as numbers and no map from those to bytes is modelled.
-/
import Fuzion.Lemmas.ProtoLemmas
namespace Fuzion

/-- anybuf's own unit test `append_bytes(2, "testing") = [0x12, 0x07, 0x74, …]`. -/
example : Proto.field 2 [0x74, 0x65, 0x73, 0x74, 0x69, 0x6e, 0x67] =
    [0x12, 0x07, 0x74, 0x65, 0x73, 0x74, 0x69, 0x6e, 0x67] := by
  simp [Proto.field, Proto.varint_lt]

/-- anybuf: empty data appends nothing. -/
example : Proto.field 2 [] = [] := by simp

/-- a two-byte varint (`300 = 0b10_0101100` → `AC 02`, the protobuf documentation example) -/
example : Proto.varint 300 = [0xAC, 0x02] := by
  rw [Proto.varint_ge (by decide), Proto.varint_lt (by decide)]

/-- `Uint128::to_string` of 1000000 -/
example : Proto.digits 1000000 = [49, 48, 48, 48, 48, 48, 48] := by decide

/-- C10 "well-formed … message": the varints written by `varint_encode`, multi-byte ones
    included -/
theorem Proto.readVarint_varint (n : Nat) (rest : List Nat) :
    Proto.readVarint (Proto.varint n ++ rest) = some (n, rest) := by
  induction n using Proto.varint.induct with
  | case1 n h => rw [Proto.varint_lt h, List.singleton_append, Proto.readVarint, if_pos h]
  | case2 n h ih =>
    rw [Proto.varint_ge h, List.cons_append, Proto.readVarint, if_neg (by omega), ih]
    show some (n % 128 + 128 - 128 + 128 * (n / 128), rest) = _
    rw [Nat.add_sub_cancel, Nat.mod_add_div]

/-- C10 "well-formed … message".  `data ≠ []`: anybuf's `append_bytes` omits empty fields, so
    nothing would be there to read; every field number, not only 1 and 2: the reader decodes a
    multi-byte tag too. -/
theorem Proto.readField_field {num : Nat} {data : List Nat} (rest : List Nat) (h : data ≠ []) :
    Proto.readField (Proto.field num data ++ rest) = some (num, data, rest) := by
  -- the tag is read back; its wire type is `(num * 8 + 2) % 8 = 2`; the length is read back
  rw [Proto.field_of_ne_nil h, List.append_assoc, List.append_assoc, Proto.readField,
    Proto.readVarint_varint]
  dsimp only
  rw [if_neg (by omega), Proto.readVarint_varint]
  dsimp only
  -- `data ++ rest` is not shorter than `data`, `take` / `drop` split it where it was joined, and
  -- the field number is `(8 * num + 2) / 8 = num + 2 / 8`
  rw [if_neg (by simp), List.take_left, List.drop_left, Nat.mul_comm, Nat.mul_add_div (by decide)]
  rfl

theorem Proto.readField_field_nil {num : Nat} {data : List Nat} (h : data ≠ []) :
    Proto.readField (Proto.field num data) = some (num, data, []) := by
  rw [← List.append_nil (Proto.field num data), Proto.readField_field _ h]

/-- hypothesis of `readField_field`: a 200-byte payload (two-byte length varint). -/
example : (List.replicate 200 97 : List Nat) ≠ [] := by decide

/-- and the hypothesis is necessary: with empty data the field is absent and reading fails -/
example : Proto.readField (Proto.field 1 [] ++ []) = none := by
  simp [Proto.readField, Proto.readVarint]

theorem Proto.decodeCoin_encodeCoin {denom amount : List Nat} (hd : denom ≠ []) (ha : amount ≠ []) :
    Proto.decodeCoin (Proto.encodeCoin denom amount) = some (denom, amount) := by
  simp only [Proto.decodeCoin, Proto.encodeCoin, Proto.readField_field _ hd, Proto.readField_field_nil ha]

/-- C10 "a well-formed fund-community-pool message whose depositor is the marketplace and whose
    amount is the recorded fee": the bytes `get_cp_msg` produces decode, as a
    `MsgFundCommunityPool { repeated Coin amount = 1; string depositor = 2 }` with exactly one
    `Coin { denom = 1; amount = 2 }`, to the very denomination, amount string and depositor that
    were encoded.  Arbitrary byte lists: no bound on lengths. -/
theorem Proto.roundtrip {denom amount dep : List Nat}
    (hd : denom ≠ []) (ha : amount ≠ []) (hp : dep ≠ []) :
    Proto.decodeFund (Proto.encodeFund denom amount dep) = some (denom, amount, dep) := by
  simp only [Proto.decodeFund, Proto.encodeFund, Proto.readField_field _ (Proto.encodeCoin_ne_nil amount hd),
    Proto.decodeCoin_encodeCoin hd ha, Proto.readField_field_nil hp]

/-- hypotheses of `roundtrip`: "ujuno", "1000000", "juno1" are non-empty. -/
example : ([117, 106, 117, 110, 111] : List Nat) ≠ [] ∧ Proto.digits 1000000 ≠ [] ∧
    ([106, 117, 110, 111, 49] : List Nat) ≠ [] := by decide

/-- the round trip instantiated with a 200-byte denomination (two-byte length varints for the
    denomination and for the embedded coin) -/
example : Proto.decodeFund (Proto.encodeFund (List.replicate 200 97) (Proto.digits 1000000) [106]) =
    some (List.replicate 200 97, Proto.digits 1000000, [106]) :=
  Proto.roundtrip (by decide) (by decide) (by decide)

/-- the bytes of the message for 1000000 "ujuno" from "juno1":
    `0A 10 (0A 05 "ujuno" 12 07 "1000000") 12 05 "juno1"` -/
example : Proto.encodeFund [117, 106, 117, 110, 111] (Proto.digits 1000000) [106, 117, 110, 111, 49] =
    [0x0A, 0x10, 0x0A, 0x05, 117, 106, 117, 110, 111, 0x12, 0x07, 49, 48, 48, 48, 48, 48, 48,
     0x12, 0x05, 106, 117, 110, 111, 49] := by
  have hd : Proto.digits 1000000 = [49, 48, 48, 48, 48, 48, 48] := by decide
  simp [hd, Proto.encodeFund, Proto.encodeCoin, Proto.field, Proto.varint_lt]

-- distinct amounts print differently
example : Proto.digits 42 = Proto.digits 42 ∧ Proto.digits 42 ≠ Proto.digits 420 := by decide

/-- C10 "whose depositor is the marketplace and whose amount is the recorded fee": decoding the
    message built for the fee `a` in denomination `denom` on behalf of `dep` yields `denom`,
    `dep`, and a string of ASCII digits whose value is `a`. -/
theorem C10_wire {denom dep : List Nat} (a : Nat) (hd : denom ≠ []) (hp : dep ≠ []) :
    ∃ ds, Proto.decodeFund (Proto.encodeFund denom (Proto.digits a) dep) = some (denom, ds, dep) ∧
      Proto.ofDigits ds = a ∧ ds ≠ [] ∧ ∀ d ∈ ds, 48 ≤ d ∧ d ≤ 57 :=
  ⟨Proto.digits a, Proto.roundtrip hd (Proto.digits_ne_nil a) hp, Proto.ofDigits_digits a,
    Proto.digits_ne_nil a, Proto.digits_ascii a⟩

example : ([117, 106, 117, 110, 111] : List Nat) ≠ [] ∧ ([106, 117, 110, 111, 49] : List Nat) ≠ [] := by
  decide

/-- C10 "a well-formed … message": the reader is a left inverse (`roundtrip`), so the bytes
    determine the three strings -/
theorem Proto.encodeFund_injective {d a p d' a' p' : List Nat}
    (hd : d ≠ []) (ha : a ≠ []) (hp : p ≠ []) (hd' : d' ≠ []) (ha' : a' ≠ []) (hp' : p' ≠ [])
    (h : Proto.encodeFund d a p = Proto.encodeFund d' a' p') : d = d' ∧ a = a' ∧ p = p' := by
  have h1 := Proto.roundtrip hd ha hp
  rw [h, Proto.roundtrip hd' ha' hp'] at h1
  simp only [Option.some.injEq, Prod.mk.injEq] at h1
  exact ⟨h1.1.symm, h1.2.1.symm, h1.2.2.symm⟩

-- hypotheses of `encodeFund_injective`
example : ([117] : List Nat) ≠ [] ∧ ([49, 48] : List Nat) ≠ [] ∧ ([106] : List Nat) ≠ [] ∧
    Proto.encodeFund [117] [49, 48] [106] = Proto.encodeFund [117] [49, 48] [106] := by
  refine ⟨by decide, by decide, by decide, rfl⟩

/-- the same with the amount as a number, as `OutMsg.fundPool` carries it: the bytes determine the
    denomination, the numeric amount and the depositor. -/
theorem C10_wire_injective {d p d' p' : List Nat} {a a' : Nat}
    (hd : d ≠ []) (hp : p ≠ []) (hd' : d' ≠ []) (hp' : p' ≠ [])
    (h : Proto.encodeFund d (Proto.digits a) p = Proto.encodeFund d' (Proto.digits a') p') :
    d = d' ∧ a = a' ∧ p = p' := by
  have := Proto.encodeFund_injective hd (Proto.digits_ne_nil a) hp hd' (Proto.digits_ne_nil a') hp' h
  exact ⟨this.1, Proto.digits_injective this.2.1, this.2.2⟩

example : ([117] : List Nat) ≠ [] ∧ ([106] : List Nat) ≠ [] ∧
    Proto.encodeFund [117] (Proto.digits 7) [106] = Proto.encodeFund [117] (Proto.digits 7) [106] := by
  refine ⟨by decide, by decide, rfl⟩

theorem Proto.encodeFund_bytes {denom amount dep : List Nat}
    (hd : ∀ b ∈ denom, b < 256) (ha : ∀ b ∈ amount, b < 256) (hp : ∀ b ∈ dep, b < 256) :
    ∀ b ∈ Proto.encodeFund denom amount dep, b < 256 := by
  rw [Proto.encodeFund, List.forall_mem_append]
  refine ⟨Proto.field_bytes ?_, Proto.field_bytes hp⟩
  rw [Proto.encodeCoin, List.forall_mem_append]
  exact ⟨Proto.field_bytes hd, Proto.field_bytes ha⟩

example : (∀ b ∈ ([117, 106] : List Nat), b < 256) ∧ (∀ b ∈ Proto.digits 255, b < 256) := by decide

#print axioms Proto.readVarint_varint
#print axioms Proto.readField_field
#print axioms Proto.roundtrip
#print axioms Proto.digits_ne_nil
#print axioms Proto.ofDigits_digits
#print axioms Proto.digits_ascii
#print axioms Proto.digits_injective
#print axioms C10_wire
#print axioms Proto.encodeFund_injective
#print axioms C10_wire_injective
#print axioms Proto.encodeFund_bytes
#print axioms Proto.readField_field_nil
#print axioms Proto.decodeCoin_encodeCoin

end Fuzion
