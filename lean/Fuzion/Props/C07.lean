/-
  Fuzion.Props.C07 — "Nothing gets stuck: every escrowed asset is always recoverable".

  Property text:  From every reachable state each record can be cashed out by its entitled party
  with a single message: an unfinalized listing by its creator at once, a finalized unsold listing
  by its creator once expired, a sold listing by its buyer at once, a bucket by its current owner
  at once.  After all parties do so the marketplace holds no assets and no records remain.

  Three levels.  Handler: under the storage invariants `IdsInv` (C09) and `WFInv` (C12) the exit
  message of the entitled party is accepted, removes exactly that record and emits exactly the
  record's payout messages.  Chain: the bank and the token contracts accept every message of a
  payout list if the marketplace holds what the list names (`withdraw_dispatch_ok`,
  Lemmas/ExitLemmas.lean).  World: under the run-level invariant `C01Inv` (C01) the whole transaction
  succeeds — its part `backed`, "held = promised", is what makes the payout affordable
  (`Backed.covers`), and the pending fee is part of "promised", which is why the closing fee deposit
  is covered even when its denomination coincides with one of the goods just sent.  Draining is one
  exit message per record, listings first, then buckets.  "From every reachable state": the
  hypotheses of the world level (`Reach`) hold after every history, started in a clean state, whose
  operations are not signed by the marketplace (`Op.avoids`) and contain no *direct* call of a
  receive hook (`Op.unforged`; such a call is the forgery of finding C18).

  Side condition (finding C18, known): a record may contain an "asset" of a hostile contract,
  recorded through a forged `Receive` / `ReceiveNft` call.  Such a contract can reject the transfer
  and thereby block the exit of *that* record — that is exactly the known defect, not a gap of
  this proof.  The world-level theorems therefore assume `HonestAssets w g` for the record's
  balance `g` (Lemmas/ExitLemmas.lean: every CW20 entry names an honest token, every NFT an honest
  collection).  Records holding only native coins satisfy it trivially (`C07_honest_native_only`).
-/
import Fuzion.Lemmas.ExitLemmas
import Fuzion.Props.C01Closed
namespace Fuzion

/-! ## sample data for the non-vacuity examples -/

namespace C07Ex

/-- a preparing listing of account 1 (id 3): 1000 of denom 1 and 5 of the honest token 50 -/
def lPrep : Listing := newListing 1 3 none ⟨[⟨1, 1000⟩], [⟨50, 5⟩], []⟩ ⟨[⟨2, 2000⟩], [], []⟩
/-- a finalized listing of account 1 (id 4) that expired at 700·10⁹ -/
def lFin : Listing :=
  { lPrep with id := 4, finalizedAt := some (100 * NS), expiresAt := some (700 * NS), status := .finalized,
               forSale := ⟨[⟨2, 10⟩], [], [⟨60, 7⟩]⟩ }
/-- a sold listing now owned by account 2 (id 5), with a pending fee in denom 1 -/
def lSold : Listing :=
  { lFin with creator := 2, id := 5, status := .closed, claimant := some 2, fee := some ⟨1, 5⟩,
              forSale := ⟨[⟨1, 995⟩], [], []⟩ }
/-- a bucket of account 2 (id 8) with a pending fee in denom 2 -/
def bkt : Bucket := ⟨2, ⟨[⟨2, 2000⟩], [], []⟩, some ⟨2, 10⟩⟩

def mkt : Market :=
  { listings := [((1, 3), lPrep), ((1, 4), lFin), ((2, 5), lSold)], buckets := [((2, 8), bkt)],
    listingUsed := [5, 4, 3, 0], bucketUsed := [8, 0], feeKind := .juno, feeSince := 0, registry := some 9 }

/-- marketplace 100, pool 101; token 50 honest CW20, collection 60 honest CW721; now = 800·10⁹
    (`ContractInfo`, Model/Chain.lean) -/
def w : World :=
  { self := 100, pool := 101, regAddr := 9, junoD := 1, usdcD := 2, nowNs := 800 * NS, height := 10,
    mkt := mkt, reg := [],
    bank := [((100, 1), 2000), ((100, 2), 2020), ((1, 1), 7)],
    cw20 := [((50, 100), 5)], nft := [((60, 7), 100)],
    contracts := [(50, ⟨none, 1, true, false⟩), (60, ⟨none, 2, false, false⟩), (9, ⟨none, 0, false, false⟩)] }

theorem ids : IdsInv mkt := by constructor <;> decide +kernel
theorem wf : WFInv 1 2 mkt := by constructor <;> decide

end C07Ex

/-! ## handler level -/

section handler
variable {m : Market} {j u : Nat} {env : Env}

/-- the first two of the four cases -/
theorem C07_delete_ok (hI : IdsInv m) (hW : WFInv j u m) {k : Nat × Nat} {l : Listing}
    (hm : (k, l) ∈ m.listings) (hc : l.claimant = none)
    (he : ∀ e, l.expiresAt = some e → e ≤ env.nowNs) :
    deleteListing m env l.creator l.id =
      .ok ({ m with listings := aerase k m.listings }, sendTokens l.creator l.forSale) := by
  have hwf : wfListing j u k l = true := hW.lwf (k, l) hm
  obtain rfl := (wfListing_iff.1 hwf).1
  exact deleteListing_ok_iff.2 ⟨l, mem_nodup_alookup hI.lkeys hm, rfl, hc, he, rfl, rfl⟩

/-- "a sold listing by its buyer at once": the buyer is the record's `creator` (= claimant) since
    the purchase re-filed it under the buyer -/
theorem C07_exit_sold (hI : IdsInv m) (hW : WFInv j u m) {k : Nat × Nat} {l : Listing}
    (hm : (k, l) ∈ m.listings) (hs : l.status = .closed) :
    l.claimant = some l.creator ∧
    withdrawPurchased m env l.creator l.id =
      .ok ({ m with listings := aerase k m.listings },
           withdrawMsgs env.self l.creator l.forSale l.fee) := by
  have hwf : wfListing j u k l = true := hW.lwf (k, l) hm
  obtain rfl := (wfListing_iff.1 hwf).1
  have hc := (wfListing_closed hwf hs).2.1
  exact ⟨hc, withdrawPurchased_ok_iff.2 ⟨_, l, hI.findById_iff.2 ⟨hm, rfl⟩, hc, hs, rfl, rfl⟩⟩

/-- "a bucket by its current owner at once" -/
theorem C07_exit_bucket (hI : IdsInv m) {k : Nat × Nat} {b : Bucket} (hm : (k, b) ∈ m.buckets) :
    withdrawBucket m env b.owner k.2 =
      .ok ({ m with buckets := aerase k m.buckets }, withdrawMsgs env.self b.owner b.funds b.fee) := by
  have hk : (b.owner, k.2) = k := by rw [← (hI.bfiled _ hm : k.1 = b.owner)]
  exact withdrawBucket_ok_iff.2 ⟨b, by rw [hk]; exact mem_nodup_alookup hI.bkeys hm, rfl, by rw [hk], rfl⟩

/-- "each record can be cashed out by its entitled party with a single message": the four cases. -/
theorem C07_exit_handler (hI : IdsInv m) (hW : WFInv j u m) (env : Env) :
    (∀ k l, (k, l) ∈ m.listings → l.status = .preparing →
      deleteListing m env l.creator l.id =
        .ok ({ m with listings := aerase k m.listings }, sendTokens l.creator l.forSale)) ∧
    (∀ k l, (k, l) ∈ m.listings → l.status = .finalized →
      (∀ e, l.expiresAt = some e → e ≤ env.nowNs) →
      deleteListing m env l.creator l.id =
        .ok ({ m with listings := aerase k m.listings }, sendTokens l.creator l.forSale)) ∧
    (∀ k l, (k, l) ∈ m.listings → l.status = .closed →
      withdrawPurchased m env l.creator l.id =
        .ok ({ m with listings := aerase k m.listings },
             withdrawMsgs env.self l.creator l.forSale l.fee)) ∧
    (∀ k b, (k, b) ∈ m.buckets →
      withdrawBucket m env b.owner k.2 =
        .ok ({ m with buckets := aerase k m.buckets },
             withdrawMsgs env.self b.owner b.funds b.fee)) := by
  refine ⟨fun k l hm hs => ?_, fun k l hm hs he => ?_, fun _ _ hm hs => (C07_exit_sold hI hW hm hs).2,
    fun _ _ hm => C07_exit_bucket hI hm⟩
  · obtain ⟨_, h1, h2, _⟩ := wfListing_preparing (hW.lwf (k, l) hm) hs
    exact C07_delete_ok hI hW hm h2 fun e he => nomatch h1.symm.trans he
  · exact C07_delete_ok hI hW hm (wfListing_finalized (hW.lwf (k, l) hm) hs).2.1 he

example : IdsInv C07Ex.mkt ∧ WFInv 1 2 C07Ex.mkt ∧
    ((1, 3), C07Ex.lPrep) ∈ C07Ex.mkt.listings ∧ C07Ex.lPrep.status = .preparing ∧
    ((1, 4), C07Ex.lFin) ∈ C07Ex.mkt.listings ∧ C07Ex.lFin.status = .finalized ∧
    (∀ e, C07Ex.lFin.expiresAt = some e → e ≤ C07Ex.w.env.nowNs) ∧
    ((2, 5), C07Ex.lSold) ∈ C07Ex.mkt.listings ∧ C07Ex.lSold.status = .closed ∧
    ((2, 8), C07Ex.bkt) ∈ C07Ex.mkt.buckets :=
  ⟨C07Ex.ids, C07Ex.wf, by decide +kernel, rfl, by decide +kernel, rfl,
   by intro e he; cases he; decide +kernel, by decide +kernel, rfl, by decide +kernel⟩

/-- the message with which a listing is cashed out -/
def Listing.exitMsg (l : Listing) : ExecMsg :=
  match l.status with
  | .closed => .withdrawPurchased l.id
  | _ => .deleteListing l.id

/-- not a finalized listing that is still running -/
def Listing.exitable (nowNs : Nat) (l : Listing) : Prop :=
  l.status = .finalized → ∀ e, l.expiresAt = some e → e ≤ nowNs

instance (nowNs : Nat) (l : Listing) : Decidable (l.exitable nowNs) := by
  unfold Listing.exitable
  cases l.expiresAt with
  | none => exact isTrue (fun _ e he => by cases he)
  | some e0 =>
    by_cases hs : l.status = .finalized
    · by_cases hle : e0 ≤ nowNs
      · exact isTrue (fun _ e he => by cases he; exact hle)
      · exact isFalse (fun h => hle (h hs e0 rfl))
    · exact isTrue (fun h => absurd h hs)

/-- the three listing cases at once, through the entry point `execute` (no fee unless sold) -/
theorem C07_exit_execute_listing (hI : IdsInv m) (hW : WFInv j u m) {k : Nat × Nat} {l : Listing}
    (hm : (k, l) ∈ m.listings) (he : l.exitable env.nowNs) :
    execute m env l.creator [] l.exitMsg =
      .ok ({ m with listings := aerase k m.listings },
           withdrawMsgs env.self l.creator l.forSale l.fee) := by
  have hwf : wfListing j u k l = true := hW.lwf (k, l) hm
  have hx := C07_exit_handler hI hW env
  unfold Listing.exitMsg
  cases hs : l.status with
  | preparing =>
    dsimp only
    rw [execute_nil_deleteListing, hx.1 k l hm hs, (wfListing_preparing hwf hs).2.2.2, withdrawMsgs_none]
  | finalized =>
    dsimp only
    rw [execute_nil_deleteListing, hx.2.1 k l hm hs (he hs), (wfListing_finalized hwf hs).2.2,
      withdrawMsgs_none]
  | closed =>
    dsimp only
    rw [execute_nil_withdrawPurchased, hx.2.2.1 k l hm hs]

theorem C07_exit_execute_bucket (hI : IdsInv m) {k : Nat × Nat} {b : Bucket} (hm : (k, b) ∈ m.buckets) :
    execute m env b.owner [] (.removeBucket k.2) =
      .ok ({ m with buckets := aerase k m.buckets }, withdrawMsgs env.self b.owner b.funds b.fee) := by
  rw [execute_nil_removeBucket, C07_exit_bucket hI hm]

example : ∀ p ∈ C07Ex.mkt.listings, p.2.exitable C07Ex.w.env.nowNs := by decide
example : C07Ex.lPrep.exitMsg = .deleteListing 3 ∧ C07Ex.lFin.exitMsg = .deleteListing 4 ∧
    C07Ex.lSold.exitMsg = .withdrawPurchased 5 := ⟨rfl, rfl, rfl⟩

end handler

/-! ## chain level -/

/-- "can be cashed out" on the chain side: `withdraw_dispatch_ok` (Lemmas/ExitLemmas.lean) under the
    property's name -/
theorem C07_chain_accepts {w : World} {m' : Market} {to : Nat} {g : GBal} {fee : Option Coin}
    (hwf : wfBal g = true) (hfz : ∀ f, fee = some f → f.amount ≠ 0) (hc : Covers w g fee)
    (hh : HonestAssets w g) :
    ∃ w2, dispatchAll noFault { w with mkt := m' } (withdrawMsgs w.self to g fee) 0 = some w2 :=
  withdraw_dispatch_ok hwf hfz hc hh

example : wfBal C07Ex.lPrep.forSale = true ∧ Covers C07Ex.w C07Ex.lPrep.forSale C07Ex.lPrep.fee ∧
    HonestAssets C07Ex.w C07Ex.lPrep.forSale := by
  refine ⟨by decide, ⟨fun d => ?_, by decide, by decide⟩, by decide⟩
  simp only [C07Ex.lPrep, newListing, C07Ex.w, feeAmt, coinAmt_cons, coinAmt_nil, lget, alookup]
  by_cases h1 : 1 = d
  · subst h1; decide
  · simp [h1]

theorem C07_honest_native_only (w : World) {g : GBal} (h1 : g.cw20 = []) (h2 : g.nfts = []) :
    HonestAssets w g := by
  constructor
  · intro c hc; rw [h1] at hc; cases hc
  · intro n hn; rw [h2] at hn; cases hn

example : C07Ex.bkt.funds.cw20 = [] ∧ C07Ex.bkt.funds.nfts = [] := ⟨rfl, rfl⟩

/-! ## world level -/

section world
variable {w : World}

/-- "held = promised" (C01) covers whatever is part of what the records promise: a balance of honest
    assets whose coins with the fee, token amounts and NFTs are within the recorded totals
    (of `Backed`: `.1` native coins, `.2.1` CW20 tokens, `.2.2.2` NFT recorded iff owned) -/
theorem Backed.covers (hB : Backed w) {g : GBal} {fee : Option Coin} (hn : (keys g.cw20).Nodup)
    (hh : HonestAssets w g) (h1 : ∀ d, coinAmt g.native d + feeAmt fee d ≤ owedNative w.mkt d)
    (h2 : ∀ t, coinAmt g.cw20 t ≤ owedCw20 w.mkt t) (h3 : ∀ n ∈ g.nfts, n ∈ recordedNfts w.mkt) :
    Covers w g fee := by
  refine ⟨fun d => hB.1 d ▸ h1 d, fun c hc => ?_, fun n hn => (hB.2.2.2 n (hh.2 n hn)).1 (h3 n hn)⟩
  rw [hB.2.1 c.key (hh.1 c hc), ← coinAmt_of_mem hn hc]
  exact h2 c.key

/-- "held = promised" (C01) covers every single listing: its goods and its pending fee are part of
    the total the marketplace holds -/
theorem C07_covers_listing (hW : WFInv w.junoD w.usdcD w.mkt) (hB : Backed w) {k : Nat × Nat}
    {l : Listing} (hm : (k, l) ∈ w.mkt.listings) (hh : HonestAssets w l.forSale) :
    Covers w l.forSale l.fee :=
  hB.covers (wfBal_keys (wfListing_iff.1 (hW.lwf (k, l) hm)).2.1).2 hh
    (fun d => owedNative_eq .. ▸
      wsum_ge_listing (fun l => coinAmt l.forSale.native d + feeAmt l.fee d) _ hm)
    (fun t => owedCw20_eq .. ▸ wsum_ge_listing (fun l => coinAmt l.forSale.cw20 t) _ hm)
    fun _ hn => List.mem_append_left _ (List.mem_flatMap.2 ⟨_, hm, hn⟩)

theorem C07_covers_bucket (hW : WFInv w.junoD w.usdcD w.mkt) (hB : Backed w) {k : Nat × Nat}
    {b : Bucket} (hm : (k, b) ∈ w.mkt.buckets) (hh : HonestAssets w b.funds) :
    Covers w b.funds b.fee :=
  hB.covers (wfBal_keys (wfBucket_iff.1 (hW.bwf (k, b) hm)).2.1).2 hh
    (fun d => owedNative_eq .. ▸
      wsum_ge_bucket _ (fun b => coinAmt b.funds.native d + feeAmt b.fee d) hm)
    (fun t => owedCw20_eq .. ▸ wsum_ge_bucket _ (fun b => coinAmt b.funds.cw20 t) hm)
    fun _ hn => List.mem_append_right _ (List.mem_flatMap.2 ⟨_, hm, hn⟩)

/-- "Each record can be cashed out by its entitled party with a single message", for a listing whose
    assets are honest, in a world satisfying the run-level invariant `C01Inv`: handler and chain
    accept (the buyer is the `creator` of a sold record). -/
theorem C07_exit_step_listing (hInv : C01Inv w) {k : Nat × Nat} {l : Listing}
    (hm : (k, l) ∈ w.mkt.listings) (he : l.exitable w.nowNs) (hh : HonestAssets w l.forSale) :
    (step w (.exec l.creator [] l.exitMsg)).2.ok = true ∧
    (step w (.exec l.creator [] l.exitMsg)).2.msgs = withdrawMsgs w.self l.creator l.forSale l.fee ∧
    (step w (.exec l.creator [] l.exitMsg)).1.mkt = { w.mkt with listings := aerase k w.mkt.listings } ∧
    CoreEq w (step w (.exec l.creator [] l.exitMsg)).1 := by
  have hwf : wfListing w.junoD w.usdcD k l = true := hInv.wf.lwf (k, l) hm
  exact step_payout_ok (C07_exit_execute_listing (env := w.env) hInv.ids hInv.wf hm he)
    (wfListing_iff.1 hwf).2.1 (fun f hf => (wfListing_fee hwf hf).1)
    (C07_covers_listing hInv.wf hInv.backed hm hh) hh

/-- "a bucket by its current owner at once" -/
theorem C07_exit_step_bucket (hInv : C01Inv w) {k : Nat × Nat} {b : Bucket}
    (hm : (k, b) ∈ w.mkt.buckets) (hh : HonestAssets w b.funds) :
    (step w (.exec b.owner [] (.removeBucket k.2))).2.ok = true ∧
    (step w (.exec b.owner [] (.removeBucket k.2))).2.msgs = withdrawMsgs w.self b.owner b.funds b.fee ∧
    (step w (.exec b.owner [] (.removeBucket k.2))).1.mkt = { w.mkt with buckets := aerase k w.mkt.buckets } ∧
    CoreEq w (step w (.exec b.owner [] (.removeBucket k.2))).1 := by
  have hwf : wfBucket w.junoD w.usdcD k b = true := hInv.wf.bwf (k, b) hm
  exact step_payout_ok (C07_exit_execute_bucket (env := w.env) hInv.ids hm)
    (wfBucket_iff.1 hwf).2.1 (fun f hf => (wfBucket_fee hwf hf).1)
    (C07_covers_bucket hInv.wf hInv.backed hm hh) hh

/-- the four cases of the property text, at world level -/
theorem C07_exit_step (hInv : C01Inv w) :
    (∀ k l, (k, l) ∈ w.mkt.listings → HonestAssets w l.forSale → l.status = .preparing →
      (step w (.exec l.creator [] (.deleteListing l.id))).2.ok = true) ∧
    (∀ k l, (k, l) ∈ w.mkt.listings → HonestAssets w l.forSale → l.status = .finalized →
      (∀ e, l.expiresAt = some e → e ≤ w.nowNs) →
      (step w (.exec l.creator [] (.deleteListing l.id))).2.ok = true) ∧
    (∀ k l, (k, l) ∈ w.mkt.listings → HonestAssets w l.forSale → l.status = .closed →
      l.claimant = some l.creator ∧
      (step w (.exec l.creator [] (.withdrawPurchased l.id))).2.ok = true) ∧
    (∀ k b, (k, b) ∈ w.mkt.buckets → HonestAssets w b.funds →
      (step w (.exec b.owner [] (.removeBucket k.2))).2.ok = true) := by
  refine ⟨fun k l hm hh hs => ?_, fun k l hm hh hs he => ?_, fun k l hm hh hs => ?_,
    fun k b hm hh => (C07_exit_step_bucket hInv hm hh).1⟩
  · have := (C07_exit_step_listing hInv hm (fun e => nomatch hs.symm.trans e) hh).1
    simpa only [Listing.exitMsg, hs] using this
  · have := (C07_exit_step_listing hInv hm (fun _ => he) hh).1
    simpa only [Listing.exitMsg, hs] using this
  · have := (C07_exit_step_listing hInv hm (fun e => nomatch hs.symm.trans e) hh).1
    refine ⟨(C07_exit_sold (env := w.env) hInv.ids hInv.wf hm hs).1, ?_⟩
    simpa only [Listing.exitMsg, hs] using this

end world

/-! ### non-vacuity of the world-level theorems

The sample worlds are *reached* ones: prefixes of the sample history of C01 (`AcctEx.ops`), so
`C01Inv` holds by `C01_backed_closed`. -/

namespace C07Ex

/-- after create + CW20 top-up + NFT top-up: one preparing listing of account 1 holding 1000 of
    denom 1, 400 of the honest token 50 and the honest NFT (60, 7) -/
def wPrep : World := run AcctEx.w0 (AcctEx.ops.take 3)
/-- after the purchase and one second: a sold listing (now of account 2, fee 5 of denom 1 pending)
    and the seller's bucket with the proceeds -/
def wSold : World := run AcctEx.w0 (AcctEx.ops.take 8)

theorem wPrep_inv : C01Inv wPrep := C01_backed_closed _ C01Ex.w0_inv (by decide)
theorem wSold_inv : C01Inv wSold := C01_backed_closed _ C01Ex.w0_inv (by decide)

end C07Ex

example : C01Inv C07Ex.wPrep ∧ C07Ex.wPrep.mkt.listings.length = 1 ∧
    ∀ p ∈ C07Ex.wPrep.mkt.listings, p.2.status = .preparing ∧ p.2.exitable C07Ex.wPrep.nowNs ∧
      HonestAssets C07Ex.wPrep p.2.forSale ∧ p.2.forSale.cw20 ≠ [] ∧ p.2.forSale.nfts ≠ [] :=
  ⟨C07Ex.wPrep_inv, by decide +kernel⟩
example : C01Inv C07Ex.wSold ∧ C07Ex.wSold.mkt.listings.length = 1 ∧ C07Ex.wSold.mkt.buckets.length = 1 ∧
    (∀ p ∈ C07Ex.wSold.mkt.listings, p.2.status = .closed ∧ p.2.fee = some ⟨1, 5⟩ ∧
      p.2.exitable C07Ex.wSold.nowNs ∧ HonestAssets C07Ex.wSold p.2.forSale) ∧
    (∀ p ∈ C07Ex.wSold.mkt.buckets, HonestAssets C07Ex.wSold p.2.funds) :=
  ⟨C07Ex.wSold_inv, by decide +kernel⟩

/-! ## draining the marketplace -/

def exitOpL (p : (Nat × Nat) × Listing) : Op := .exec p.2.creator [] p.2.exitMsg
def exitOpB (p : (Nat × Nat) × Bucket) : Op := .exec p.2.owner [] (.removeBucket p.1.2)

/-- "all parties do so"; in storage order, because the drain is proved by induction on the stored
    tables -/
def drainOps (w : World) : List Op := w.mkt.listings.map exitOpL ++ w.mkt.buckets.map exitOpB

/-- every transaction of the list succeeds, each in the state the earlier ones leave -/
def runOk (w : World) : List Op → Prop
  | [] => True
  | op :: ops => (step w op).2.ok = true ∧ runOk (step w op).1 ops

/-- the hypotheses of `C07_drain`: the run-level invariant; no finalized listing is still running
    (reachable from any state by letting time pass: `.advance` changes nothing else); every
    record's assets are honest (see the header on finding C18) and no record belongs to the
    marketplace's own address (the marketplace never signs a transaction) -/
structure Drainable (w : World) : Prop where
  inv : C01Inv w
  expired : ∀ p ∈ w.mkt.listings, p.2.exitable w.nowNs
  honestL : ∀ p ∈ w.mkt.listings, HonestAssets w p.2.forSale
  honestB : ∀ p ∈ w.mkt.buckets, HonestAssets w p.2.funds
  ownersL : ∀ p ∈ w.mkt.listings, p.2.creator ≠ w.self
  ownersB : ∀ p ∈ w.mkt.buckets, p.2.owner ≠ w.self

theorem exitMsg_honest (w : World) (s : Nat) (l : Listing) : Op.honest w (.exec s [] l.exitMsg) := by
  unfold Listing.exitMsg
  cases l.status <;> trivial

theorem Drainable.mono {w w' : World} (hD : Drainable w) (hinv : C01Inv w') (hce : CoreEq w w')
    (hl : ∀ p ∈ w'.mkt.listings, p ∈ w.mkt.listings) (hb : ∀ p ∈ w'.mkt.buckets, p ∈ w.mkt.buckets) :
    Drainable w' :=
  ⟨hinv, fun p hp => hce.nowNs ▸ hD.expired p (hl p hp),
    fun p hp => (hD.honestL p (hl p hp)).of_coreEq hce, fun p hp => (hD.honestB p (hb p hp)).of_coreEq hce,
    fun p hp => hce.self ▸ hD.ownersL p (hl p hp), fun p hp => hce.self ▸ hD.ownersB p (hb p hp)⟩

/-- the history `ops` drains `w`: every transaction succeeds, no record is left, the run-level
    invariant holds at the end and nothing but the ledgers and the records has changed -/
def Drains (w : World) (ops : List Op) : Prop :=
  runOk w ops ∧ (run w ops).mkt.listings = [] ∧ (run w ops).mkt.buckets = [] ∧
  C01Inv (run w ops) ∧ CoreEq w (run w ops)

theorem Drains.cons {w : World} {op : Op} {ops : List Op} (hok : (step w op).2.ok = true)
    (hce : CoreEq w (step w op).1) (h : Drains (step w op).1 ops) : Drains w (op :: ops) :=
  ⟨⟨hok, h.1⟩, h.2.1, h.2.2.1, h.2.2.2.1, hce.trans h.2.2.2.2⟩

/-- the bucket phase of the drain (no listing left): the exit of the head bucket succeeds and erases
    exactly the head key (`aerase_head`), so `Drainable` holds again for the remaining buckets -/
theorem C07_drain_buckets : ∀ (bs : List ((Nat × Nat) × Bucket)) {w : World}, Drainable w →
    w.mkt.listings = [] → w.mkt.buckets = bs → Drains w (bs.map exitOpB) := by
  intro bs
  induction bs with
  | nil => intro w hD hl hb; exact ⟨trivial, hl, hb, hD.inv, CoreEq.refl w⟩
  | cons p bs ih =>
    intro w hD hl hb
    have hm : p ∈ w.mkt.buckets := hb ▸ List.mem_cons_self
    obtain ⟨hok, _, hmk, hce⟩ := C07_exit_step_bucket hD.inv hm (hD.honestB _ hm)
    have hl' : (step w (exitOpB p)).1.mkt.listings = [] := (congrArg Market.listings hmk).trans hl
    have hb' : (step w (exitOpB p)).1.mkt.buckets = bs := by
      rw [hb] at hmk
      exact (congrArg Market.buckets hmk).trans (aerase_head (hb ▸ hD.inv.ids.bkeys))
    exact .cons hok hce (ih (hD.mono (C01Inv_step hD.inv (hD.ownersB _ hm) trivial) hce
      (fun q hq => nomatch hl' ▸ hq) fun q hq => hb ▸ .tail _ (hb' ▸ hq)) hl' hb')

/-- the listing phase followed by the bucket phase, for a world whose tables are `ls` and `bs`: the
    same for the head listing (time does not move: finalized listings stay expired) -/
theorem C07_drain_all : ∀ (ls : List ((Nat × Nat) × Listing)) (bs : List ((Nat × Nat) × Bucket)) {w : World},
    Drainable w → w.mkt.listings = ls → w.mkt.buckets = bs →
    Drains w (ls.map exitOpL ++ bs.map exitOpB) := by
  intro ls
  induction ls with
  | nil => intro bs w hD hl hb; exact C07_drain_buckets bs hD hl hb
  | cons p ls ih =>
    intro bs w hD hl hb
    have hm : p ∈ w.mkt.listings := hl ▸ List.mem_cons_self
    obtain ⟨hok, _, (hmk : (step w (exitOpL p)).1.mkt = _), hce⟩ :=
      C07_exit_step_listing hD.inv hm (hD.expired _ hm) (hD.honestL _ hm)
    have hbk : (step w (exitOpL p)).1.mkt.buckets = w.mkt.buckets := by rw [hmk]
    have hl' : (step w (exitOpL p)).1.mkt.listings = ls := by
      rw [hl] at hmk
      exact (congrArg Market.listings hmk).trans (aerase_head (hl ▸ hD.inv.ids.lkeys))
    exact .cons hok hce (ih bs (hD.mono (C01Inv_step hD.inv (hD.ownersL _ hm) (exitMsg_honest _ _ _)) hce
      (fun q hq => hl ▸ .tail _ (hl' ▸ hq)) fun q hq => hbk ▸ hq) hl' (hbk.trans hb))

/-- "After all parties do so the marketplace holds no assets and no records remain", from a state
    satisfying `Drainable`; "no assets" is said of native coins and of honest tokens and collections. -/
theorem C07_drain {w : World} (hD : Drainable w) :
    runOk w (drainOps w) ∧
    (run w (drainOps w)).mkt.listings = [] ∧ (run w (drainOps w)).mkt.buckets = [] ∧
    (∀ d, lget (run w (drainOps w)).bank (w.self, d) = 0) ∧
    (∀ t, w.isHonest20 t = true → lget (run w (drainOps w)).cw20 (t, w.self) = 0) ∧
    (∀ c tid, w.isHonest721 c = true → alookup (c, tid) (run w (drainOps w)).nft ≠ some w.self) ∧
    CoreEq w (run w (drainOps w)) := by
  unfold drainOps
  obtain ⟨r1, r2, r3, r4, r5⟩ := C07_drain_all _ _ hD rfl rfl
  refine ⟨r1, r2, r3, fun d => ?_, fun t ht => ?_, fun c tid hc => ?_, r5⟩
  · have := r4.backed.1 d
    rw [r5.self] at this
    rw [this, owedNative_eq, wsum_empty _ _ r2 r3]
  · have := r4.backed.2.1 t (by rw [r5.isHonest20]; exact ht)
    rw [r5.self] at this
    rw [this, owedCw20_eq, wsum_empty _ _ r2 r3]
  · intro hown
    have := (r4.backed.2.2.2 ⟨c, tid⟩ (by rw [r5.isHonest721]; exact hc)).2 (by
      rw [r5.self]; exact hown)
    rw [recordedNfts, r2, r3] at this
    cases this

/-- letting time pass changes nothing but the clock: every finalized listing eventually expires,
    so `Drainable`'s expiry clause is reachable from any state -/
theorem C07_advance (w : World) (dNs dH : Nat) :
    (step w (.advance dNs dH)).2.ok = true ∧
    (step w (.advance dNs dH)).1 = { w with nowNs := w.nowNs + dNs, height := w.height + dH } :=
  ⟨rfl, rfl⟩

example : Drainable C07Ex.wSold :=
  ⟨C07Ex.wSold_inv, by decide, by decide, by decide, by decide, by decide⟩
example : drainOps C07Ex.wSold = [.exec 2 [] (.withdrawPurchased 3), .exec 1 [] (.removeBucket 8)] := by
  decide +kernel
example : Drainable C07Ex.wPrep :=
  ⟨C07Ex.wPrep_inv, by decide, by decide, by decide, by decide, by decide⟩
example : drainOps C07Ex.wPrep = [.exec 1 [] (.deleteListing 3)] := by decide +kernel
/-- … and evaluating the model on the sample agrees: after the drain of `wSold` the marketplace
    (100) holds nothing, the buyer (2) has the goods, the pool (101) the fees -/
example : (run C07Ex.wSold (drainOps C07Ex.wSold)).mkt.listings = [] ∧
    (run C07Ex.wSold (drainOps C07Ex.wSold)).mkt.buckets = [] ∧
    lget (run C07Ex.wSold (drainOps C07Ex.wSold)).bank (100, 1) = 0 ∧
    lget (run C07Ex.wSold (drainOps C07Ex.wSold)).bank (100, 2) = 0 ∧
    lget (run C07Ex.wSold (drainOps C07Ex.wSold)).cw20 (50, 100) = 0 ∧
    lget (run C07Ex.wSold (drainOps C07Ex.wSold)).cw20 (50, 2) = 400 ∧
    alookup (60, 7) (run C07Ex.wSold (drainOps C07Ex.wSold)).nft = some 2 ∧
    lget (run C07Ex.wSold (drainOps C07Ex.wSold)).bank (101, 1) = 5 := by decide +kernel

/-! ## every reachable state

The hypotheses of the theorems above — `C01Inv`, honest assets, no record owned by the marketplace's
own address — hold in every state reached from a clean state by a history in which no operation is
signed by the marketplace or registers it as royalty payout address (`Op.avoids`) and no receive
hook is called directly (`Op.unforged`: CW20 / NFT deposits come through the token contracts'
`Send` / `SendNft`; a direct hook call is the forgery of finding C18). -/

/-- no direct call of a receive hook (`Op.hookCaller op = none`, Props/C18Reach.lean; `Op.forgedBy`,
    Lemmas/ForgeReachLemmas.lean, is the positive form with a condition on the caller) -/
def Op.unforged : Op → Prop
  | .exec _ _ (.receive ..) => False
  | .exec _ _ (.receiveNft ..) => False
  | _ => True

instance (op : Op) : Decidable op.unforged := by
  unfold Op.unforged; split <;> exact inferInstance

theorem Op.unforged.honest {op : Op} (h : op.unforged) (w : World) : op.honest w := by
  cases op with
  | exec s f m =>
    cases m with
    | receive _ _ _ => exact h.elim
    | receiveNft _ _ _ => exact h.elim
    | _ => trivial
  | _ => trivial

def CleanRecords (w : World) : Prop :=
  RecInv (fun a => w.isHonest20 a = true) (fun a => w.isHonest721 a = true) w.self w.mkt

theorem CleanRecords.listing {w : World} (h : CleanRecords w) {p : (Nat × Nat) × Listing}
    (hp : p ∈ w.mkt.listings) : HonestAssets w p.2.forSale ∧ p.2.creator ≠ w.self :=
  ⟨⟨(h.lst p hp).1.1, (h.lst p hp).1.2⟩, (h.lst p hp).2⟩

theorem CleanRecords.bucket {w : World} (h : CleanRecords w) {p : (Nat × Nat) × Bucket}
    (hp : p ∈ w.mkt.buckets) : HonestAssets w p.2.funds ∧ p.2.owner ≠ w.self :=
  ⟨⟨(h.bkt p hp).1.1, (h.bkt p hp).1.2⟩, (h.bkt p hp).2⟩

theorem Op.unforged.unwrap {w w1 : World} {op : Op} {c u : Nat} {f : List Coin} {msg msg' : ExecMsg}
    {a : Asset} (hu : op.unforged) (hop : op.avoids w.self) (ho : op.asExec = some (c, f, msg))
    (hD : op.deposit w = .ok w1) (hun : msg.unwrap c f = some (u, a, msg')) :
    u ≠ w.self ∧
      GBal.keysOk (fun a => w.isHonest20 a = true) (fun a => w.isHonest721 a = true) a.bal := by
  cases op with
  | exec s fu m =>
    cases ho
    rcases ExecMsg.unwrap_cases hun with ⟨_, _, rfl, _⟩ | ⟨_, _, rfl, _⟩ | ⟨_, rfl, rfl⟩
    · exact hu.elim
    · exact hu.elim
    · exact ⟨hop, Asset.keysOk_bal.2 trivial⟩
  | send20 t s am i =>
    cases ho
    cases i <;> cases hun
    exact ⟨hop, Asset.keysOk_bal.2 (deposit_send20.1 hD).1⟩
  | send721 co s t i =>
    cases ho
    cases i <;> cases hun
    exact ⟨hop, Asset.keysOk_bal.2 (deposit_send721.1 hD).1⟩
  | _ => cases ho

theorem C07_clean_step {w : World} {op : Op} (hc : CleanRecords w) (hop : op.avoids w.self)
    (hu : op.unforged) : CleanRecords (step w op).1 := by
  unfold step
  have hst := stepF_static noFault w op
  suffices key : RecInv (fun a => w.isHonest20 a = true) (fun a => w.isHonest721 a = true) w.self
      (stepF noFault w op).1.mkt by
    simpa only [CleanRecords, hst.self, hst.honest20, hst.honest721] using key
  -- by hand and not by `stepF_mkt_inv`: that the asset is honest comes from the deposit `hD` (a `Send`
  -- through an honest token), which `stepF_mkt_inv` does not hand to the handler's case
  cases ho : op.asExec with
  | none => rw [stepF_mkt_of_asExec_none ho]; exact hc
  | some tr =>
    obtain ⟨c, f, msg⟩ := tr
    rcases stepF_market_full (fail := noFault) (w := w) ho with ⟨e, h⟩ | ⟨w1, m', msgs, w2, hD, hx, hd, hs⟩
    · rw [h]; exact hc
    · rw [hs, (dispatchAll_frame hd).2]
      obtain ⟨_, u, a, msg', hun, e⟩ := execute_effect hx
      obtain ⟨h1, h2⟩ := hu.unwrap hop ho hD hun
      exact e.recInv hc h1 h2

/-- the invariant of reached states — NOT reachability itself.  It holds at a deployment
    (`Reach_deployed`, Props/C07Closed.lean) and is kept by every operation that avoids the marketplace
    and is no direct hook call; its two parts are what the world-level theorems here and in C02World,
    C08World assume of the state. -/
structure Reach (w : World) : Prop where
  inv : C01Inv w
  clean : CleanRecords w

theorem C07_reach_step {w : World} {op : Op} (h : Reach w) (hop : op.avoids w.self) (hu : op.unforged) :
    Reach (step w op).1 :=
  ⟨C01Inv_step h.inv hop (hu.honest w), C07_clean_step h.clean hop hu⟩

theorem C07_reach_run (ops : List Op) : ∀ {w : World}, Reach w →
    (∀ op ∈ ops, op.avoids w.self ∧ op.unforged) → Reach (run w ops) :=
  fun h hops => run_induct_static
    (fun _ _ hs hq h' => C07_reach_step h' (hs.self ▸ hq.1) hq.2) ops hops h

/-- letting time pass writes nothing the invariant reads: every field of `C01Inv` and `CleanRecords`
    at `{ w with nowNs := _, height := _ }` is by definition the field at `w`, so the old proofs are
    repacked as they are -/
theorem Reach.advance {w : World} (h : Reach w) (dNs dH : Nat) : Reach (step w (.advance dNs dH)).1 :=
  (C07_advance w dNs dH).2 ▸
    ⟨⟨h.inv.ids, h.inv.wf, h.inv.backed, h.inv.pool, h.inv.payouts⟩, ⟨h.clean.lst, h.clean.bkt⟩⟩

theorem C07_reach_drainable {w : World} (h : Reach w) (hexp : ∀ p ∈ w.mkt.listings, p.2.exitable w.nowNs) :
    Drainable w :=
  ⟨h.inv, hexp, fun _ hp => (h.clean.listing hp).1, fun _ hp => (h.clean.bucket hp).1,
   fun _ hp => (h.clean.listing hp).2, fun _ hp => (h.clean.bucket hp).2⟩

/-- "From every reachable state each record can be cashed out by its entitled party with a single
    message … After all parties do so the marketplace holds no assets and no records remain."  The
    states are those reached from one satisfying `Reach` (for instance a freshly instantiated
    marketplace that holds nothing) by operations that avoid the marketplace as signer / payout
    address and are no direct hook calls; the last clause makes `C07_drain` applicable after
    waiting long enough. -/
theorem C07_reachable {w0 : World} (h0 : Reach w0) (ops : List Op)
    (hops : ∀ op ∈ ops, op.avoids w0.self ∧ op.unforged) :
    (∀ k l, (k, l) ∈ (run w0 ops).mkt.listings → l.exitable (run w0 ops).nowNs →
      (step (run w0 ops) (.exec l.creator [] l.exitMsg)).2.ok = true) ∧
    (∀ k b, (k, b) ∈ (run w0 ops).mkt.buckets →
      (step (run w0 ops) (.exec b.owner [] (.removeBucket k.2))).2.ok = true) ∧
    ∃ dNs, Drainable (step (run w0 ops) (.advance dNs 0)).1 := by
  have h := C07_reach_run ops h0 hops
  refine ⟨fun k l hm he => (C07_exit_step_listing h.inv hm he (h.clean.listing hm).1).1,
    fun k b hm => (C07_exit_step_bucket h.inv hm (h.clean.bucket hm).1).1, ?_⟩
  -- wait the sum of all expiry times: it bounds each of them
  refine ⟨((run w0 ops).mkt.listings.map fun q => q.2.expiresAt.getD 0).sum,
    C07_reach_drainable (h.advance _ 0) ?_⟩
  intro p hp _ e he
  have := asum_ge_of_mem (fun l : Listing => l.expiresAt.getD 0) (show p ∈ (run w0 ops).mkt.listings from hp)
  rw [he] at this
  exact Nat.le_trans this (Nat.le_add_left _ _)

theorem C07Ex.w0_reach : Reach AcctEx.w0 :=
  ⟨C01Ex.w0_inv, ⟨fun _ hp => (by cases hp), fun _ hp => (by cases hp)⟩⟩

example : Reach AcctEx.w0 := C07Ex.w0_reach
example : ∀ op ∈ AcctEx.ops, op.avoids AcctEx.w0.self ∧ op.unforged := by decide
example : C07Ex.wSold = run AcctEx.w0 (AcctEx.ops.take 8) := rfl

#print axioms C07_delete_ok
#print axioms C07_exit_sold
#print axioms C07_exit_bucket
#print axioms C07_exit_handler
#print axioms C07_exit_execute_listing
#print axioms C07_exit_execute_bucket
#print axioms C07_chain_accepts
#print axioms C07_honest_native_only
#print axioms C07_covers_listing
#print axioms C07_covers_bucket
#print axioms C07_exit_step_listing
#print axioms C07_exit_step_bucket
#print axioms C07_exit_step
#print axioms exitMsg_honest
#print axioms C07_drain_buckets
#print axioms C07_drain_all
#print axioms C07_drain
#print axioms C07_advance
#print axioms Op.unforged.honest
#print axioms CleanRecords.listing
#print axioms CleanRecords.bucket
#print axioms C07_clean_step
#print axioms C07_reach_step
#print axioms C07_reach_run
#print axioms C07_reach_drainable
#print axioms C07_reachable
#print axioms C07Ex.ids
#print axioms C07Ex.wf
#print axioms C07Ex.wPrep_inv
#print axioms C07Ex.wSold_inv
#print axioms Backed.covers
#print axioms Drainable.mono
#print axioms Drains.cons
#print axioms Op.unforged.unwrap
#print axioms Reach.advance
#print axioms C07Ex.w0_reach

end Fuzion
