/-
  Fuzion.Props.C15Reach — C15 "Purchases, deposits and payouts are all-or-nothing when a transfer
  fails", lifted from one transaction (Props/C15.lean) to histories with faults.

  A faulty history is a list of pairs `(fail, op)`: the operation `op` is run with the dispatch of
  the `k`-th message it emits forced to fail whenever `fail k` (`stepF fail`, Model/Chain.lean).
  `runF w0 fops` is the state such a history reaches, `survivors w0 fops` the operations of it whose
  faulty transaction was accepted.  For every fault schedule and every start world
  `runF w0 fops = run w0 (survivors w0 fops)`: a history with faults is the fault-free history of
  the operations that went through, so the reach theorems of the other properties hold under
  faults, from the start worlds they ask for.

  What is NOT proved here (as in Props/C15.lean): that the real chain runtime rolls back like `stepF`;
  that is validated by the fault-injection runs of the harness against the model.
-/
import Fuzion.Lemmas.ClosedLemmas
import Fuzion.Props.C15
import Fuzion.Props.C03Closed
import Fuzion.Props.C03Reach
-- for `SummaryEx.ops` in the examples
import Fuzion.Props.C02World
namespace Fuzion

/-! ## histories with faults

The model has one transaction under faults (`stepF`) and the fault-free fold `run`; the fold under
faults and its survivors are the vocabulary of the statements below, so they are defined in this
file (`okRun`, the accepted fault-free replay, further down at its theorem).  Facts about ONE
faulty transaction: `stepF_faults` and its corollaries in Lemmas/Ledgers.lean. -/

abbrev FOp := (Nat → Bool) × Op

def runF (w : World) : List FOp → World
  | [] => w
  | (fail, op) :: r => runF (stepF fail w op).1 r

def survivors (w : World) : List FOp → List Op
  | [] => []
  | (fail, op) :: r =>
    if (stepF fail w op).2.ok then op :: survivors (stepF fail w op).1 r
    else survivors (stepF fail w op).1 r

/-- successful purchases of listing `lid` along a history with faults (cf. `buysOf`) -/
def buysOfF (lid : Nat) (w : World) : List FOp → Nat
  | [] => 0
  | (fail, op) :: r =>
    (if isBuyOf lid op && (stepF fail w op).2.ok then 1 else 0) + buysOfF lid (stepF fail w op).1 r

def noFaults (ops : List Op) : List FOp := ops.map fun op => (noFault, op)

theorem runF_append (w : World) (a b : List FOp) : runF w (a ++ b) = runF (runF w a) b := by
  induction a generalizing w with
  | nil => rfl
  | cons p a ih => obtain ⟨fail, op⟩ := p; exact ih _

theorem survivors_append (w : World) (a b : List FOp) :
    survivors w (a ++ b) = survivors w a ++ survivors (runF w a) b := by
  induction a generalizing w with
  | nil => rfl
  | cons p a ih =>
    obtain ⟨fail, op⟩ := p
    simp only [List.cons_append, survivors, runF]
    split
    · rw [ih, List.cons_append]
    · exact ih _

theorem runF_noFaults (w : World) (ops : List Op) : runF w (noFaults ops) = run w ops := by
  induction ops generalizing w with
  | nil => rfl
  | cons op ops ih => exact ih _

theorem stepF_all_or_nothing (fail : Nat → Bool) (w : World) (op : Op) :
    ((∃ k, k < (step w op).2.msgs.length ∧ fail k = true) →
      stepF fail w op = (w, .fail .dispatch)) ∧
    ((∀ k, k < (step w op).2.msgs.length → fail k = false) → stepF fail w op = step w op) ∧
    (stepF fail w op = (w, .fail .dispatch) ∨ stepF fail w op = step w op) :=
  ⟨fun ⟨_, hk, hf⟩ => stepF_fault_hit hk hf, stepF_fault_miss,
    (hit_or_spared fail _).imp (fun ⟨_, hk, hf⟩ => stepF_fault_hit hk hf) stepF_fault_miss⟩

/-- "Purchases, deposits and payouts are all-or-nothing when a transfer fails":
    `stepF_all_or_nothing` at `𝐰 = runF w0 fops`, any history with faults from any `w0`.  If `fail`
    hits a position of the message list the fault-free `step 𝐰 op` emits, the world stays the very
    same value `𝐰`; if it spares them all, the result is the fault-free one, world and outcome
    (itself a refusal with `𝐰` unchanged when the transaction fails for a reason of its own:
    `C15_abort`); there is no third case. -/
theorem C15_all_or_nothing_reach (w0 : World) (fops : List FOp) (fail : Nat → Bool) (op : Op) :
    ((∃ k, k < (step (runF w0 fops) op).2.msgs.length ∧ fail k = true) →
      stepF fail (runF w0 fops) op = (runF w0 fops, .fail .dispatch)) ∧
    ((∀ k, k < (step (runF w0 fops) op).2.msgs.length → fail k = false) →
      stepF fail (runF w0 fops) op = step (runF w0 fops) op) ∧
    (stepF fail (runF w0 fops) op = (runF w0 fops, .fail .dispatch) ∨
      stepF fail (runF w0 fops) op = step (runF w0 fops) op) :=
  stepF_all_or_nothing fail (runF w0 fops) op

theorem C15_accepted_iff_reach (w0 : World) (fops : List FOp) (fail : Nat → Bool) (op : Op) :
    ((stepF fail (runF w0 fops) op).2.ok = true ↔
      (step (runF w0 fops) op).2.ok = true ∧
      ∀ k, k < (step (runF w0 fops) op).2.msgs.length → fail k = false) ∧
    ((stepF fail (runF w0 fops) op).2.ok = true →
      stepF fail (runF w0 fops) op = step (runF w0 fops) op) := by
  refine ⟨⟨fun h => ⟨by rw [← stepF_ok_eq_step h]; exact h, fun _ => stepF_ok_spared h⟩,
    fun ⟨h1, h2⟩ => ?_⟩, stepF_ok_eq_step⟩
  rw [stepF_fault_miss h2]; exact h1

theorem C15_nothing_fields_reach (w0 : World) (fops : List FOp) (fail : Nat → Bool) (op : Op)
    (h : (stepF fail (runF w0 fops) op).2.ok = false) :
    (stepF fail (runF w0 fops) op).1.mkt.listings = (runF w0 fops).mkt.listings ∧
    (stepF fail (runF w0 fops) op).1.mkt.buckets = (runF w0 fops).mkt.buckets ∧
    (stepF fail (runF w0 fops) op).1.mkt.listingUsed = (runF w0 fops).mkt.listingUsed ∧
    (stepF fail (runF w0 fops) op).1.mkt.bucketUsed = (runF w0 fops).mkt.bucketUsed ∧
    (stepF fail (runF w0 fops) op).1.mkt.feeKind = (runF w0 fops).mkt.feeKind ∧
    (stepF fail (runF w0 fops) op).1.mkt.feeSince = (runF w0 fops).mkt.feeSince ∧
    (stepF fail (runF w0 fops) op).1.reg = (runF w0 fops).reg ∧
    (stepF fail (runF w0 fops) op).1.bank = (runF w0 fops).bank ∧
    (stepF fail (runF w0 fops) op).1.cw20 = (runF w0 fops).cw20 ∧
    (stepF fail (runF w0 fops) op).1.nft = (runF w0 fops).nft ∧
    runF w0 (fops ++ [(fail, op)]) = runF w0 fops := by
  -- the world after the step is the world before (`C15_abort`), hence so is each of its fields;
  -- the last conjunct unfolds to that equation
  rw [runF_append]
  simp only [runF, C15_abort fail (runF w0 fops) op h, and_self]

/-- The state reached by a history with faults is the state reached by the fault-free history of
    the operations that went through.  Hence every theorem about `run w0 ops` (for all `ops`) is a
    theorem about states reached under faults. -/
theorem C15_runF_is_run_of_survivors_reach (w0 : World) (fops : List FOp) :
    runF w0 fops = run w0 (survivors w0 fops) := by
  induction fops generalizing w0 with
  | nil => rfl
  | cons p r ih =>
    obtain ⟨fail, op⟩ := p
    simp only [runF, survivors]
    cases h : (stepF fail w0 op).2.ok with
    | true =>
      simp only [if_true, run]
      rw [← stepF_ok_eq_step h]
      exact ih _
    | false =>
      simp only [Bool.false_eq_true, if_false]
      rw [ih, C15_abort fail w0 op h]

theorem C15_survivors_sublist_reach (w0 : World) (fops : List FOp) :
    (survivors w0 fops).Sublist (fops.map (·.2)) := by
  induction fops generalizing w0 with
  | nil => exact List.Sublist.slnil
  | cons p r ih =>
    obtain ⟨fail, op⟩ := p
    simp only [survivors, List.map_cons]
    split
    · exact (ih _).cons_cons _
    · exact (ih _).cons _

theorem survivors_forall {P : Op → Prop} {w0 : World} {fops : List FOp}
    (h : ∀ p ∈ fops, P p.2) : ∀ op ∈ survivors w0 fops, P op := by
  intro op hop
  have hm := (C15_survivors_sublist_reach w0 fops).subset hop
  obtain ⟨p, hp, rfl⟩ := List.mem_map.1 hm
  exact h p hp

def okRun (w : World) : List Op → Prop
  | [] => True
  | op :: ops => (step w op).2.ok = true ∧ okRun (step w op).1 ops

/-- the replay is faithful: each survivor is accepted again, in the same state -/
theorem C15_survivors_accepted_reach (w0 : World) (fops : List FOp) :
    okRun w0 (survivors w0 fops) := by
  induction fops generalizing w0 with
  | nil => trivial
  | cons p r ih =>
    obtain ⟨fail, op⟩ := p
    simp only [survivors]
    cases h : (stepF fail w0 op).2.ok with
    | true =>
      simp only [if_true]
      refine ⟨by rw [← stepF_ok_eq_step h]; exact h, ?_⟩
      rw [← stepF_ok_eq_step h]
      exact ih _
    | false =>
      simp only [Bool.false_eq_true, if_false]
      rw [C15_abort fail w0 op h]
      exact ih _

theorem survivors_noFaults_of_okRun (w : World) (ops : List Op) (h : okRun w ops) :
    survivors w (noFaults ops) = ops := by
  induction ops generalizing w with
  | nil => rfl
  | cons op ops ih =>
    obtain ⟨h1, h2⟩ := h
    have h1' : (stepF noFault w op).2.ok = true := h1
    simp only [noFaults, List.map_cons, survivors, h1', if_true]
    exact congrArg _ (ih _ h2)

theorem buysOfF_eq_buysOf (lid : Nat) (w0 : World) (fops : List FOp) :
    buysOfF lid w0 fops = buysOf lid w0 (survivors w0 fops) := by
  induction fops generalizing w0 with
  | nil => rfl
  | cons p r ih =>
    obtain ⟨fail, op⟩ := p
    simp only [buysOfF, survivors]
    cases h : (stepF fail w0 op).2.ok with
    | true =>
      simp only [if_true, buysOf]
      rw [← stepF_ok_eq_step h, h, ih]
    | false =>
      simp only [Bool.false_eq_true, if_false, Bool.and_false, Nat.zero_add]
      rw [ih, C15_abort fail w0 op h]

/-- C09 under faults: at most one listing / bucket per id, id logs complete — in every state
    reached from instantiation by any history with faults. -/
theorem C15_ids_under_faults_reach {w0 : World} {t : Nat} {r : Option Nat}
    (h0 : w0.mkt = instantiate t r) (fops : List FOp) : IdsInv (runF w0 fops).mkt := by
  rw [C15_runF_is_run_of_survivors_reach]
  exact C09_reach h0 _

/-- C12 under faults: every stored record is well-formed in every state reached from
    instantiation by any history with faults. -/
theorem C15_wf_under_faults_reach {w0 : World} {t : Nat} {r : Option Nat}
    (h0 : w0.mkt = instantiate t r) (fops : List FOp) :
    WFInv (runF w0 fops).junoD (runF w0 fops).usdcD (runF w0 fops).mkt := by
  rw [C15_runF_is_run_of_survivors_reach]
  exact closed_wf h0 _

/-- C01 under faults: the marketplace's balances equal what its records promise, and it owns
    exactly the recorded NFTs, in every state reached from a deployment by any history with faults
    whose operations — accepted or not; the survivors inherit the conditions as a sub-list — are
    not signed by the marketplace and contain no hook call forged by an honest token contract. -/
theorem C15_backed_under_faults_reach {w0 : World} (hd : Deployed w0) (fops : List FOp)
    (hops : ∀ p ∈ fops, p.2.avoids w0.self ∧ p.2.honest w0) : Backed (runF w0 fops) := by
  rw [C15_runF_is_run_of_survivors_reach]
  exact C01_from_deployment hd _ (survivors_forall (P := fun op => op.avoids w0.self ∧ op.honest w0) hops)

/-- C03 under faults: along any history with faults from instantiation every listing id is
    bought successfully at most once — aborted purchases do not count, and do not re-open it. -/
theorem C15_sold_once_under_faults_reach {w0 : World} {t : Nat} {r : Option Nat}
    (h0 : w0.mkt = instantiate t r) (lid : Nat) (fops : List FOp) : buysOfF lid w0 fops ≤ 1 := by
  rw [buysOfF_eq_buysOf]
  exact C03_sold_once_reach h0 lid _

/-- Once a purchase of `lid` went through under faults, every later purchase of it is refused,
    whatever faulty history lies in between and whether or not a fault is injected. -/
theorem C15_second_buy_refused_under_faults_reach {w0 : World} {t : Nat} {r : Option Nat}
    (h0 : w0.mkt = instantiate t r) (fops : List FOp) {fail : Nat → Bool} {s : Nat}
    {f : List Coin} {lid bid : Nat}
    (hok : (stepF fail (runF w0 fops) (.exec s f (.buy lid bid))).2.ok = true)
    (fops' : List FOp) (fail' : Nat → Bool) (s' : Nat) (f' : List Coin) (bid' : Nat) :
    (stepF fail' (runF (stepF fail (runF w0 fops) (.exec s f (.buy lid bid))).1 fops')
      (.exec s' f' (.buy lid bid'))).2.ok = false := by
  have e := stepF_ok_eq_step hok
  rw [e] at hok ⊢
  rw [C15_runF_is_run_of_survivors_reach w0 fops] at hok ⊢
  rw [C15_runF_is_run_of_survivors_reach _ fops']
  exact stepF_refused_of_step (C03_second_buy_refused_reach h0 _ hok _ s' f' bid')

/-- Retry: if a transaction from a state reached under faults was aborted only because of the
    injected fault (the fault-free transaction is accepted), then a fault did hit one of its
    messages, the state is unchanged, and the same operation without fault is accepted there with
    the full fault-free effect; as histories, `… (fail, op), (noFault, op)` reaches the state of
    `… op`. -/
theorem C15_retry_succeeds_reach (w0 : World) (fops : List FOp) (fail : Nat → Bool) (op : Op)
    (hfail : (stepF fail (runF w0 fops) op).2.ok = false)
    (hgood : (step (runF w0 fops) op).2.ok = true) :
    (∃ k, k < (step (runF w0 fops) op).2.msgs.length ∧ fail k = true) ∧
    stepF fail (runF w0 fops) op = (runF w0 fops, .fail .dispatch) ∧
    stepF noFault (stepF fail (runF w0 fops) op).1 op = step (runF w0 fops) op ∧
    (stepF noFault (stepF fail (runF w0 fops) op).1 op).2.ok = true ∧
    runF w0 (fops ++ [(fail, op), (noFault, op)]) = (step (runF w0 fops) op).1 ∧
    survivors w0 (fops ++ [(fail, op), (noFault, op)]) = survivors w0 fops ++ [op] := by
  obtain ⟨k, hk, hf⟩ := (hit_or_spared fail (step (runF w0 fops) op).2.msgs.length).resolve_right
    fun hm => by rw [stepF_fault_miss hm, hgood] at hfail; cases hfail
  have e := stepF_fault_hit hk hf
  have e1 : (stepF fail (runF w0 fops) op).1 = runF w0 fops := by rw [e]
  refine ⟨⟨k, hk, hf⟩, e, by rw [e1]; rfl, by rw [e1]; exact hgood, ?_, ?_⟩
  · rw [runF_append]
    simp only [runF]
    rw [e1]; rfl
  · have hgood' : (stepF noFault (runF w0 fops) op).2.ok = true := hgood
    rw [survivors_append]
    simp only [survivors, hfail, e1, hgood', Bool.false_eq_true, if_false, if_true]

/-- C07 under faults: in every state `𝐰` reached from a deployment by a history with faults
    (operations not signed by the marketplace, no forged hook calls), if the payout message of the
    entitled party (`Listing.exitMsg` for a stored listing that is not a still-running finalized
    one, `removeBucket` by the owner for a stored bucket) is aborted under fault injection, then a
    message of the payout was hit, the state is `𝐰` itself, so the record is still stored, and the
    same party's fault-free retry is accepted. -/
theorem C15_exit_after_fault_reach {w0 : World} (hd : Deployed w0) (fops : List FOp)
    (hops : ∀ p ∈ fops, p.2.avoids w0.self ∧ p.2.unforged) (fail : Nat → Bool) :
    (∀ k l, (k, l) ∈ (runF w0 fops).mkt.listings → l.exitable (runF w0 fops).nowNs →
      (stepF fail (runF w0 fops) (.exec l.creator [] l.exitMsg)).2.ok = false →
      (∃ i, i < (step (runF w0 fops) (.exec l.creator [] l.exitMsg)).2.msgs.length ∧ fail i = true) ∧
      (stepF fail (runF w0 fops) (.exec l.creator [] l.exitMsg)).1 = runF w0 fops ∧
      (k, l) ∈ (stepF fail (runF w0 fops) (.exec l.creator [] l.exitMsg)).1.mkt.listings ∧
      (step (stepF fail (runF w0 fops) (.exec l.creator [] l.exitMsg)).1
        (.exec l.creator [] l.exitMsg)).2.ok = true) ∧
    (∀ k b, (k, b) ∈ (runF w0 fops).mkt.buckets →
      (stepF fail (runF w0 fops) (.exec b.owner [] (.removeBucket k.2))).2.ok = false →
      (∃ i, i < (step (runF w0 fops) (.exec b.owner [] (.removeBucket k.2))).2.msgs.length ∧
        fail i = true) ∧
      (stepF fail (runF w0 fops) (.exec b.owner [] (.removeBucket k.2))).1 = runF w0 fops ∧
      (k, b) ∈ (stepF fail (runF w0 fops) (.exec b.owner [] (.removeBucket k.2))).1.mkt.buckets ∧
      (step (stepF fail (runF w0 fops) (.exec b.owner [] (.removeBucket k.2))).1
        (.exec b.owner [] (.removeBucket k.2))).2.ok = true) := by
  have hx := C07_from_deployment hd (survivors w0 fops)
    (survivors_forall (P := fun op => op.avoids w0.self ∧ op.unforged) hops)
  rw [← C15_runF_is_run_of_survivors_reach] at hx
  obtain ⟨hl, hb, _⟩ := hx
  constructor
  · intro k l hm he hf
    have hgood := hl k l hm he
    obtain ⟨h1, h2, _⟩ := C15_retry_succeeds_reach w0 fops fail _ hf hgood
    have e1 : (stepF fail (runF w0 fops) (.exec l.creator [] l.exitMsg)).1 = runF w0 fops := by
      rw [h2]
    exact ⟨h1, e1, by rw [e1]; exact hm, by rw [e1]; exact hgood⟩
  · intro k b hm hf
    have hgood := hb k b hm
    obtain ⟨h1, h2, _⟩ := C15_retry_succeeds_reach w0 fops fail _ hf hgood
    have e1 : (stepF fail (runF w0 fops) (.exec b.owner [] (.removeBucket k.2))).1 = runF w0 fops := by
      rw [h2]
    exact ⟨h1, e1, by rw [e1]; exact hm, by rw [e1]; exact hgood⟩

/-! ### the sample history with faults

From the concrete deployment `deployedEx` the first six operations of `SummaryEx.ops`
(Props/Summary.lean: up to the switch of the fee denomination, before the withdrawal of the
purchased listing 4) are run with EVERY dispatch failing (`always`): these six transactions emit no
message, so they all go through.  Then account 1's withdrawal of the
purchased listing 4 (one message: 10 of denom 0 to account 1) is aborted twice — once with every
dispatch failing, once with exactly message 0 failing — and so is its removal of bucket 5.
`fopsRetry` adds the fault-free retry of the withdrawal. -/

namespace C15REx
def always : Nat → Bool := fun _ => true
def failAt (k : Nat) : Nat → Bool := fun i => i == k
def opWd : Op := .exec 1 [] (.withdrawPurchased 4)
def opRm : Op := .exec 1 [] (.removeBucket 5)
def fops : List FOp :=
  (SummaryEx.ops.take 6).map (fun op => (always, op)) ++
    [(always, opWd), (failAt 0, opWd), (always, opRm)]
def fopsRetry : List FOp := fops ++ [(failAt 1, opWd)]
def w : World := runF deployedEx fops
end C15REx

-- the faulty history: six survivors, three aborted payouts; listing 4 (sold) and bucket 5 are
-- still stored, the marketplace still holds the 10 + 10 coins
example : survivors deployedEx C15REx.fops = SummaryEx.ops.take 6 ∧
    C15REx.w.mkt.listings.length = 1 ∧ C15REx.w.mkt.buckets.length = 1 ∧
    lget C15REx.w.bank (9, 0) = 10 ∧ lget C15REx.w.bank (9, 2) = 10 ∧
    lget C15REx.w.bank (1, 0) = 0 := by decide +kernel

-- `C15_all_or_nothing_reach`, "nothing": the withdrawal emits one message and `always` /
-- `failAt 0` hit it …
example : (step C15REx.w C15REx.opWd).2.ok = true ∧
    (step C15REx.w C15REx.opWd).2.msgs = [.bankSend 1 [⟨0, 10⟩]] ∧
    (∃ k, k < (step C15REx.w C15REx.opWd).2.msgs.length ∧ C15REx.failAt 0 k = true) ∧
    (stepF (C15REx.failAt 0) C15REx.w C15REx.opWd).2.ok = false :=
  ⟨by decide +kernel, by decide +kernel, ⟨0, by decide +kernel, rfl⟩, by decide +kernel⟩
-- … "all": `failAt 1` spares it, and the faulty step is accepted
example : (∀ k, k < (step C15REx.w C15REx.opWd).2.msgs.length → C15REx.failAt 1 k = false) ∧
    (stepF (C15REx.failAt 1) C15REx.w C15REx.opWd).2.ok = true := by decide +kernel
-- a transaction that is refused for a reason of its own (a stranger's withdrawal) emits nothing:
-- the second case applies, with the same refusal
example : (step C15REx.w (.exec 2 [] (.withdrawPurchased 4))).2.ok = false ∧
    (∀ k, k < (step C15REx.w (.exec 2 [] (.withdrawPurchased 4))).2.msgs.length →
      C15REx.always k = false) := by decide +kernel

-- after the retry (with a fault that misses) the survivors are the whole history of
-- Props/Summary.lean and the goods have reached the buyer
example : survivors deployedEx C15REx.fopsRetry = SummaryEx.ops ∧
    (runF deployedEx C15REx.fopsRetry).mkt.listings = [] ∧
    lget (runF deployedEx C15REx.fopsRetry).bank (1, 0) = 10 := by decide +kernel
example : okRun deployedEx (survivors deployedEx C15REx.fopsRetry) :=
  C15_survivors_accepted_reach _ _

-- hypotheses of the `_under_faults_reach` theorems: instantiation, deployment, and the conditions
-- on the operations
example : deployedEx.mkt = instantiate 1700000000123456789 (some 7) := rfl
example : Deployed deployedEx := C02WEx.deployedEx_ok
example : ∀ p ∈ C15REx.fopsRetry, p.2.avoids deployedEx.self ∧ p.2.honest deployedEx := by decide
example : ∀ p ∈ C15REx.fopsRetry, p.2.avoids deployedEx.self ∧ p.2.unforged := by decide
example : Backed (runF deployedEx C15REx.fopsRetry) :=
  C15_backed_under_faults_reach C02WEx.deployedEx_ok _ (by decide)
-- listing 4 is bought exactly once although purchases and payouts were attempted under faults;
-- a second purchase attempt is refused
example : buysOfF 4 deployedEx C15REx.fopsRetry = 1 := by decide +kernel
example : (stepF C15REx.always (runF deployedEx ((SummaryEx.ops.take 3).map fun op => (C15REx.always, op)))
    (.exec 1 [] (.buy 4 5))).2.ok = true := by decide +kernel
-- retry: hypotheses of `C15_retry_succeeds_reach`
example : (stepF C15REx.always (runF deployedEx C15REx.fops) C15REx.opWd).2.ok = false ∧
    (step (runF deployedEx C15REx.fops) C15REx.opWd).2.ok = true := by decide +kernel

-- hypotheses of `C15_exit_after_fault_reach`: the sold listing 4 is stored, exitable, its exit
-- message is account 1's withdrawal and is aborted under `always`; bucket 5 likewise
example : (C15REx.w.mkt.listings.all fun p => decide (p.2.exitable C15REx.w.nowNs) &&
      decide (Op.exec p.2.creator [] p.2.exitMsg = C15REx.opWd) &&
      !(stepF C15REx.always C15REx.w (.exec p.2.creator [] p.2.exitMsg)).2.ok) = true ∧
    C15REx.w.mkt.listings ≠ [] := by decide +kernel
example : (C15REx.w.mkt.buckets.all fun p =>
      decide (Op.exec p.2.owner [] (.removeBucket p.1.2) = C15REx.opRm) &&
      !(stepF C15REx.always C15REx.w (.exec p.2.owner [] (.removeBucket p.1.2))).2.ok) = true ∧
    C15REx.w.mkt.buckets ≠ [] := by decide +kernel

#print axioms C15_all_or_nothing_reach
#print axioms C15_accepted_iff_reach
#print axioms C15_nothing_fields_reach
#print axioms C15_runF_is_run_of_survivors_reach
#print axioms C15_survivors_sublist_reach
#print axioms C15_survivors_accepted_reach
#print axioms C15_ids_under_faults_reach
#print axioms C15_wf_under_faults_reach
#print axioms C15_backed_under_faults_reach
#print axioms C15_sold_once_under_faults_reach
#print axioms C15_second_buy_refused_under_faults_reach
#print axioms C15_retry_succeeds_reach
#print axioms C15_exit_after_fault_reach

end Fuzion
