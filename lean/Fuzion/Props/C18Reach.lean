/-
  Fuzion.Props.C18Reach — what forged hook calls cannot do, in EVERY reached state.

  Property text (C18): "A third-party contract cannot alter or freeze someone else's escrow."
  The full property is FALSE of the code (known finding, `Props/C18.lean`): any contract may call the
  `Receive` / `ReceiveNft` hooks directly and name an arbitrary `sender`.  `Props/C18Partial.lean`
  bounds one such call under the id invariant `IdsInv` as a hypothesis.  Here the invariant is
  DISCHARGED (`Deployed.ids`, i.e. `C09_reach`: it holds after every list of operations, forged calls
  included), so the bounds hold in every state `𝐰 = run w0 ops` reached from a deployment `w0` by
  ANY history `ops` — no `Op.unforged`, not even `Op.avoids` is needed — and they are lifted from
  one forged call to whole lists of forged calls.  That an account cannot forge (d) needs no
  invariant: there `w0` is any world.

  A *forged call* is an operation `.exec caller funds (.receive sender x inner)` or
  `.exec caller funds (.receiveNft sender x inner)`: the hook is called directly, by anybody, with or
  without coins (`Op.hookCaller op = some caller`; genuine deposits are `.send20` / `.send721`).
-/
import Fuzion.Lemmas.ForgeReachLemmas
import Fuzion.Props.C18Partial
import Fuzion.Props.C01Closed
namespace Fuzion

/-- the caller of a direct hook call; `none` exactly for the `Op.unforged` operations
    (Props/C07.lean); `Op.forgedBy` (Lemmas/ForgeReachLemmas.lean) puts a condition on the caller,
    per hook -/
def Op.hookCaller : Op → Option Nat
  | .exec c _ (.receive _ _ _) => some c
  | .exec c _ (.receiveNft _ _ _) => some c
  | _ => none

def forgersOf (ops : List Op) : List Nat := ops.filterMap Op.hookCaller

theorem Op.hookCaller_eq_some {o : Op} {c : Nat} (h : o.hookCaller = some c) :
    ∃ f s x i, o = .exec c f (.receive s x i) ∨ o = .exec c f (.receiveNft s x i) := by
  cases o with
  | exec c' f msg =>
    cases msg with
    | receive s x i => exact ⟨f, s, x, i, .inl (Option.some.inj h ▸ rfl)⟩
    | receiveNft s x i => exact ⟨f, s, x, i, .inr (Option.some.inj h ▸ rfl)⟩
    | _ => cases h
  | _ => cases h

theorem Op.forgedBy_of_hookCaller {P : Nat → Prop} {o : Op} {c : Nat} (h : o.hookCaller = some c)
    (hP : P c) : o.forgedBy P P := by
  obtain ⟨f, s, x, i, rfl | rfl⟩ := Op.hookCaller_eq_some h <;> exact hP

/-- the example world of `Props/C18.lean` (it has the hostile contract 6) is a deployment -/
theorem c18World_deployed : Deployed c18World := by
  refine ⟨⟨1700000000123456789, some 7, rfl⟩, ?_, ?_, ?_, rfl, by decide⟩
  · intro d; simp [c18World, lget, alookup]
  · intro t; simp [c18World, lget]
  · intro k; simp [c18World]

section
variable {w0 : World} (ops : List Op) (op : Op) (ops' : List Op)
/-- the state reached by the history -/
local notation "𝐰" => run w0 ops
/-- … after one more operation `op` -/
local notation "𝐰₁" => Prod.fst (step 𝐰 op)
/-- … after the continuation `ops'` -/
local notation "𝐰'" => run 𝐰 ops'

/-! ### (a) one forged call -/

/-- "A third-party contract cannot alter … someone else's escrow" — what holds of ONE accepted forged
    hook call in any reachable state: one record of the named sender is written, a bucket or a
    listing in preparation, and the only possible difference is an entry keyed by the caller's own
    address. -/
theorem C18_forged_step_confined_reach (hd : Deployed w0) (caller : Nat) (funds : List Coin)
    (sender : RawAddr) (x : Nat) (inner : Option Inner)
    (hop : op = .exec caller funds (.receive sender x inner) ∨
      op = .exec caller funds (.receiveNft sender x inner))
    (hok : (step 𝐰 op).2.ok = true) :
    funds = [] ∧ (step 𝐰 op).2.msgs = [] ∧ 𝐰₁ = { 𝐰 with mkt := 𝐰₁.mkt } ∧
    ∃ user, sender = .valid user ∧
      -- ONE record, of the named sender
      (∃ k0 : Nat × Nat, k0.1 = user ∧
        (∀ k, k ≠ k0 → alookup k 𝐰₁.mkt.listings = alookup k 𝐰.mkt.listings ∧
          alookup k 𝐰₁.mkt.buckets = alookup k 𝐰.mkt.buckets) ∧
        (𝐰₁.mkt.listings = 𝐰.mkt.listings ∨ 𝐰₁.mkt.buckets = 𝐰.mkt.buckets)) ∧
      -- every existing listing
      (∀ k l, alookup k 𝐰.mkt.listings = some l → ∃ l', alookup k 𝐰₁.mkt.listings = some l' ∧
        (l.status ≠ .preparing → l' = l) ∧
        l'.creator = l.creator ∧ l'.id = l.id ∧ l'.status = l.status ∧ l'.ask = l.ask ∧
        l'.whitelist = l.whitelist ∧ l'.claimant = l.claimant ∧ l'.finalizedAt = l.finalizedAt ∧
        l'.expiresAt = l.expiresAt ∧ l'.fee = l.fee ∧ l'.forSale.native = l.forSale.native ∧
        (∀ t, t ≠ caller → coinAmt l'.forSale.cw20 t = coinAmt l.forSale.cw20 t) ∧
        coinAmt l.forSale.cw20 caller ≤ coinAmt l'.forSale.cw20 caller ∧
        (l'.forSale.nfts = l.forSale.nfts ∨ l'.forSale.nfts = l.forSale.nfts ++ [⟨caller, x⟩])) ∧
      -- every existing bucket
      (∀ k b, alookup k 𝐰.mkt.buckets = some b → ∃ b', alookup k 𝐰₁.mkt.buckets = some b' ∧
        b'.owner = b.owner ∧ b'.fee = b.fee ∧ b'.funds.native = b.funds.native ∧
        (∀ t, t ≠ caller → coinAmt b'.funds.cw20 t = coinAmt b.funds.cw20 t) ∧
        coinAmt b.funds.cw20 caller ≤ coinAmt b'.funds.cw20 caller ∧
        (b'.funds.nfts = b.funds.nfts ∨ b'.funds.nfts = b.funds.nfts ++ [⟨caller, x⟩])) ∧
      -- a record that is new
      (∀ k l', alookup k 𝐰.mkt.listings = none → alookup k 𝐰₁.mkt.listings = some l' →
        k.1 = user ∧ l'.creator = user ∧ l'.id = k.2 ∧ l'.status = .preparing ∧
        l'.forSale.native = [] ∧ (∀ c ∈ l'.forSale.cw20, c.key = caller) ∧
        (∀ n ∈ l'.forSale.nfts, n.coll = caller)) ∧
      (∀ k b', alookup k 𝐰.mkt.buckets = none → alookup k 𝐰₁.mkt.buckets = some b' →
        k.1 = user ∧ b'.owner = user ∧ b'.fee = none ∧
        b'.funds.native = [] ∧ (∀ c ∈ b'.funds.cw20, c.key = caller) ∧
        (∀ n ∈ b'.funds.nfts, n.coll = caller)) := by
  have hI : IdsInv 𝐰.mkt := hd.ids ops
  -- the asset the hook books: `x` of the token `caller`, resp. the NFT `x` of the collection `caller`
  obtain ⟨a, ha⟩ : ∃ a : Asset,
      op = .exec caller funds (.receive sender x inner) ∧ a = .funds (.cw20 ⟨caller, x⟩) ∨
      op = .exec caller funds (.receiveNft sender x inner) ∧ a = .nft ⟨caller, x⟩ :=
    hop.elim (fun h => ⟨_, .inl ⟨h, rfl⟩⟩) fun h => ⟨_, .inr ⟨h, rfl⟩⟩
  obtain ⟨rfl, user, m', hu, hc, hs⟩ := forged_step_accepted ha hok
  obtain ⟨⟨f1, f2, f3⟩, htop⟩ := hookAsset_keyed (ha.imp And.right And.right)
  rw [hs]
  refine ⟨rfl, rfl, rfl, user, hu, hc.one, fun k l hl => ?_, fun k b hb => ?_,
    fun k l' h1 h2 => ?_, fun k b' h1 h2 => ?_⟩
  · exact hc.listing_ext hI hl ⟨rfl, fun _ _ => rfl, Nat.le_refl _, .inl rfl⟩ fun nf => htop _ nf
  · exact hc.bucket_ext hb ⟨rfl, fun _ _ => rfl, Nat.le_refl _, .inl rfl⟩ fun nf => htop _ nf
  · -- of `new_listing`: the key's account, creator, id, status and (last) the goods = `a.bal`
    obtain ⟨a1, _, _, a4, a5, a6, _, _, a9⟩ := hc.new_listing h1 h2
    rw [a9]; exact ⟨a1, a4, a5, a6, f1, f2, f3⟩
  · obtain ⟨a1, _, _, rfl⟩ := hc.new_bucket h1 h2
    exact ⟨a1, rfl, rfl, f1, f2, f3⟩

/-- non-vacuity of (a): from the deployment `c18World`, after the victim's two deposits
    (`c18Setup`), the forged calls of `Props/C18.lean` have the required shape and are accepted -/
example : Deployed c18World ∧
    forge20Bucket = .exec 6 [] (.receive (.valid 1) 5 (some (.addToBucket 3))) ∧
    forge721Listing = .exec 6 [] (.receiveNft (.valid 1) 1 (some (.addToListing 5))) ∧
    (step (run c18World c18Setup) forge20Bucket).2.ok = true ∧
    (step (run c18World c18Setup) forge721Listing).2.ok = true :=
  ⟨c18World_deployed, rfl, rfl, C18_forged_accepted.1, C18_counterexample_listing.2.2.1⟩

/-! ### (b) finalized and sold listings -/

theorem C18_finalized_immune_run_reach (hd : Deployed w0)
    (hops : ∀ o ∈ ops', o.hookCaller ≠ none)
    (k : Nat × Nat) (l : Listing) (hl : alookup k 𝐰.mkt.listings = some l)
    (hs : l.status ≠ .preparing) : alookup k 𝐰'.mkt.listings = some l := by
  have hf : ∀ o ∈ ops', o.forgedBy (fun _ => True) (fun _ => True) := fun o ho =>
    have ⟨_, hc⟩ := Option.ne_none_iff_exists'.1 (hops o ho)
    Op.forgedBy_of_hookCaller hc trivial
  obtain ⟨l', e, hx⟩ := (forged_run_rel 𝐰 (hd.ids ops) ops' hf).2.listing k l hl
  rw [e, hx.frozen hs]

/-- "cannot alter … someone else's escrow", finalized part: whatever a forged hook call does, accepted
    or refused. -/
theorem C18_finalized_immune_reach (hd : Deployed w0) (caller : Nat) (hop : op.hookCaller = some caller)
    (k : Nat × Nat) (l : Listing) (hl : alookup k 𝐰.mkt.listings = some l)
    (hs : l.status ≠ .preparing) : alookup k 𝐰₁.mkt.listings = some l :=
  C18_finalized_immune_run_reach ops [op] hd
    (fun o ho => by rw [List.mem_singleton.1 ho, hop]; exact Option.some_ne_none _) k l hl hs

/-- the victim's listing 5 is finalized; the hostile contract then forges four calls -/
def c18Finalized : List Op := c18Setup ++ [.exec 1 [] (.finalize 5 600)]
def c18Forgeries : List Op := [forge20Bucket, forge721Bucket, forge20Listing, forge721Listing]

/-- non-vacuity of (b): in the reached state listing 5 is finalized, stored under key (1, 5), the
    four operations are hook calls, and the two aimed at the bucket are accepted -/
example : Deployed c18World ∧
    (∀ o ∈ c18Forgeries, o.hookCaller ≠ none) ∧ forge20Bucket.hookCaller = some 6 ∧
    ((alookup (1, 5) (run c18World c18Finalized).mkt.listings).map (·.status)) = some .finalized ∧
    (step (run c18World c18Finalized) forge20Bucket).2.ok = true ∧
    (step (step (run c18World c18Finalized) forge20Bucket).1 forge721Bucket).2.ok = true :=
  ⟨c18World_deployed, by decide, rfl, by decide +kernel⟩

/-! ### (c) whole lists of forged calls -/

/-- "cannot alter … someone else's escrow" — what survives ANY list `ops'` of forged hook calls made
    in any reachable state, where the callers of the CW20 hook satisfy `P20` and the callers of the
    CW721 hook satisfy `P721`: what the victim deposited is never reduced, removed or re-keyed; only
    entries keyed by the forgers' own addresses are added. -/
theorem C18_honest_entries_frozen_reach (hd : Deployed w0) (P20 P721 : Nat → Prop)
    (hops : ∀ o ∈ ops', o.forgedBy P20 P721) :
    𝐰' = { 𝐰 with mkt := 𝐰'.mkt } ∧
    𝐰'.mkt.feeKind = 𝐰.mkt.feeKind ∧ 𝐰'.mkt.feeSince = 𝐰.mkt.feeSince ∧
    𝐰'.mkt.registry = 𝐰.mkt.registry ∧
    (∀ k l, alookup k 𝐰.mkt.listings = some l → ∃ l', alookup k 𝐰'.mkt.listings = some l' ∧
      (l.status ≠ .preparing → l' = l) ∧
      l'.creator = l.creator ∧ l'.id = l.id ∧ l'.status = l.status ∧ l'.ask = l.ask ∧
      l'.whitelist = l.whitelist ∧ l'.claimant = l.claimant ∧ l'.finalizedAt = l.finalizedAt ∧
      l'.expiresAt = l.expiresAt ∧ l'.fee = l.fee ∧ l'.forSale.native = l.forSale.native ∧
      (∀ t, ¬ P20 t → coinAmt l'.forSale.cw20 t = coinAmt l.forSale.cw20 t) ∧
      (∀ t, coinAmt l.forSale.cw20 t ≤ coinAmt l'.forSale.cw20 t) ∧
      (∃ extra, l'.forSale.nfts = l.forSale.nfts ++ extra ∧ ∀ n ∈ extra, P721 n.coll)) ∧
    (∀ k b, alookup k 𝐰.mkt.buckets = some b → ∃ b', alookup k 𝐰'.mkt.buckets = some b' ∧
      b'.owner = b.owner ∧ b'.fee = b.fee ∧ b'.funds.native = b.funds.native ∧
      (∀ t, ¬ P20 t → coinAmt b'.funds.cw20 t = coinAmt b.funds.cw20 t) ∧
      (∀ t, coinAmt b.funds.cw20 t ≤ coinAmt b'.funds.cw20 t) ∧
      (∃ extra, b'.funds.nfts = b.funds.nfts ++ extra ∧ ∀ n ∈ extra, P721 n.coll)) := by
  obtain ⟨e, rel⟩ := forged_run_rel 𝐰 (hd.ids ops) ops' hops
  refine ⟨e, rel.feeKind, rel.feeSince, rel.registry, ?_, ?_⟩
  · intro k l hl
    obtain ⟨l', e', x⟩ := rel.listing k l hl
    exact ⟨l', e', x.frozen, x.creator, x.id, x.status, x.ask, x.whitelist, x.claimant,
      x.finalizedAt, x.expiresAt, x.fee, x.goods.native, x.goods.cw20_same, x.goods.cw20_le,
      x.goods.nfts⟩
  · intro k b hb
    obtain ⟨b', e', x⟩ := rel.bucket k b hb
    exact ⟨b', e', x.owner, x.fee, x.funds.native, x.funds.cw20_same, x.funds.cw20_le, x.funds.nfts⟩

/-- (c) with the forgers read off the list -/
theorem C18_forgers_only_reach (hd : Deployed w0) (hops : ∀ o ∈ ops', o.hookCaller ≠ none) :
    (∀ k l, alookup k 𝐰.mkt.listings = some l → ∃ l', alookup k 𝐰'.mkt.listings = some l' ∧
      l'.creator = l.creator ∧ l'.status = l.status ∧ l'.forSale.native = l.forSale.native ∧
      (∀ t, t ∉ forgersOf ops' → coinAmt l'.forSale.cw20 t = coinAmt l.forSale.cw20 t) ∧
      (∀ n : Nft, n.coll ∉ forgersOf ops' → (n ∈ l'.forSale.nfts ↔ n ∈ l.forSale.nfts))) ∧
    (∀ k b, alookup k 𝐰.mkt.buckets = some b → ∃ b', alookup k 𝐰'.mkt.buckets = some b' ∧
      b'.owner = b.owner ∧ b'.funds.native = b.funds.native ∧
      (∀ t, t ∉ forgersOf ops' → coinAmt b'.funds.cw20 t = coinAmt b.funds.cw20 t) ∧
      (∀ n : Nft, n.coll ∉ forgersOf ops' → (n ∈ b'.funds.nfts ↔ n ∈ b.funds.nfts))) :=
  have hf : ∀ o ∈ ops', o.forgedBy (· ∈ forgersOf ops') (· ∈ forgersOf ops') := fun o ho =>
    have ⟨_, hc⟩ := Option.ne_none_iff_exists'.1 (hops o ho)
    Op.forgedBy_of_hookCaller hc (List.mem_filterMap.2 ⟨o, ho, hc⟩)
  (forged_run_rel 𝐰 (hd.ids ops) ops' hf).2.outside (fun _ h => h) (fun _ h => h)

/-- (c) for the honest assets, under the condition of C01 only (`Op.honest w0`: hostile contracts may
    forge freely) -/
theorem C18_honest_tokens_frozen_reach (hd : Deployed w0)
    (hops : ∀ o ∈ ops', o.hookCaller ≠ none ∧ o.honest w0) :
    (∀ k l, alookup k 𝐰.mkt.listings = some l → ∃ l', alookup k 𝐰'.mkt.listings = some l' ∧
      l'.creator = l.creator ∧ l'.status = l.status ∧ l'.forSale.native = l.forSale.native ∧
      (∀ t, w0.isHonest20 t = true → coinAmt l'.forSale.cw20 t = coinAmt l.forSale.cw20 t) ∧
      (∀ n : Nft, w0.isHonest721 n.coll = true → (n ∈ l'.forSale.nfts ↔ n ∈ l.forSale.nfts))) ∧
    (∀ k b, alookup k 𝐰.mkt.buckets = some b → ∃ b', alookup k 𝐰'.mkt.buckets = some b' ∧
      b'.owner = b.owner ∧ b'.funds.native = b.funds.native ∧
      (∀ t, w0.isHonest20 t = true → coinAmt b'.funds.cw20 t = coinAmt b.funds.cw20 t) ∧
      (∀ n : Nft, w0.isHonest721 n.coll = true → (n ∈ b'.funds.nfts ↔ n ∈ b.funds.nfts))) := by
  have hf : ∀ o ∈ ops', o.forgedBy (fun c => w0.isHonest20 c = false)
      (fun c => w0.isHonest721 c = false) := by
    intro o ho
    obtain ⟨hne, hh⟩ := hops o ho
    obtain ⟨c, hc⟩ := Option.ne_none_iff_exists'.1 hne
    obtain ⟨f, s, x, i, rfl | rfl⟩ := Op.hookCaller_eq_some hc <;> exact hh
  exact (forged_run_rel 𝐰 (hd.ids ops) ops' hf).2.outside (Q20 := fun t => w0.isHonest20 t = true)
    (Q721 := fun c => w0.isHonest721 c = true) (fun _ ht hf => Bool.eq_false_iff.1 hf ht)
    (fun _ ht hf => Bool.eq_false_iff.1 hf ht)

theorem c18Forgeries_forged : ∀ o ∈ c18Forgeries, o.forgedBy (· = 6) (· = 6) := by
  intro o ho
  simp only [c18Forgeries, List.mem_cons, List.mem_nil_iff, or_false] at ho
  rcases ho with rfl | rfl | rfl | rfl <;> exact rfl

/-- non-vacuity of (c): after the victim's deposits the hostile contract 6 forges four calls, all
    hook calls by a contract that is not an honest token, all accepted; the victim's bucket (1, 3)
    still holds its 10 of denom 0, now followed by junk keyed 6 -/
example : Deployed c18World ∧
    (∀ o ∈ c18Forgeries, o.forgedBy (· = 6) (· = 6)) ∧
    (∀ o ∈ c18Forgeries, o.hookCaller ≠ none ∧ o.honest c18World) ∧
    forgersOf c18Forgeries = [6, 6, 6, 6] ∧
    (step (run c18World c18Setup) forge20Bucket).2.ok = true ∧
    (step (run (run c18World c18Setup) [forge20Bucket]) forge721Bucket).2.ok = true ∧
    (step (run (run c18World c18Setup) [forge20Bucket, forge721Bucket]) forge20Listing).2.ok = true ∧
    (step (run (run c18World c18Setup) [forge20Bucket, forge721Bucket, forge20Listing])
      forge721Listing).2.ok = true ∧
    (alookup (1, 3) (run (run c18World c18Setup) c18Forgeries).mkt.buckets).map (·.funds) =
      some ⟨[⟨0, 10⟩], [⟨6, 5⟩], [⟨6, 1⟩]⟩ := by
  refine ⟨c18World_deployed, c18Forgeries_forged, by decide, by decide, ?_⟩
  rw [c18State_eq]; decide +kernel

/-! ### (d) accounts cannot forge -/

/-- "an account cannot forge at all", in every state reached from ANY initial world (no operation
    ever adds a contract) -/
theorem C18_accounts_cannot_forge_reach (acct : Nat) (hacct : w0.kindOf acct = none)
    (funds : List Coin) (sender : RawAddr) (x : Nat) (inner : Option Inner)
    (hop : op = .exec acct funds (.receive sender x inner) ∨
      op = .exec acct funds (.receiveNft sender x inner)) :
    (step 𝐰 op).2.ok = false ∧ 𝐰₁ = 𝐰 := by
  have hk : ((run w0 ops).kindOf acct).isSome = false := by
    rw [← Option.isSome_map (f := (·.kind)), run_kind, hacct]; rfl
  have hfail : (step 𝐰 op).2.ok = false := Bool.eq_false_iff.2 fun hok => by
    rcases hop with rfl | rfl
    · obtain ⟨_, ci, hci, _⟩ := (C18_partial_gate_world 𝐰 acct funds sender x inner).1 hok
      rw [hci] at hk; cases hk
    · obtain ⟨_, h⟩ := (C18_partial_gate_world 𝐰 acct funds sender x inner).2 hok
      rw [h] at hk; cases hk
  exact ⟨hfail, stepF_failed_noop noFault 𝐰 op hfail⟩

/-- non-vacuity of (d): account 2 is not a contract of the deployment `c18World`; the same two calls
    made by the contract 6 are accepted in the reached state -/
example : c18World.kindOf 2 = none ∧
    (step (run c18World c18Setup) (.exec 6 [] (.receive (.valid 1) 5 (some (.addToBucket 3))))).2.ok = true ∧
    (step (run c18World c18Setup) (.exec 6 [] (.receiveNft (.valid 1) 1 (some (.addToBucket 3))))).2.ok = true :=
  ⟨by decide, C18_forged_accepted.1, C18_counterexample_nft.1⟩

end

#print axioms C18_forged_step_confined_reach
#print axioms C18_finalized_immune_reach
#print axioms C18_finalized_immune_run_reach
#print axioms C18_honest_entries_frozen_reach
#print axioms C18_forgers_only_reach
#print axioms C18_honest_tokens_frozen_reach
#print axioms C18_accounts_cannot_forge_reach
#print axioms c18World_deployed
#print axioms Op.hookCaller_eq_some
#print axioms Op.forgedBy_of_hookCaller
end Fuzion
