/-
  Fuzion.Props.C06Closed — the purchase theorems of Props/C06.lean for every state `run w0 ops`
  with `w0.mkt = instantiate t r`.  They assume, of the state in which `buy` runs,
  * `WFInv j u m` (C12) and, for two of them, `IdsInv m` (C09) — discharged here by `C12_reach` /
    `C09_reach`;
  * `∀ p ∈ m.listings, p.2.forSale.bounded` and `∀ p ∈ m.buckets, p.2.funds.bounded`: every stored
    amount is a `Uint128` — discharged here by the invariant `BoundedInv` (Lemmas/ClosedLemmas.lean,
    "128-bit amounts"), which every operation preserves **provided the amounts the operations
    themselves carry are `Uint128`s** (`Op.fits128`).  This is an input-side hypothesis on `ops` and
    it cannot be dropped in the model: amounts are unbounded naturals there, and a forged hook call
    (finding C18) may report any number, whatever the token supplies are; in the Rust no message
    can violate it.  No supply bound on the initial world is needed.

  What remains: the input of the purchase itself (`hfd` names the fee denomination in force; `h` /
  `hok` says the purchase was accepted).
-/
import Fuzion.Props.C06
import Fuzion.Lemmas.ClosedLemmas
namespace Fuzion

/-! ### sample reachable state for the examples

From the sample deployment `AcctEx.w0`, the first six operations of `AcctEx.ops`
(Lemmas/AcctLemmas.lean): the goods of seller 1's finalized listing 3 hold 1000 of denom 1 (the fee
denomination) and NFT (60, 7) of the registered collection 60 (2.5 %, payout address 6 after the
registry update); buyer 2's bucket 8 holds the price.  The next operation of the history is the
purchase. -/

namespace C06CEx
def ops : List Op := AcctEx.ops.take 6
def w : World := run AcctEx.w0 ops

theorem fits : ∀ op ∈ ops, op.fits128 := by decide
/-- the purchase is accepted in the reached state -/
theorem buy_ok : (step (run AcctEx.w0 ops) (.exec 2 [] (.buy 3 8))).2.ok = true := by decide +kernel
end C06CEx

/-- the hypotheses shared by all theorems of this file are met: instantiated, 128-bit operations,
    and the purchase is accepted in the reached state (by the handler and as a transaction) -/
example : AcctEx.w0.mkt = instantiate 0 (some 102) ∧ (∀ op ∈ C06CEx.ops, op.fits128) ∧
    C12Ex.errOf (buy C06CEx.w.mkt C06CEx.w.env 2 3 8) = none ∧
    (step C06CEx.w (.exec 2 [] (.buy 3 8))).2.ok = true :=
  ⟨rfl, C06CEx.fits, by decide +kernel, by decide +kernel⟩

section
variable {w0 : World} {t : Nat} {r : Option Nat}

/-- "each side is reduced by exactly floor(0.5%) of its amount in the current fee denomination
    (when present and non-zero) and then, for every distinct royalty-registered collection among
    the NFTs the seller is selling (charged to the bucket) or the buyer is paying with (charged to
    the listing goods), by floor(bps/10000 x post-fee amount) of every fungible asset on that
    side" — for a purchase accepted in any reachable state.  (a) recorded fees, (b) amounts per
    denomination / token, (c) NFTs unchanged, (d) the other fields, as in `C06_buy_effect`. -/
theorem C06_buy_effect_reach (h0 : w0.mkt = instantiate t r) (ops : List Op)
    (hfit : ∀ op ∈ ops, op.fits128) {m' : Market} {env : Env} {buyer lid bid fd : Nat}
    {out : List OutMsg} (hfd : fd = feeDenomOf env (run w0 ops).mkt.feeKind)
    (h : buy (run w0 ops).mkt env buyer lid bid = .ok (m', out)) :
    ∃ l b l' b',
      alookup (l.creator, lid) (run w0 ops).mkt.listings = some l ∧
      alookup (buyer, bid) (run w0 ops).mkt.buckets = some b ∧
      alookup (buyer, lid) m'.listings = some l' ∧ alookup (l.creator, bid) m'.buckets = some b' ∧
      -- (a)
      b'.fee = feeOf fd b.funds ∧ l'.fee = feeOf fd l.forSale ∧
      -- (b) the bucket, charged with the seller's collections
      (∀ k, coinAmt b'.funds.native k = afterFeeAmt fd b.funds k -
        royaltyOn (sideEntries env l.forSale) (afterFeeAmt fd b.funds k)) ∧
      (∀ k, coinAmt b'.funds.cw20 k = coinAmt b.funds.cw20 k -
        royaltyOn (sideEntries env l.forSale) (coinAmt b.funds.cw20 k)) ∧
      -- (b) the listing goods, charged with the buyer's collections
      (∀ k, coinAmt l'.forSale.native k = afterFeeAmt fd l.forSale k -
        royaltyOn (sideEntries env b.funds) (afterFeeAmt fd l.forSale k)) ∧
      (∀ k, coinAmt l'.forSale.cw20 k = coinAmt l.forSale.cw20 k -
        royaltyOn (sideEntries env b.funds) (coinAmt l.forSale.cw20 k)) ∧
      -- (c)
      b'.funds.nfts = b.funds.nfts ∧ l'.forSale.nfts = l.forSale.nfts ∧
      -- (d)
      l'.ask = l.ask ∧ l'.whitelist = l.whitelist ∧ l'.finalizedAt = l.finalizedAt ∧
      l'.expiresAt = l.expiresAt ∧ l'.id = l.id ∧ l'.creator = buyer ∧ l'.claimant = some buyer ∧
      l'.status = .closed ∧ b'.owner = l.creator :=
  C06_buy_effect hfd (C12_reach h0 ops) (C09_reach h0 ops) (closed_bounded h0 ops hfit).lb
    (closed_bounded h0 ops hfit).bb h

example {m' : Market} {out : List OutMsg}
    (h : buy C06CEx.w.mkt C06CEx.w.env 2 3 8 = .ok (m', out)) :=
  C06_buy_effect_reach (w0 := AcctEx.w0) rfl C06CEx.ops C06CEx.fits rfl h
/-- the sample purchase, computed: the goods keep 995 of denom 1 (fee 5) and the 400 tokens and the
    NFT (the buyer pays with no NFT); the bucket keeps 1950 = 2000 − ⌊2000·250/10⁴⌋ of denom 2 -/
example : (step C06CEx.w (.exec 2 [] (.buy 3 8))).1.mkt.listings.map
      (fun p => (p.1, p.2.fee, p.2.forSale)) =
      [((2, 3), some ⟨1, 5⟩, ⟨[⟨1, 995⟩], [⟨50, 400⟩], [⟨60, 7⟩]⟩)] ∧
    (step C06CEx.w (.exec 2 [] (.buy 3 8))).1.mkt.buckets.map (fun p => (p.1, p.2.fee, p.2.funds)) =
      [((1, 8), none, ⟨[⟨2, 1950⟩], [], []⟩)] := by decide +kernel

/-- "Those royalties are paid to the registered payout addresses in the same transaction": the
    messages of a purchase accepted in any reachable state are the pending fee of the paying
    bucket (if any), then the royalty payouts charged to the bucket, then those charged to the
    listing goods. -/
theorem C06_payouts_reach (h0 : w0.mkt = instantiate t r) (ops : List Op)
    (hfit : ∀ op ∈ ops, op.fits128) {m' : Market} {env : Env} {buyer lid bid fd : Nat}
    {out : List OutMsg} (hfd : fd = feeDenomOf env (run w0 ops).mkt.feeKind)
    (h : buy (run w0 ops).mkt env buyer lid bid = .ok (m', out)) :
    ∃ k l b, findById lid (run w0 ops).mkt.listings = some (k, l) ∧
      alookup (buyer, bid) (run w0 ops).mkt.buckets = some b ∧
      out = pendingFeeMsgs env.self b.fee ++
        royaltyMsgs (sideEntries env l.forSale) (afterFee fd b.funds) ++
        royaltyMsgs (sideEntries env b.funds) (afterFee fd l.forSale) :=
  C06_payouts hfd (C12_reach h0 ops) (closed_bounded h0 ops hfit).lb
    (closed_bounded h0 ops hfit).bb h

example {m' : Market} {out : List OutMsg}
    (h : buy C06CEx.w.mkt C06CEx.w.env 2 3 8 = .ok (m', out)) :=
  C06_payouts_reach (w0 := AcctEx.w0) rfl C06CEx.ops C06CEx.fits rfl h
/-- the sample purchase emits the single royalty transfer of 50 of denom 2 to the payout address 6 -/
example : (step C06CEx.w (.exec 2 [] (.buy 3 8))).2.msgs = [.bankSend 6 [⟨2, 50⟩]] := by
  decide +kernel

/-- "paid to the registered payout addresses … once per collection per side": per payout address
    `p`, a purchase accepted in any reachable state sends `p`, in native denomination `d`, the sum
    over the entries paying to `p` of `⌊bps/10⁴ × post-fee amount of d⌋` of the bucket (entries of
    the seller's collections) plus the same of the listing goods (entries of the buyer's
    collections); likewise per CW20 token. -/
theorem C06_payout_total_reach (h0 : w0.mkt = instantiate t r) (ops : List Op)
    (hfit : ∀ op ∈ ops, op.fits128) {m' : Market} {env : Env} {buyer lid bid fd : Nat}
    {out : List OutMsg} (hfd : fd = feeDenomOf env (run w0 ops).mkt.feeKind)
    (h : buy (run w0 ops).mkt env buyer lid bid = .ok (m', out)) :
    ∃ k l b, findById lid (run w0 ops).mkt.listings = some (k, l) ∧
      alookup (buyer, bid) (run w0 ops).mkt.buckets = some b ∧
      (∀ p d, sentNative out p d =
        royaltyOn ((sideEntries env l.forSale).filter fun e => decide (e.payout = p))
          (afterFeeAmt fd b.funds d) +
        royaltyOn ((sideEntries env b.funds).filter fun e => decide (e.payout = p))
          (afterFeeAmt fd l.forSale d)) ∧
      (∀ p tk, sentCw20 out p tk =
        royaltyOn ((sideEntries env l.forSale).filter fun e => decide (e.payout = p))
          (coinAmt b.funds.cw20 tk) +
        royaltyOn ((sideEntries env b.funds).filter fun e => decide (e.payout = p))
          (coinAmt l.forSale.cw20 tk)) :=
  C06_payout_total hfd (C12_reach h0 ops) (closed_bounded h0 ops hfit).lb
    (closed_bounded h0 ops hfit).bb h

example {m' : Market} {out : List OutMsg}
    (h : buy C06CEx.w.mkt C06CEx.w.env 2 3 8 = .ok (m', out)) :=
  C06_payout_total_reach (w0 := AcctEx.w0) rfl C06CEx.ops C06CEx.fits rfl h

/-- "No other deduction occurs", for a purchase accepted in any reachable state: per native
    denomination, what a side held before the purchase is what it holds afterwards plus the fee
    recorded on the new record plus what the royalty messages charged to that side send out; per
    CW20 token the same without a fee; the amounts sent out are the royalty totals, and they never
    exceed half of what is left after the fee. -/
theorem C06_no_other_deduction_reach (h0 : w0.mkt = instantiate t r) (ops : List Op)
    (hfit : ∀ op ∈ ops, op.fits128) {m' : Market} {env : Env} {buyer lid bid fd : Nat}
    {out : List OutMsg} (hfd : fd = feeDenomOf env (run w0 ops).mkt.feeKind)
    (h : buy (run w0 ops).mkt env buyer lid bid = .ok (m', out)) :
    ∃ l b l' b' msgsB msgsL,
      alookup (l.creator, lid) (run w0 ops).mkt.listings = some l ∧
      alookup (buyer, bid) (run w0 ops).mkt.buckets = some b ∧
      alookup (buyer, lid) m'.listings = some l' ∧ alookup (l.creator, bid) m'.buckets = some b' ∧
      out = pendingFeeMsgs env.self b.fee ++ msgsB ++ msgsL ∧
      msgsB = royaltyMsgs (sideEntries env l.forSale) (afterFee fd b.funds) ∧
      msgsL = royaltyMsgs (sideEntries env b.funds) (afterFee fd l.forSale) ∧
      -- the bucket
      (∀ k, coinAmt b.funds.native k =
        coinAmt b'.funds.native k + feeAmt b'.fee k + outNative msgsB k) ∧
      (∀ k, coinAmt b.funds.cw20 k = coinAmt b'.funds.cw20 k + outCw20 msgsB k) ∧
      (∀ k, outNative msgsB k = royaltyOn (sideEntries env l.forSale) (afterFeeAmt fd b.funds k)) ∧
      (∀ k, outCw20 msgsB k = royaltyOn (sideEntries env l.forSale) (coinAmt b.funds.cw20 k)) ∧
      -- the listing goods
      (∀ k, coinAmt l.forSale.native k =
        coinAmt l'.forSale.native k + feeAmt l'.fee k + outNative msgsL k) ∧
      (∀ k, coinAmt l.forSale.cw20 k = coinAmt l'.forSale.cw20 k + outCw20 msgsL k) ∧
      (∀ k, outNative msgsL k = royaltyOn (sideEntries env b.funds) (afterFeeAmt fd l.forSale k)) ∧
      (∀ k, outCw20 msgsL k = royaltyOn (sideEntries env b.funds) (coinAmt l.forSale.cw20 k)) ∧
      -- the royalties never exceed half of what is left after the fee
      (∀ a, 2 * royaltyOn (sideEntries env l.forSale) a ≤ a) ∧
      (∀ a, 2 * royaltyOn (sideEntries env b.funds) a ≤ a) :=
  C06_no_other_deduction hfd (C12_reach h0 ops) (C09_reach h0 ops)
    (closed_bounded h0 ops hfit).lb (closed_bounded h0 ops hfit).bb h

example {m' : Market} {out : List OutMsg}
    (h : buy C06CEx.w.mkt C06CEx.w.env 2 3 8 = .ok (m', out)) :=
  C06_no_other_deduction_reach (w0 := AcctEx.w0) rfl C06CEx.ops C06CEx.fits rfl h

/-- "Those royalties are paid to the registered payout addresses in the same transaction", at
    world level, in any reachable state: when the purchase transaction is accepted, every message
    of `buy` was dispatched in that very transaction, and every account `p` other than the
    marketplace and the community pool has been credited, per native denomination and per honest
    CW20 token, with exactly the shares of the entries paying to `p` — nothing more, nothing
    less. -/
theorem C06_paid_in_transaction_reach (h0 : w0.mkt = instantiate t r) (ops : List Op)
    (hfit : ∀ op ∈ ops, op.fits128) {buyer lid bid fd : Nat}
    (hfd : fd = feeDenomOf (run w0 ops).env (run w0 ops).mkt.feeKind)
    (hok : (step (run w0 ops) (.exec buyer [] (.buy lid bid))).2.ok = true) :
    ∃ k l b m' out, findById lid (run w0 ops).mkt.listings = some (k, l) ∧
      alookup (buyer, bid) (run w0 ops).mkt.buckets = some b ∧
      buy (run w0 ops).mkt (run w0 ops).env buyer lid bid = .ok (m', out) ∧
      (step (run w0 ops) (.exec buyer [] (.buy lid bid))).2.msgs = out ∧
      (step (run w0 ops) (.exec buyer [] (.buy lid bid))).1.mkt = m' ∧
      ∀ p, p ≠ (run w0 ops).self → p ≠ (run w0 ops).pool →
        (∀ d, lget (step (run w0 ops) (.exec buyer [] (.buy lid bid))).1.bank (p, d) =
          lget (run w0 ops).bank (p, d) +
          (royaltyOn ((sideEntries (run w0 ops).env l.forSale).filter fun e => decide (e.payout = p))
            (afterFeeAmt fd b.funds d) +
           royaltyOn ((sideEntries (run w0 ops).env b.funds).filter fun e => decide (e.payout = p))
            (afterFeeAmt fd l.forSale d))) ∧
        (∀ tk, (run w0 ops).isHonest20 tk = true →
          lget (step (run w0 ops) (.exec buyer [] (.buy lid bid))).1.cw20 (tk, p) =
          lget (run w0 ops).cw20 (tk, p) +
          (royaltyOn ((sideEntries (run w0 ops).env l.forSale).filter fun e => decide (e.payout = p))
            (coinAmt b.funds.cw20 tk) +
           royaltyOn ((sideEntries (run w0 ops).env b.funds).filter fun e => decide (e.payout = p))
            (coinAmt l.forSale.cw20 tk))) :=
  C06_paid_in_transaction hfd (C12_reach h0 ops) (closed_bounded h0 ops hfit).lb
    (closed_bounded h0 ops hfit).bb hok

/-- it applies to the sample purchase; computed: payout address 6 ends up with exactly 50 of denom
    2 -/
example := C06_paid_in_transaction_reach (w0 := AcctEx.w0) rfl C06CEx.ops C06CEx.fits
  (buyer := 2) (lid := 3) (bid := 8) rfl C06CEx.buy_ok
example : lget C06CEx.w.bank (6, 2) = 0 ∧
    lget (step C06CEx.w (.exec 2 [] (.buy 3 8))).1.bank (6, 2) = 50 := by decide +kernel

/-- The purchase in closed form, in any reachable state: an accepted `buy` stores exactly the
    declaratively specified records (`tradedListing`, `tradedBucket`: fee `feeOf`, goods
    `afterRoyalty entries (afterFee fd goods)`) and emits exactly the declaratively specified
    messages; both rate sums are at most 50 %. -/
theorem C06_buy_closed_form_reach (h0 : w0.mkt = instantiate t r) (ops : List Op)
    (hfit : ∀ op ∈ ops, op.fits128) {m' : Market} {env : Env} {buyer lid bid fd : Nat}
    {out : List OutMsg} (hfd : fd = feeDenomOf env (run w0 ops).mkt.feeKind)
    (h : buy (run w0 ops).mkt env buyer lid bid = .ok (m', out)) :
    ∃ k l b, findById lid (run w0 ops).mkt.listings = some (k, l) ∧
      alookup (buyer, bid) (run w0 ops).mkt.buckets = some b ∧
      ((sideEntries env l.forSale).map (·.bps)).sum ≤ 5000 ∧
      ((sideEntries env b.funds).map (·.bps)).sum ≤ 5000 ∧
      m' = { (run w0 ops).mkt with
        listings := ainsert (buyer, lid) (tradedListing env fd buyer l b)
          (aerase (l.creator, lid) (run w0 ops).mkt.listings),
        buckets := ainsert (l.creator, bid) (tradedBucket env fd l b)
          (aerase (buyer, bid) (run w0 ops).mkt.buckets) } ∧
      out = pendingFeeMsgs env.self b.fee ++
        royaltyMsgs (sideEntries env l.forSale) (afterFee fd b.funds) ++
        royaltyMsgs (sideEntries env b.funds) (afterFee fd l.forSale) :=
  C06_buy_closed_form hfd (C12_reach h0 ops) (closed_bounded h0 ops hfit).lb
    (closed_bounded h0 ops hfit).bb h

example {m' : Market} {out : List OutMsg}
    (h : buy C06CEx.w.mkt C06CEx.w.env 2 3 8 = .ok (m', out)) :=
  C06_buy_closed_form_reach (w0 := AcctEx.w0) rfl C06CEx.ops C06CEx.fits rfl h

end

/-- the input-side hypothesis `Op.fits128` is needed in the model: a forged hook call of the
    hostile contract 70 (it answers `TokenInfo`; finding C18) that reports more than
    `Uint128::MAX` units is accepted by the *model* and stores an amount that is not a `Uint128`
    — the Rust cannot even deserialize such a message. -/
example :
    (run AcctEx.w0 [.exec 70 [] (.receive (.valid 5) (U128MAX + 1) (some (.createBucket 4)))]
      ).mkt.buckets.map (fun p => decide p.2.funds.bounded) = [false] := by decide

#print axioms C06_buy_effect_reach
#print axioms C06_payouts_reach
#print axioms C06_payout_total_reach
#print axioms C06_no_other_deduction_reach
#print axioms C06_paid_in_transaction_reach
#print axioms C06_buy_closed_form_reach
#print axioms C06CEx.fits
#print axioms C06CEx.buy_ok

end Fuzion
