/-
  Fuzion.Props.C01Closed — C01 along every history, with the hypotheses `hIds` / `hWF` of
  `C01_backed` supplied by C09 and C12: from any state satisfying `C01Inv` (`C01_backed_closed`), and
  from a deployment (`Deployed`, the start state of the `_reach` / `from_deployment` theorems of
  other properties too), where `C01Inv` holds (`C01_from_deployment`).  The conditions on the
  operations (`Op.avoids`, `Op.honest`) remain.
-/
import Fuzion.Props.C01
import Fuzion.Props.C09
import Fuzion.Props.C12
namespace Fuzion

theorem C01Inv_step {w : World} {op : Op} (h : C01Inv w) (hop : op.avoids w.self)
    (hh : op.honest w) : C01Inv (step w op).1 :=
  h.preserved C09_inv_execute (fun _ hw h => C12_inv_execute hw h) hop hh

/-- = `C01_backed` with `hIds`, `hWF` supplied by `C09_inv_execute`, `C12_inv_execute` -/
theorem C01_backed_closed (ops : List Op) {w : World} (h : C01Inv w)
    (hops : ∀ op ∈ ops, op.avoids w.self ∧ op.honest w) : C01Inv (run w ops) :=
  C01_backed C09_inv_execute (fun _ hw h => C12_inv_execute hw h) ops h hops

theorem C01_check_run_closed {w : World} (h : C01Inv w) (hl : NftLedgerOk w) (ops : List Op)
    (hops : ∀ op ∈ ops, op.avoids w.self ∧ op.honest w) : checkC01 (run w ops) = true :=
  C01_check (C01_backed_closed ops h hops).backed
    (run_invariant (P := NftLedgerOk) (fun _ _ h => stepF_nftLedger h) ops hl)

/-- A deployment: the marketplace has just been instantiated (empty tables, id 0 marked, registry
    address stored), holds nothing — no native coin, no honest token, no honest NFT —, the registry is
    empty and the pool account is not the marketplace. -/
structure Deployed (w : World) : Prop where
  mkt : ∃ t r, w.mkt = instantiate t r
  bank0 : ∀ d, lget w.bank (w.self, d) = 0
  cw200 : ∀ t, lget w.cw20 (t, w.self) = 0
  nft0 : ∀ k, alookup k w.nft ≠ some w.self
  reg0 : w.reg = []
  pool : w.pool ≠ w.self

theorem Deployed.ids {w : World} (h : Deployed w) (ops : List Op) : IdsInv (run w ops).mkt :=
  have ⟨_, _, hm⟩ := h.mkt
  C09_reach hm ops

theorem Deployed.payouts {w : World} (h : Deployed w) (a : Nat) : PayoutsNe w.reg a :=
  fun c e he => by rw [h.reg0] at he; cases he

theorem C01Inv_deployed {w : World} (h : Deployed w) : C01Inv w := by
  obtain ⟨t, r, hm⟩ := h.mkt
  exact ⟨hm ▸ IdsInv.init t r, hm ▸ WFInv.init _ _ t r,
    .empty (by rw [hm]; rfl) (by rw [hm]; rfl) h.bank0 h.cw200 h.nft0, h.pool, h.payouts _⟩

/-- **C01 for every history from deployment**: after any list of ops that are not signed
    by the marketplace and in which no honest token forges a hook call, for each native denomination
    and each honest CW20 token the marketplace's balance equals what the records promise (goods +
    pending fees), and the honest NFTs it owns are exactly the recorded ones, each recorded once. -/
theorem C01_from_deployment {w : World} (h : Deployed w) (ops : List Op)
    (hops : ∀ op ∈ ops, op.avoids w.self ∧ op.honest w) : Backed (run w ops) :=
  (C01_backed_closed ops (C01Inv_deployed h) hops).backed

/-- a concrete deployment (`c18World` of Props/C18.lean without the hostile contract) -/
def deployedEx : World :=
  { self := 9, pool := 8, regAddr := 7, junoD := 0, usdcD := 1, nowNs := 1700000000123456789, height := 1000,
    mkt := instantiate 1700000000123456789 (some 7), reg := [],
    bank := [((1, 0), 10), ((1, 2), 10)], cw20 := [], nft := [],
    contracts := [(9, ⟨none, 0, false, false⟩), (7, ⟨none, 0, false, false⟩)] }

-- the namespace of the sample histories from this world (Props/C02World.lean)
namespace C02WEx

theorem deployedEx_ok : Deployed deployedEx := by
  refine ⟨⟨1700000000123456789, some 7, rfl⟩, ?_, ?_, ?_, rfl, by decide⟩
  · intro d; simp [deployedEx, lget, alookup]
  · intro t; simp [deployedEx, lget]
  · intro k; simp [deployedEx]

end C02WEx

example : Deployed deployedEx := C02WEx.deployedEx_ok

#print axioms C01_backed_closed
#print axioms C01_check_run_closed
#print axioms C01Inv_deployed
#print axioms C01_from_deployment
#print axioms C01Inv_step
#print axioms Deployed.ids
#print axioms Deployed.payouts
#print axioms C02WEx.deployedEx_ok
end Fuzion
