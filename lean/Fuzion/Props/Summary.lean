/-
  Fuzion.Props.Summary — the specification in one place.

  For EVERY history `ops` from a freshly deployed marketplace `w0` (`Deployed`, Props/C01Closed.lean)
  that meets the input-side conditions `CleanHistory`, the reached state `𝐰 = run w0 ops` enjoys all
  of `MarketGuarantees` at once: `guarantees_from_deployment`.  This file proves nothing new: every
  field is discharged by theorems of the other Props files (named in the proof, in field order).
  Property texts: /verif/properties.jsonl.  Reading guide: `step w op = (w', outcome)` is one
  transaction, `outcome.ok` its success flag, `outcome.msgs` the messages it emitted.

  Second half: Props/Summary2.lean (`guarantees2_from_deployment : … → TradeGuarantees w0 ops`) states
  the guarantees of C05, C06, C11, C14, C15, C16, C17 in the same style, and `ForgeGuarantees` what IS
  true of C18 for histories that contain forged hook calls.  The abstract view (who is entitled to
  what; every transaction is a stutter, gain, loss or trade) is Props/Entitlement.lean and
  Props/EntCashout.lean.  Not collected: C13 "between two switches" (`C13_between_switches_reach`
  needs a clock bound on the continuation).
-/
import Fuzion.Props.C02World
import Fuzion.Props.C03Closed
import Fuzion.Props.C03Reach
import Fuzion.Props.C04Closed
import Fuzion.Props.C08Reach
import Fuzion.Props.C10Reach
import Fuzion.Props.C12Reach
import Fuzion.Props.C13Closed
import Fuzion.Props.C19
import Fuzion.Props.OracleSound
namespace Fuzion

/-- What is assumed about the initial world `w0` (beyond `Deployed`) and the history `ops`.
    Every field is a hypothesis of an existing closed theorem, checkable on concrete inputs. -/
structure CleanHistory (w0 : World) (ops : List Op) : Prop where
  /-- no operation is signed by the marketplace contract or registers it as royalty payout address -/
  notSelf : ∀ op ∈ ops, op.avoids w0.self
  /-- likewise for the community-pool account ("nobody else pays the pool"; used by C10 only) -/
  notPool : ∀ op ∈ ops, op.avoids w0.pool
  /-- no direct call of a receive hook: token deposits come through `Send` / `SendNft` (a forged
      hook call is finding C18); implies `Op.honest`, the weaker condition of C01 -/
  unforged : ∀ op ∈ ops, op.unforged
  /-- the `advance` operations keep the block time within a `u64` (used by C13, and by the fee
      query of C16 in Props/Summary2.lean) -/
  clock : w0.nowNs + closed_elapsed ops ≤ U64MAX
  /-- the marketplace was instantiated with the address of the real registry (used by C02, and by
      C11 "exactly half is allowed" in Props/Summary2.lean) -/
  registry : w0.mkt.registry = some w0.regAddr
  /-- the initial NFT ledger is a map and knows honest collections only (used by `checkC01` only) -/
  ledger : NftLedgerOk w0

section
variable (w0 : World) (ops : List Op)
local notation "𝐰" => run w0 ops

/-- The guarantees about the reached state `𝐰 = run w0 ops`: state invariants first, then what holds
    for ANY next transaction from `𝐰` (and any continuation after it). -/
structure MarketGuarantees : Prop where
  /-- C01 "for each native denomination and each CW20 token the marketplace's on-chain balance equals
      the total … promised by open listings, by buckets and by not-yet-paid community-pool fees, and
      the NFTs it owns are exactly the NFTs recorded … each in exactly one record" -/
  backed : Backed 𝐰
  /-- … and the three executable state oracles of the test driver agree (C01, C09, C12) -/
  oracles : checkC01 𝐰 = true ∧ checkIds 𝐰.mkt = true ∧ checkWF 𝐰 = true
  /-- C09 "at most one listing and one bucket exist per id at any time": the id invariant -/
  ids : IdsInv 𝐰.mkt
  /-- C09 "An id that has ever been accepted for a listing (a bucket) is rejected for every later
      creation by any account and through any deposit path, even after the original was deleted…" -/
  idNeverReused : ∀ op₀ op id ops', (step 𝐰 op₀).2.ok = true →
    (op₀.createsListing = some id → op.createsListing = some id →
      (step (run (step 𝐰 op₀).1 ops') op).2.ok = false) ∧
    (op₀.createsBucket = some id → op.createsBucket = some id →
      (step (run (step 𝐰 op₀).1 ops') op).2.ok = false)
  /-- C12 "Every listing and bucket … contains at least one asset, no zero amount, no duplicate …;
      status, timestamps, buyer and pending fee are mutually consistent" -/
  wellFormed : WFInv 𝐰.junoD 𝐰.usdcD 𝐰.mkt
  /-- C12 "a payout can never be rejected … for being empty, zero or duplicated": any next transaction -/
  msgsWellFormed : ∀ op, ∀ x ∈ (step 𝐰 op).2.msgs, x.wellFormed
  /-- C03 "a listing is sold at most once": successful purchases of each id along the history -/
  soldOnce : ∀ lid, buysOf lid w0 ops ≤ 1
  /-- C03 "under every ordering of competing purchases, deletions and withdrawals": after a purchase
      accepted in `𝐰`, every later purchase of that listing is refused, whatever happens in between -/
  secondBuyRefused : ∀ s f lid bid, (step 𝐰 (.exec s f (.buy lid bid))).2.ok = true →
    ∀ ops' s' f' bid', (step (run (step 𝐰 (.exec s f (.buy lid bid))).1 ops')
      (.exec s' f' (.buy lid bid'))).2.ok = false
  /-- C02 "A purchase succeeds if and only if the listing is finalized, unsold and not past its
      expiration, the caller is the whitelisted buyer …, owns the bucket, the bucket's contents equal
      the ask exactly … and the royalties due on each side do not exceed 50%" (`BuyTerms`) -/
  buyIff : ∀ buyer lid bid, (step 𝐰 (.exec buyer [] (.buy lid bid))).2.ok = true ↔
    BuyTerms 𝐰.mkt 𝐰.env buyer lid bid
  /-- C02 / C04 / C19 "Otherwise it is refused with no effect", "A refused or failed message of any
      kind leaves the sender's assets with the sender": a failed transaction returns the same world -/
  failedNoop : ∀ op, (step 𝐰 op).2.ok = false → (step 𝐰 op).1 = 𝐰
  /-- C04 "No message sent by an account … can alter, re-price, finalize, delete, top up or release
      assets from a listing … it does not currently own; such messages fail" (then `failedNoop`):
      every owner-only message aimed at the listing — direct, via `Send` / `SendNft`, or forged -/
  nonOwnerListing : ∀ k l, (k, l) ∈ 𝐰.mkt.listings → ∀ x, x ≠ l.creator →
    (∀ op c f msg, op.asExec = some (c, f, msg) → msg.listingTarget = some l.id → actor msg c = x →
      (step 𝐰 op).2.ok = false) ∧
    (step 𝐰 (.exec x [] (.withdrawPurchased l.id))).2.ok = false
  /-- C04 … "or bucket": top up, remove, pay with it -/
  nonOwnerBucket : ∀ k b, (k, b) ∈ 𝐰.mkt.buckets → ∀ x, x ≠ b.owner →
    ∀ op c f msg, op.asExec = some (c, f, msg) → msg.bucketTarget = some k.2 → actor msg c = x →
      (step 𝐰 op).2.ok = false
  /-- C07 "each record can be cashed out by its entitled party with a single message: an unfinalized
      listing by its creator at once, a finalized unsold listing by its creator once expired, a sold
      listing by its buyer at once, a bucket by its current owner at once"; and after waiting long
      enough the state is `Drainable` (`C07_drain`: all exits succeed, nothing is left) -/
  exits : (∀ k l, (k, l) ∈ 𝐰.mkt.listings → l.exitable 𝐰.nowNs →
      (step 𝐰 (.exec l.creator [] l.exitMsg)).2.ok = true) ∧
    (∀ k b, (k, b) ∈ 𝐰.mkt.buckets →
      (step 𝐰 (.exec b.owner [] (.removeBucket k.2))).2.ok = true) ∧
    ∃ dNs, Drainable (step 𝐰 (.advance dNs 0)).1
  /-- C08 "The owner of a listing still in preparation can finalize it for exactly the lifetimes
      between 600 and 1209600 seconds (bounds included)" -/
  finalizeIff : ∀ k l secs, (k, l) ∈ 𝐰.mkt.listings → l.status = .preparing →
    ((step 𝐰 (.exec l.creator [] (.finalize l.id secs))).2.ok = true ↔ 600 ≤ secs ∧ secs ≤ 1209600)
  /-- C08 "the seller cannot take it back before the expiration time": nobody's delete succeeds before -/
  binding : ∀ lid k l e s f, findById lid 𝐰.mkt.listings = some (k, l) → l.expiresAt = some e →
    𝐰.nowNs < e → (step 𝐰 (.exec s f (.deleteListing lid))).2.ok = false
  /-- C08 / C07 … and the seller of an unsold finalized listing can, exactly from the expiration on -/
  deleteIff : ∀ k l e, (k, l) ∈ 𝐰.mkt.listings → l.status = .finalized → l.expiresAt = some e →
    ((step 𝐰 (.exec l.creator [] (.deleteListing l.id))).2.ok = true ↔ e ≤ 𝐰.nowNs)
  /-- C08 "afterwards the listing's goods, ask, whitelist and expiration never change … A listing's
      status only moves forward … never reopened, re-finalized, re-priced or extended": after ANY
      continuation a non-preparing listing is gone or shows the same terms and a status not lower -/
  termsFrozen : ∀ lid k l ops', findById lid 𝐰.mkt.listings = some (k, l) → l.status ≠ .preparing →
    findById lid (run 𝐰 ops').mkt.listings = none ∨
    ∃ k' l', findById lid (run 𝐰 ops').mkt.listings = some (k', l') ∧ l'.status ≠ .preparing ∧
      l'.ask = l.ask ∧ l'.whitelist = l.whitelist ∧ l'.expiresAt = l.expiresAt ∧
      l'.finalizedAt = l.finalizedAt ∧ statusRank' l.status ≤ statusRank' l'.status
  /-- C10 "Every fee charged reaches the community pool exactly once": per denomination,
      pool balance + fees still pending = initial pool balance + Σ fees charged along the history -/
  feesConserved : ∀ d, lget 𝐰.bank (w0.pool, d) + pendingFee 𝐰.mkt d =
    lget w0.bank (w0.pool, d) + chargedRun w0 ops d
  /-- C10 "by a well-formed fund-community-pool message whose depositor is the marketplace and whose
      amount is the recorded fee": every pool message of any next transaction -/
  poolMsgs : ∀ op dep c, OutMsg.fundPool dep c ∈ (step 𝐰 op).2.msgs →
    dep = w0.self ∧ RecFee 𝐰.mkt c ∧ c.amount ≠ 0 ∧ (c.key = w0.junoD ∨ c.key = w0.usdcD)
  /-- C13 "never when fewer than 604800 seconds have elapsed since the previous switch or
      instantiation; once more than 604800 seconds have elapsed any account can switch it" -/
  cycleIff : ∀ s, (step 𝐰 (.exec s [] .feeCycle)).2.ok = true ↔
    𝐰.nowNs / NS > 𝐰.mkt.feeSince + WEEK
  /-- C19 "a non-deposit message … that arrives with coins attached is refused rather than silently
      keeping them": the world is unchanged, the coins are still the sender's -/
  fundsRefused : ∀ s funds msg, funds ≠ [] → msg.takesCoins = false →
    ∃ e, step 𝐰 (.exec s funds msg) = (𝐰, .fail e) ∧ (e = .fundsAttached ∨ e = .insufficient)
  /-- C19 "Apart from creating or topping up a listing or bucket, no marketplace message ever reduces
      its sender's balances" (coins, CW20 tokens, NFTs) -/
  noDebit : ∀ s funds msg, s ≠ 𝐰.self → msg.takesCoins = false →
    (step 𝐰 (.exec s funds msg)).2.ok = true →
    (∀ d, lget (step 𝐰 (.exec s funds msg)).1.bank (s, d) ≥ lget 𝐰.bank (s, d)) ∧
    (∀ t, lget (step 𝐰 (.exec s funds msg)).1.cw20 (t, s) ≥ lget 𝐰.cw20 (t, s)) ∧
    (∀ k, alookup k 𝐰.nft = some s → alookup k (step 𝐰 (.exec s funds msg)).1.nft = some s)
end

/-- **The specification**: every history from a deployment that meets `CleanHistory` reaches a state
    with all of `MarketGuarantees`.  The proof term names, field by field, the theorem that is
    applied (`idNeverReused`: two). -/
theorem guarantees_from_deployment {w0 : World} (hd : Deployed w0) (ops : List Op)
    (hc : CleanHistory w0 ops) : MarketGuarantees w0 ops := by
  obtain ⟨t, r, h0⟩ := hd.mkt
  have hU : ∀ op ∈ ops, op.avoids w0.self ∧ op.unforged :=
    fun op h => ⟨hc.notSelf op h, hc.unforged op h⟩
  have hH : ∀ op ∈ ops, op.avoids w0.self ∧ op.honest w0 :=
    fun op h => ⟨(hU op h).1, (hU op h).2.honest w0⟩
  have hpay : PayoutsNe w0.reg w0.pool := hd.payouts _
  exact {
    backed := C01_from_deployment hd ops hH
    oracles := sound_state_oracles_reach hd hc.ledger ops hH
    ids := C09_reach h0 ops
    idNeverReused := fun _ _ _ ops' hok =>
      ⟨C09_never_reused ops' hok, C09_never_reused_bucket ops' hok⟩
    wellFormed := closed_wf h0 ops
    msgsWellFormed := C12_msgs_wellFormed_step_reach h0 ops
    soldOnce := fun lid => C03_sold_once_reach h0 lid ops
    secondBuyRefused := fun _ _ _ _ hok => C03_second_buy_refused_reach h0 ops hok
    buyIff := C02_step_iff_deployed hd hc.registry ops hU
    failedNoop := C19_failed_noop noFault _
    nonOwnerListing := fun _ _ hm _ hx =>
      ⟨fun op c f msg ho ht ha => ((C04_non_owner_listing_reach h0 ops hm hx).1 op c f msg ho ht ha).1,
       (C04_non_owner_listing_reach h0 ops hm hx).2.1⟩
    nonOwnerBucket := fun _ _ hm _ hx op c f msg ho ht ha =>
      (C04_non_owner_bucket_reach h0 ops hm hx op c f msg ho ht ha).1
    exits := C07_from_deployment hd ops hU
    finalizeIff := fun _ _ secs hm hs => C08_finalize_step_iff_lit_reach h0 ops secs hm hs
    binding := fun _ _ _ _ s f hf he hn => (C08_step_binding_reach h0 ops s f hf he hn).1
    deleteIff := fun _ _ _ hm hs he => C08_delete_step_iff_reach hd ops hU hm hs he
    termsFrozen := fun _ _ _ ops' hf hs => C08_run_monotone_closed (C09_reach h0 ops) hf hs ops'
    feesConserved := C10_conservation_reach h0 hd.pool hpay ops hc.notPool
    poolMsgs := C10_wellformed_step_reach h0 ops
    cycleIff := C13_step_cycle_iff_reach w0 ops hc.clock
    fundsRefused := fun _ _ _ hf hk => C19_step_refused hf hk
    noDebit := fun _ _ _ hs hk hok => C19_no_debit hs hk hok }

/-! The history of the examples is `SummaryEx.ops` (Props/C02World.lean), from the concrete deployment
`deployedEx` (Props/C01Closed.lean; account 1 holds 10 of denom 0 and 10 of denom 2). -/

namespace SummaryEx
theorem clean : CleanHistory deployedEx ops :=
  ⟨by decide, by decide, by decide, by decide, rfl, ⟨by decide, by decide⟩⟩
end SummaryEx

/-- the hypotheses of `guarantees_from_deployment` are met by a non-trivial history … -/
example : MarketGuarantees deployedEx SummaryEx.ops :=
  guarantees_from_deployment C02WEx.deployedEx_ok SummaryEx.ops SummaryEx.clean

/-- … in which the purchase, the switch and the withdrawal are all accepted: listing 4 was bought once,
    is gone, the seller-side bucket is still there, the fee denomination has switched -/
example : buysOf 4 deployedEx SummaryEx.ops = 1 ∧ (run deployedEx SummaryEx.ops).mkt.listings = [] ∧
    (run deployedEx SummaryEx.ops).mkt.buckets.length = 1 ∧
    (run deployedEx SummaryEx.ops).mkt.feeKind = .usdc := by decide +kernel

#print axioms guarantees_from_deployment
#print axioms SummaryEx.clean
end Fuzion
