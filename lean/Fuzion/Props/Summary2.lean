/-
  Fuzion.Props.Summary2 — the specification in one place, SECOND HALF.

  Props/Summary.lean (`guarantees_from_deployment : Deployed w0 → CleanHistory w0 ops →
  MarketGuarantees w0 ops`) covers C01–C04, C07–C10, C12, C13, C19.  This file adds the properties it
  leaves out — C05, C06, C11, C14, C15, C16, C17 and C18 — in the same style: for EVERY history `ops`
  from a freshly deployed marketplace `w0` the reached state `𝐰 = run w0 ops` enjoys all of
  `TradeGuarantees` at once: `guarantees2_from_deployment`.  This file proves nothing new: every field
  is discharged by theorems of the other Props files (named in the proof, in field order;
  `regAdminCan` and `faultyIsSurvivors` collect three each); for `removeBucketPaysRecord`,
  `faultyIsSurvivors` and `exitAfterFault` the theorem is first moved to `𝐰` (address bookkeeping /
  `run_append` / `runF_append`).
  Property texts: /verif/properties.jsonl.  Reading guide: `step w op = (w', outcome)` is one
  transaction, `outcome.ok` its success flag, `outcome.msgs` the messages it emitted; `buy m env …` is
  the purchase handler the transaction `.exec buyer [] (.buy lid bid)` runs; `stepF fail w op` is the
  transaction with the dispatch of its `k`-th message forced to fail whenever `fail k`;
  `runF w fops` folds `stepF` over a history with faults, `survivors w fops` are its accepted
  operations (Props/C15Reach.lean).

  Hypotheses beyond `Deployed` and `CleanHistory` (both input-side):
  * `hfit : ∀ op ∈ ops, op.fits128` — every amount an operation carries is a `Uint128` (the Rust type
    of those fields; see the header of Props/C06Closed.lean).  Used by C06 and the royalty half of C17.
  * `hinst : ∃ t r, w0.mkt = instantiate t r ∧ t ≤ w0.nowNs` — the marketplace was not instantiated
    in the future of the initial block time (the model leaves the instantiation time free).  Used by
    the fee query of C16 only.
  Of `CleanHistory` only `clock` (C16 fee query), `registry` (C11 `buyExactHalfAllowed`) and
  `notSelf` / `unforged` (C15 `exitAfterFault`) are used; the C18 fields hold for ANY history — in
  particular the history need NOT be `unforged`.

  Not collected: the C05 deposits and the C14 lookups (no invariant hypothesis), C06 per-entry effect
  and per-address totals (consequences of the closed form stated here), C13 "between two switches",
  the C16 whitelist query, and C18 as the property text states it (FALSE of the code, finding
  `Props/C18.lean`; the fields here say what IS true).
-/
import Fuzion.Props.Summary
import Fuzion.Props.C05Closed
import Fuzion.Props.C06Closed
import Fuzion.Props.C11Reach
import Fuzion.Props.C14
import Fuzion.Props.C15Reach
import Fuzion.Props.C16Closed
import Fuzion.Props.C17Reach
import Fuzion.Props.C18Reach
namespace Fuzion

section
variable (w0 : World) (ops : List Op)
local notation "𝐰" => run w0 ops

/-- C18, what IS true: the guarantees about forged hook calls from the reached state `𝐰 = run w0 ops`.
    They hold for ANY history `ops` from a deployment (`Summary2_forged_from_deployment` below needs no
    `CleanHistory`): in particular `ops` itself may contain forged hook calls. -/
structure ForgeGuarantees : Prop where
  /-- C18 "A third-party contract cannot alter … someone else's escrow" — what IS true of ONE
      accepted forged hook call (`Receive` / `ReceiveNft` called directly by `caller` naming an
      arbitrary `sender`): no coins, no payout, nothing but the marketplace record changes; exactly
      one storage key, filed under the named sender, is written; every existing record keeps every
      field, its native coins, every CW20 amount other than token `caller` and all its NFTs — the only
      difference is an entry keyed by the caller's own address, and only on a bucket or a listing
      still in preparation; a new record is a bucket / preparing listing holding `caller` assets only -/
  forgedConfined : ∀ op caller funds sender x inner,
    (op = .exec caller funds (.receive sender x inner) ∨
      op = .exec caller funds (.receiveNft sender x inner)) →
    (step 𝐰 op).2.ok = true →
    funds = [] ∧ (step 𝐰 op).2.msgs = [] ∧
    (step 𝐰 op).1 = { 𝐰 with mkt := (step 𝐰 op).1.mkt } ∧
    ∃ user, sender = .valid user ∧
      (∃ k0 : Nat × Nat, k0.1 = user ∧
        (∀ k, k ≠ k0 → alookup k (step 𝐰 op).1.mkt.listings = alookup k 𝐰.mkt.listings ∧
          alookup k (step 𝐰 op).1.mkt.buckets = alookup k 𝐰.mkt.buckets) ∧
        ((step 𝐰 op).1.mkt.listings = 𝐰.mkt.listings ∨
          (step 𝐰 op).1.mkt.buckets = 𝐰.mkt.buckets)) ∧
      (∀ k l, alookup k 𝐰.mkt.listings = some l →
        ∃ l', alookup k (step 𝐰 op).1.mkt.listings = some l' ∧
        (l.status ≠ .preparing → l' = l) ∧
        l'.creator = l.creator ∧ l'.id = l.id ∧ l'.status = l.status ∧ l'.ask = l.ask ∧
        l'.whitelist = l.whitelist ∧ l'.claimant = l.claimant ∧ l'.finalizedAt = l.finalizedAt ∧
        l'.expiresAt = l.expiresAt ∧ l'.fee = l.fee ∧ l'.forSale.native = l.forSale.native ∧
        (∀ t, t ≠ caller → coinAmt l'.forSale.cw20 t = coinAmt l.forSale.cw20 t) ∧
        coinAmt l.forSale.cw20 caller ≤ coinAmt l'.forSale.cw20 caller ∧
        (l'.forSale.nfts = l.forSale.nfts ∨ l'.forSale.nfts = l.forSale.nfts ++ [⟨caller, x⟩])) ∧
      (∀ k b, alookup k 𝐰.mkt.buckets = some b →
        ∃ b', alookup k (step 𝐰 op).1.mkt.buckets = some b' ∧
        b'.owner = b.owner ∧ b'.fee = b.fee ∧ b'.funds.native = b.funds.native ∧
        (∀ t, t ≠ caller → coinAmt b'.funds.cw20 t = coinAmt b.funds.cw20 t) ∧
        coinAmt b.funds.cw20 caller ≤ coinAmt b'.funds.cw20 caller ∧
        (b'.funds.nfts = b.funds.nfts ∨ b'.funds.nfts = b.funds.nfts ++ [⟨caller, x⟩])) ∧
      (∀ k l', alookup k 𝐰.mkt.listings = none →
        alookup k (step 𝐰 op).1.mkt.listings = some l' →
        k.1 = user ∧ l'.creator = user ∧ l'.id = k.2 ∧ l'.status = .preparing ∧
        l'.forSale.native = [] ∧ (∀ c ∈ l'.forSale.cw20, c.key = caller) ∧
        (∀ n ∈ l'.forSale.nfts, n.coll = caller)) ∧
      (∀ k b', alookup k 𝐰.mkt.buckets = none →
        alookup k (step 𝐰 op).1.mkt.buckets = some b' →
        k.1 = user ∧ b'.owner = user ∧ b'.fee = none ∧
        b'.funds.native = [] ∧ (∀ c ∈ b'.funds.cw20, c.key = caller) ∧
        (∀ n ∈ b'.funds.nfts, n.coll = caller))
  /-- C18 finalized listings are immune: after ANY list of direct hook calls (accepted or refused, any
      caller, any named sender, any inner message) every listing that is finalized or sold is stored
      under the same key as the very same record — goods, ask, whitelist, expiration, status, buyer,
      fee -/
  finalizedImmune : ∀ ops', (∀ o ∈ ops', o.hookCaller ≠ none) →
    ∀ k l, alookup k 𝐰.mkt.listings = some l → l.status ≠ .preparing →
      alookup k (run 𝐰 ops').mkt.listings = some l
  /-- C18 "cannot … make unwithdrawable" is FALSE (finding), but what the victim deposited is never
      reduced, removed or re-keyed: after any list `ops'` of direct hook calls every record is still
      there under its key, with the same owner, status and native coins, exactly the same amount of
      every CW20 token and exactly the same NFTs of every collection that is NOT the address of one
      of the calling contracts (`forgersOf ops'`) -/
  forgersOnly : ∀ ops', (∀ o ∈ ops', o.hookCaller ≠ none) →
    (∀ k l, alookup k 𝐰.mkt.listings = some l →
      ∃ l', alookup k (run 𝐰 ops').mkt.listings = some l' ∧
      l'.creator = l.creator ∧ l'.status = l.status ∧ l'.forSale.native = l.forSale.native ∧
      (∀ t, t ∉ forgersOf ops' → coinAmt l'.forSale.cw20 t = coinAmt l.forSale.cw20 t) ∧
      (∀ n : Nft, n.coll ∉ forgersOf ops' → (n ∈ l'.forSale.nfts ↔ n ∈ l.forSale.nfts))) ∧
    (∀ k b, alookup k 𝐰.mkt.buckets = some b →
      ∃ b', alookup k (run 𝐰 ops').mkt.buckets = some b' ∧
      b'.owner = b.owner ∧ b'.funds.native = b.funds.native ∧
      (∀ t, t ∉ forgersOf ops' → coinAmt b'.funds.cw20 t = coinAmt b.funds.cw20 t) ∧
      (∀ n : Nft, n.coll ∉ forgersOf ops' → (n ∈ b'.funds.nfts ↔ n ∈ b.funds.nfts)))
  /-- C18 accounts cannot forge: an address that is not a contract at deployment is refused by both
      hooks, whatever sender it names, and the world is unchanged -/
  accountsCannotForge : ∀ op acct funds sender x inner, w0.kindOf acct = none →
    (op = .exec acct funds (.receive sender x inner) ∨
      op = .exec acct funds (.receiveNft sender x inner)) →
    (step 𝐰 op).2.ok = false ∧ (step 𝐰 op).1 = 𝐰

/-- The guarantees about ANY next transaction from the reached state `𝐰 = run w0 ops` (second half:
    payouts, the price of a trade, the royalty registry, faults, queries, forged hook calls). -/
structure TradeGuarantees : Prop extends ForgeGuarantees w0 ops where
  /-- C05 "Every successful … listing deletion … removes the record and delivers exactly its recorded
      assets to its owner …  Refunds of records that never traded carry no fee": the refunded listing
      carries no fee and the ledgers move by `PaidOut 𝐰 w' x l.forSale none` — the signer gains the
      goods, the marketplace loses them, the pool and everybody else keep what they had -/
  deletePaysRecord : ∀ x id w' o, step 𝐰 (.exec x [] (.deleteListing id)) = (w', o) → o.ok = true →
    x ≠ w0.self → x ≠ w0.pool →
    ∃ l, alookup (x, id) 𝐰.mkt.listings = some l ∧ l.creator = x ∧ l.claimant = none ∧
      l.status ≠ .closed ∧ l.fee = none ∧
      o.msgs = sendTokens x l.forSale ∧
      w'.mkt = { 𝐰.mkt with listings := aerase (x, id) 𝐰.mkt.listings } ∧
      alookup (x, id) w'.mkt.listings = none ∧ findById id w'.mkt.listings = none ∧
      (∀ k, k ≠ (x, id) → alookup k w'.mkt.listings = alookup k 𝐰.mkt.listings) ∧
      PaidOut 𝐰 w' x l.forSale none
  /-- C05 "… or purchased-listing withdrawal removes the record and delivers exactly its recorded
      assets to its owner plus exactly its recorded fee to the community pool" -/
  withdrawPaysRecord : ∀ x id w' o, step 𝐰 (.exec x [] (.withdrawPurchased id)) = (w', o) →
    o.ok = true → x ≠ w0.self → x ≠ w0.pool →
    ∃ l, alookup (x, id) 𝐰.mkt.listings = some l ∧ l.creator = x ∧
      l.claimant = some x ∧ l.status = .closed ∧
      o.msgs = withdrawMsgs 𝐰.self x l.forSale l.fee ∧
      w'.mkt = { 𝐰.mkt with listings := aerase (x, id) 𝐰.mkt.listings } ∧
      alookup (x, id) w'.mkt.listings = none ∧ findById id w'.mkt.listings = none ∧
      (∀ k, k ≠ (x, id) → alookup k w'.mkt.listings = alookup k 𝐰.mkt.listings) ∧
      PaidOut 𝐰 w' x l.forSale l.fee
  /-- C05 "Every successful bucket removal … removes the record and delivers exactly its recorded
      assets to its owner plus exactly its recorded fee to the community pool" -/
  removeBucketPaysRecord : ∀ x id w' o, step 𝐰 (.exec x [] (.removeBucket id)) = (w', o) →
    o.ok = true → x ≠ w0.self → x ≠ w0.pool →
    ∃ b, alookup (x, id) 𝐰.mkt.buckets = some b ∧ b.owner = x ∧
      o.msgs = withdrawMsgs 𝐰.self x b.funds b.fee ∧
      w'.mkt = { 𝐰.mkt with buckets := aerase (x, id) 𝐰.mkt.buckets } ∧
      alookup (x, id) w'.mkt.buckets = none ∧
      (∀ k, k ≠ (x, id) → alookup k w'.mkt.buckets = alookup k 𝐰.mkt.buckets) ∧
      PaidOut 𝐰 w' x b.funds b.fee
  /-- C05 "Refunds of records that never traded carry no fee": (a) only a sold listing can carry a
      fee; (b) an accepted `DeleteListing` emits no fund-community-pool message and refunds a listing
      without fee; (c) a payout without fee leaves the pool's balance exactly unchanged -/
  refundNoFee :
    (∀ k l, alookup k 𝐰.mkt.listings = some l → l.status ≠ .closed → l.fee = none) ∧
    (∀ env s id m' out, deleteListing 𝐰.mkt env s id = .ok (m', out) →
      (∀ dep c, OutMsg.fundPool dep c ∉ out) ∧
      ∃ l, alookup (s, id) 𝐰.mkt.listings = some l ∧ l.fee = none) ∧
    (∀ (w w' : World) x g, PaidOut w w' x g none →
      (∀ d, lget w'.bank (w.pool, d) = lget w.bank (w.pool, d)) ∧
      (∀ d, lget w'.bank (w.self, d) + coinAmt g.native d = lget w.bank (w.self, d)))
  /-- C05 "… and no other account's balance or NFT changes": in every deposit and payout step signed
      by `x` — accepted or not — every account `y` other than `x`, the marketplace and the pool keeps
      all bank balances, all token balances and exactly its NFTs -/
  othersUntouched : ∀ x y, x ≠ w0.self → x ≠ w0.pool → y ≠ x → y ≠ w0.self → y ≠ w0.pool →
    (∀ funds i, Untouched 𝐰 (step 𝐰 (.exec x funds (Inner.toExec i))).1 y) ∧
    (∀ tk amount inner, Untouched 𝐰 (step 𝐰 (.send20 tk x amount inner)).1 y) ∧
    (∀ c tid inner, Untouched 𝐰 (step 𝐰 (.send721 c x tid inner)).1 y) ∧
    (∀ id, Untouched 𝐰 (step 𝐰 (.exec x [] (.removeBucket id))).1 y) ∧
    (∀ id, Untouched 𝐰 (step 𝐰 (.exec x [] (.deleteListing id))).1 y) ∧
    (∀ id, Untouched 𝐰 (step 𝐰 (.exec x [] (.withdrawPurchased id))).1 y)
  /-- C06 "At purchase each side is reduced by exactly floor(0.5%) of its amount in the current fee
      denomination … and then, for every distinct royalty-registered collection … by
      floor(bps/10000 x post-fee amount) of every fungible asset on that side": an accepted `buy`
      stores exactly the declaratively specified records (`tradedListing`, `tradedBucket`: fee
      `feeOf`, contents `afterRoyalty entries (afterFee fd contents)`) and emits exactly the specified
      messages; both rate sums are at most 50 % -/
  buyClosedForm : ∀ env buyer lid bid fd m' out, fd = feeDenomOf env 𝐰.mkt.feeKind →
    buy 𝐰.mkt env buyer lid bid = .ok (m', out) →
    ∃ k l b, findById lid 𝐰.mkt.listings = some (k, l) ∧
      alookup (buyer, bid) 𝐰.mkt.buckets = some b ∧
      ((sideEntries env l.forSale).map (·.bps)).sum ≤ 5000 ∧
      ((sideEntries env b.funds).map (·.bps)).sum ≤ 5000 ∧
      m' = { 𝐰.mkt with
        listings := ainsert (buyer, lid) (tradedListing env fd buyer l b)
          (aerase (l.creator, lid) 𝐰.mkt.listings),
        buckets := ainsert (l.creator, bid) (tradedBucket env fd l b)
          (aerase (buyer, bid) 𝐰.mkt.buckets) } ∧
      out = pendingFeeMsgs env.self b.fee ++
        royaltyMsgs (sideEntries env l.forSale) (afterFee fd b.funds) ++
        royaltyMsgs (sideEntries env b.funds) (afterFee fd l.forSale)
  /-- C06 "No other deduction occurs": per native denomination, what a side held before the purchase
      is what it holds afterwards plus the fee recorded on the new record plus what the royalty
      messages charged to that side send out; per CW20 token the same without a fee; the amounts sent
      out are the royalty totals and never exceed half of what is left after the fee -/
  buyNoOtherDeduction : ∀ env buyer lid bid fd m' out, fd = feeDenomOf env 𝐰.mkt.feeKind →
    buy 𝐰.mkt env buyer lid bid = .ok (m', out) →
    ∃ l b l' b' msgsB msgsL,
      alookup (l.creator, lid) 𝐰.mkt.listings = some l ∧
      alookup (buyer, bid) 𝐰.mkt.buckets = some b ∧
      alookup (buyer, lid) m'.listings = some l' ∧ alookup (l.creator, bid) m'.buckets = some b' ∧
      out = pendingFeeMsgs env.self b.fee ++ msgsB ++ msgsL ∧
      msgsB = royaltyMsgs (sideEntries env l.forSale) (afterFee fd b.funds) ∧
      msgsL = royaltyMsgs (sideEntries env b.funds) (afterFee fd l.forSale) ∧
      -- the bucket
      (∀ k, coinAmt b.funds.native k =
        coinAmt b'.funds.native k + feeAmt b'.fee k + outNative msgsB k) ∧
      (∀ k, coinAmt b.funds.cw20 k = coinAmt b'.funds.cw20 k + outCw20 msgsB k) ∧
      (∀ k, outNative msgsB k = royaltyOn (sideEntries env l.forSale) (afterFeeAmt fd b.funds k)) ∧
      (∀ k, outCw20 msgsB k = royaltyOn (sideEntries env l.forSale) (coinAmt b.funds.cw20 k)) ∧
      -- the listing goods
      (∀ k, coinAmt l.forSale.native k =
        coinAmt l'.forSale.native k + feeAmt l'.fee k + outNative msgsL k) ∧
      (∀ k, coinAmt l.forSale.cw20 k = coinAmt l'.forSale.cw20 k + outCw20 msgsL k) ∧
      (∀ k, outNative msgsL k = royaltyOn (sideEntries env b.funds) (afterFeeAmt fd l.forSale k)) ∧
      (∀ k, outCw20 msgsL k = royaltyOn (sideEntries env b.funds) (coinAmt l.forSale.cw20 k)) ∧
      -- the royalties never exceed half of what is left after the fee
      (∀ a, 2 * royaltyOn (sideEntries env l.forSale) a ≤ a) ∧
      (∀ a, 2 * royaltyOn (sideEntries env b.funds) a ≤ a)
  /-- C06 "Those royalties are paid to the registered payout addresses in the same transaction":
      when the purchase transaction is accepted, the handler `buy` accepted in `𝐰`'s own
      environment, its messages are the transaction's, its market record is the new one, and every
      account `p` other than the marketplace and the pool has been credited, per native denomination
      and per honest CW20 token, with exactly the shares of the entries paying to `p` -/
  buyPaidInTransaction : ∀ buyer lid bid fd, fd = feeDenomOf 𝐰.env 𝐰.mkt.feeKind →
    (step 𝐰 (.exec buyer [] (.buy lid bid))).2.ok = true →
    ∃ k l b m' out, findById lid 𝐰.mkt.listings = some (k, l) ∧
      alookup (buyer, bid) 𝐰.mkt.buckets = some b ∧
      buy 𝐰.mkt 𝐰.env buyer lid bid = .ok (m', out) ∧
      (step 𝐰 (.exec buyer [] (.buy lid bid))).2.msgs = out ∧
      (step 𝐰 (.exec buyer [] (.buy lid bid))).1.mkt = m' ∧
      ∀ p, p ≠ 𝐰.self → p ≠ 𝐰.pool →
        (∀ d, lget (step 𝐰 (.exec buyer [] (.buy lid bid))).1.bank (p, d) =
          lget 𝐰.bank (p, d) +
          (royaltyOn ((sideEntries 𝐰.env l.forSale).filter fun e => decide (e.payout = p))
            (afterFeeAmt fd b.funds d) +
           royaltyOn ((sideEntries 𝐰.env b.funds).filter fun e => decide (e.payout = p))
            (afterFeeAmt fd l.forSale d))) ∧
        (∀ tk, 𝐰.isHonest20 tk = true →
          lget (step 𝐰 (.exec buyer [] (.buy lid bid))).1.cw20 (tk, p) =
          lget 𝐰.cw20 (tk, p) +
          (royaltyOn ((sideEntries 𝐰.env l.forSale).filter fun e => decide (e.payout = p))
            (coinAmt b.funds.cw20 tk) +
           royaltyOn ((sideEntries 𝐰.env b.funds).filter fun e => decide (e.payout = p))
            (coinAmt l.forSale.cw20 tk)))
  /-- C11 "no purchase pays out more than half of any post-fee fungible amount in royalties and no
      escrowed amount is ever reduced to zero": in every accepted purchase each side's stored contents
      and royalty messages are the result of the model's `royalties` on the side's after-fee balance
      (`calcFeeCoin`), both rate sums passed the 5000 bps gate, and (`RoyaltyHalf`) at most half of
      every entry is taken, at least half and at least 1 stays.  (`l`, `b` = traded listing / paying
      bucket in `𝐰`; `l'`, `b'` = the re-filed records; `lbal`, `bbal` = contents after the fee.) -/
  buyHalf : ∀ buyer lid bid fd, fd = feeDenomOf 𝐰.env 𝐰.mkt.feeKind →
    (step 𝐰 (.exec buyer [] (.buy lid bid))).2.ok = true →
    ∃ l b l' b' lbal bbal msgsB msgsL sB sL,
      alookup (l.creator, lid) 𝐰.mkt.listings = some l ∧
      alookup (buyer, bid) 𝐰.mkt.buckets = some b ∧
      alookup (buyer, lid) (step 𝐰 (.exec buyer [] (.buy lid bid))).1.mkt.listings = some l' ∧
      alookup (l.creator, bid) (step 𝐰 (.exec buyer [] (.buy lid bid))).1.mkt.buckets = some b' ∧
      calcFeeCoin fd l.forSale = some (l'.fee, lbal) ∧
      calcFeeCoin fd b.funds = some (b'.fee, bbal) ∧
      royalties bbal ((collections l.forSale).map 𝐰.env.regLookup) = .ok b'.funds msgsB sB ∧
      royalties lbal ((collections b.funds).map 𝐰.env.regLookup) = .ok l'.forSale msgsL sL ∧
      (step 𝐰 (.exec buyer [] (.buy lid bid))).2.msgs =
        pendingFeeMsgs 𝐰.self b.fee ++ msgsB ++ msgsL ∧
      sB = ((sideEntries 𝐰.env l.forSale).map (·.bps)).sum ∧ sB ≤ 5000 ∧
      sL = ((sideEntries 𝐰.env b.funds).map (·.bps)).sum ∧ sL ≤ 5000 ∧
      RoyaltyHalf bbal b'.funds msgsB ∧ RoyaltyHalf lbal l'.forSale msgsL
  /-- C11 "If the royalty rates of the distinct registered collections on one side of a trade sum to
      more than 50% the purchase is refused without effect" -/
  buyRefusedOverHalf : ∀ buyer lid bid k l b, findById lid 𝐰.mkt.listings = some (k, l) →
    alookup (buyer, bid) 𝐰.mkt.buckets = some b →
    (((sideEntries 𝐰.env l.forSale).map (·.bps)).sum > 5000 ∨
     ((sideEntries 𝐰.env b.funds).map (·.bps)).sum > 5000) →
    (∀ res, buy 𝐰.mkt 𝐰.env buyer lid bid ≠ .ok res) ∧
    (step 𝐰 (.exec buyer [] (.buy lid bid))).2.ok = false ∧
    (step 𝐰 (.exec buyer [] (.buy lid bid))).2.msgs = [] ∧
    (step 𝐰 (.exec buyer [] (.buy lid bid))).1 = 𝐰
  /-- C11 "exactly 50% is allowed": a purchase is refused with `royaltyOverHalf` ONLY if one of the
      two rate sums exceeds 5000 bps -/
  buyExactHalfAllowed : ∀ buyer lid bid,
    (buy 𝐰.mkt 𝐰.env buyer lid bid = .error .royaltyOverHalf ∨
      (step 𝐰 (.exec buyer [] (.buy lid bid))).2.err = some .royaltyOverHalf) →
    ∃ k l b, findById lid 𝐰.mkt.listings = some (k, l) ∧
      alookup (buyer, bid) 𝐰.mkt.buckets = some b ∧
      (((sideEntries 𝐰.env l.forSale).map (·.bps)).sum > 5000 ∨
       ((sideEntries 𝐰.env b.funds).map (·.bps)).sum > 5000)
  /-- C17 "the fee split … conserve[s] value exactly per asset (fee + … + remainder = original),
      use[s] floor rounding, leave[s] NFTs and other assets untouched": in every accepted purchase,
      for each side the recorded fee and the balance handed to the royalty step are the result of
      `calcFeeCoin` on the side's old contents, and that step was exact (`FeeExact`) -/
  buyFeeExact : ∀ buyer lid bid fd, fd = feeDenomOf 𝐰.env 𝐰.mkt.feeKind →
    (step 𝐰 (.exec buyer [] (.buy lid bid))).2.ok = true →
    ∃ l b l' b' lbal bbal,
      alookup (l.creator, lid) 𝐰.mkt.listings = some l ∧
      alookup (buyer, bid) 𝐰.mkt.buckets = some b ∧
      alookup (buyer, lid) (step 𝐰 (.exec buyer [] (.buy lid bid))).1.mkt.listings = some l' ∧
      alookup (l.creator, bid) (step 𝐰 (.exec buyer [] (.buy lid bid))).1.mkt.buckets = some b' ∧
      calcFeeCoin fd l.forSale = some (l'.fee, lbal) ∧
      calcFeeCoin fd b.funds = some (b'.fee, bbal) ∧
      FeeExact fd l.forSale l'.fee lbal ∧ FeeExact fd b.funds b'.fee bbal
  /-- C17 "the royalty split conserve[s] value exactly per asset (… payouts + remainder = original),
      … produce[s] one payout per non-zero (asset, collection) pair to the right address": in every
      accepted purchase the stored contents and the royalty messages are the result of `royalties`
      on the side's after-fee balance with the registry's answers for the OPPOSITE side's
      collections, and that step was exact (`RoyaltyExact`: conservation, floor rounding, true
      subtraction, NFTs untouched, the message list, everything fits 128 bits) -/
  buyRoyaltyExact : ∀ buyer lid bid fd, fd = feeDenomOf 𝐰.env 𝐰.mkt.feeKind →
    (step 𝐰 (.exec buyer [] (.buy lid bid))).2.ok = true →
    ∃ l b l' b' lbal bbal msgsB msgsL sB sL,
      alookup (l.creator, lid) 𝐰.mkt.listings = some l ∧
      alookup (buyer, bid) 𝐰.mkt.buckets = some b ∧
      alookup (buyer, lid) (step 𝐰 (.exec buyer [] (.buy lid bid))).1.mkt.listings = some l' ∧
      alookup (l.creator, bid) (step 𝐰 (.exec buyer [] (.buy lid bid))).1.mkt.buckets = some b' ∧
      calcFeeCoin fd l.forSale = some (l'.fee, lbal) ∧
      calcFeeCoin fd b.funds = some (b'.fee, bbal) ∧
      royalties bbal ((collections l.forSale).map 𝐰.env.regLookup) = .ok b'.funds msgsB sB ∧
      royalties lbal ((collections b.funds).map 𝐰.env.regLookup) = .ok l'.forSale msgsL sL ∧
      (step 𝐰 (.exec buyer [] (.buy lid bid))).2.msgs =
        pendingFeeMsgs 𝐰.self b.fee ++ msgsB ++ msgsL ∧
      RoyaltyExact (sideEntries 𝐰.env l.forSale) bbal b'.funds msgsB ∧
      RoyaltyExact (sideEntries 𝐰.env b.funds) lbal l'.forSale msgsL ∧
      (∀ e ∈ sideEntries 𝐰.env l.forSale, ∃ n ∈ l.forSale.nfts, alookup n.coll 𝐰.reg = some e) ∧
      (∀ e ∈ sideEntries 𝐰.env b.funds, ∃ n ∈ b.funds.nfts, alookup n.coll 𝐰.reg = some e)
  /-- C17 "never overflow, wrap or abort": the purchase never fails with `Err.overflow`, and fails
      with `Err.panic` only if the registered rates of one side sum to more than `u64::MAX` … -/
  buyNoOverflow : ∀ buyer lid bid,
    (∀ env, buy 𝐰.mkt env buyer lid bid ≠ .error .overflow) ∧
    (step 𝐰 (.exec buyer [] (.buy lid bid))).2.err ≠ some .overflow ∧
    (∀ e, (e = .panic ∧ (buy 𝐰.mkt 𝐰.env buyer lid bid = .error e ∨
        (step 𝐰 (.exec buyer [] (.buy lid bid))).2.err = some e)) →
      ∃ k l b, findById lid 𝐰.mkt.listings = some (k, l) ∧
        alookup (buyer, bid) 𝐰.mkt.buckets = some b ∧
        (((sideEntries 𝐰.env l.forSale).map (·.bps)).sum > U64MAX ∨
         ((sideEntries 𝐰.env b.funds).map (·.bps)).sum > U64MAX))
  /-- … C17 "never … abort": which, the registry being within its rate bounds, takes NFTs of more
      than `u64::MAX / 300` distinct collections on one side -/
  buyNoPanic : ∀ buyer lid bid,
    (buy 𝐰.mkt 𝐰.env buyer lid bid = .error .panic ∨
      (step 𝐰 (.exec buyer [] (.buy lid bid))).2.err = some .panic) →
    ∃ k l b, findById lid 𝐰.mkt.listings = some (k, l) ∧
      alookup (buyer, bid) 𝐰.mkt.buckets = some b ∧
      (300 * (collections l.forSale).length > U64MAX ∨
       300 * (collections b.funds).length > U64MAX)
  /-- C14 "its rate is always between 10 and 300 bps", in the reached state -/
  regBounds : ∀ p ∈ 𝐰.reg, 10 ≤ p.2.bps ∧ p.2.bps ≤ 300
  /-- C14 … one entry per collection, in the reached state -/
  regKeysUnique : (akeys 𝐰.reg).Nodup
  /-- C14 a registry transaction succeeds exactly when the registry handler — run on the reached
      registry, block height and contract table — accepts, and then only `reg` is replaced -/
  regMsgIff : ∀ sender msg, (step 𝐰 (.royalty sender msg)).2.ok = true ↔
    ∃ r, regExecute 𝐰.reg 𝐰.regEnv sender msg = .ok r ∧
      (step 𝐰 (.royalty sender msg)).1 = { 𝐰 with reg := r }
  /-- C14 "can be created, modified or removed only by the account that is that NFT contract's admin
      at that moment": an accepted registry transaction was sent by the admin of the one collection
      it names, and every other collection's entry is left alone -/
  regAdminOnly : ∀ sender msg, (step 𝐰 (.royalty sender msg)).2.ok = true →
    ∃ c, msg.nft = .valid c ∧ 𝐰.regEnv.adminOf c = some (some sender) ∧
      ∀ c', c' ≠ c → alookup c' (step 𝐰 (.royalty sender msg)).1.reg = alookup c' 𝐰.reg
  /-- C14 "only by … [the] admin", "cannot be modified or removed until 100 blocks after it was
      created or last modified": if ANY next operation changes what is stored for collection `c`, it
      was an accepted registry message of `c`'s admin, an entry that existed was at least 100 blocks
      old, and an entry that exists afterwards is stamped with the current height -/
  regChangeGuard : ∀ op c, alookup c (step 𝐰 op).1.reg ≠ alookup c 𝐰.reg →
    ∃ sender msg, op = .royalty sender msg ∧ (step 𝐰 op).2.ok = true ∧
      (∃ ci, alookup c 𝐰.contracts = some ci ∧ ci.admin = some sender) ∧
      (∀ e, alookup c 𝐰.reg = some e → min (e.lastUpdated + COOLDOWN) U64MAX ≤ 𝐰.height) ∧
      (∀ e', alookup c (step 𝐰 op).1.reg = some e' → e'.lastUpdated = 𝐰.height)
  /-- C14 "while from then on the admin can": the current admin's `Register` (no entry yet, rate
      within 10..300), `Update` and `Remove` (entry at least 100 blocks old) are accepted and store /
      drop the entry -/
  regAdminCan : ∀ c sender ci, alookup c 𝐰.contracts = some ci → ci.admin = some sender →
    (∀ p bps, alookup c 𝐰.reg = none → MIN_BPS ≤ bps → bps ≤ MAX_BPS →
      (step 𝐰 (.royalty sender (.register (.valid c) (.valid p) bps))).2.ok = true ∧
      alookup c (step 𝐰 (.royalty sender (.register (.valid c) (.valid p) bps))).1.reg =
        some ⟨𝐰.height, bps, p⟩) ∧
    (∀ e payout bps, alookup c 𝐰.reg = some e → e.lastUpdated + COOLDOWN ≤ 𝐰.height →
      (∀ b, bps = some b → MIN_BPS ≤ b ∧ b ≤ MAX_BPS) → payout ≠ some .invalid →
      (step 𝐰 (.royalty sender (.update (.valid c) payout bps))).2.ok = true ∧
      alookup c (step 𝐰 (.royalty sender (.update (.valid c) payout bps))).1.reg =
        some ⟨𝐰.height, bps.getD e.bps, updPayout payout e.payout⟩) ∧
    (∀ e, alookup c 𝐰.reg = some e → e.lastUpdated + COOLDOWN ≤ 𝐰.height →
      (step 𝐰 (.royalty sender (.remove (.valid c)))).2.ok = true ∧
      alookup c (step 𝐰 (.royalty sender (.remove (.valid c)))).1.reg = none)
  /-- C15 "If any token, NFT, bank or community-pool transfer issued by a purchase, withdrawal,
      deletion or deposit fails, the whole operation has no effect: records, balances and NFT
      ownership are exactly as before": from `𝐰`, after ANY continuation with faults `fops`, the next
      faulty transaction `(fail, op)` either returns the very same world (exactly when `fail` hits a
      message the fault-free transaction emits) or IS the fault-free transaction; no third case -/
  allOrNothing : ∀ fops fail op,
    ((∃ k, k < (step (runF 𝐰 fops) op).2.msgs.length ∧ fail k = true) →
      stepF fail (runF 𝐰 fops) op = (runF 𝐰 fops, .fail .dispatch)) ∧
    ((∀ k, k < (step (runF 𝐰 fops) op).2.msgs.length → fail k = false) →
      stepF fail (runF 𝐰 fops) op = step (runF 𝐰 fops) op) ∧
    (stepF fail (runF 𝐰 fops) op = (runF 𝐰 fops, .fail .dispatch) ∨
      stepF fail (runF 𝐰 fops) op = step (runF 𝐰 fops) op)
  /-- C15 a faulty history is the fault-free history of its survivors: the state reached from `𝐰` by
      ANY history with faults is the state reached by the operations that went through, which are a
      sub-list of the history and are all accepted again in the fault-free replay — so every field of
      `MarketGuarantees` / `TradeGuarantees` that holds for all histories holds under faults -/
  faultyIsSurvivors : ∀ fops, runF 𝐰 fops = run w0 (ops ++ survivors 𝐰 fops) ∧
    (survivors 𝐰 fops).Sublist (fops.map (·.2)) ∧ okRun 𝐰 (survivors 𝐰 fops)
  /-- C15 "The same operation succeeds with its normal effect once the fault is gone": a transaction
      aborted ONLY because of the injected fault leaves the state unchanged and its fault-free retry
      is the fault-free transaction -/
  retrySucceeds : ∀ fops fail op, (stepF fail (runF 𝐰 fops) op).2.ok = false →
    (step (runF 𝐰 fops) op).2.ok = true →
    (∃ k, k < (step (runF 𝐰 fops) op).2.msgs.length ∧ fail k = true) ∧
    stepF fail (runF 𝐰 fops) op = (runF 𝐰 fops, .fail .dispatch) ∧
    stepF noFault (stepF fail (runF 𝐰 fops) op).1 op = step (runF 𝐰 fops) op ∧
    (stepF noFault (stepF fail (runF 𝐰 fops) op).1 op).2.ok = true ∧
    runF 𝐰 (fops ++ [(fail, op), (noFault, op)]) = (step (runF 𝐰 fops) op).1 ∧
    survivors 𝐰 (fops ++ [(fail, op), (noFault, op)]) = survivors 𝐰 fops ++ [op]
  /-- C15 / C07 a payout aborted by a fault can be retried: after any continuation with faults (not
      signed by the marketplace, no forged hook calls), an exit message of the entitled party that is
      aborted under fault injection was hit by the fault, the record is still stored unchanged, and
      the same party's fault-free retry is accepted -/
  exitAfterFault : ∀ fops fail, (∀ p ∈ fops, p.2.avoids w0.self ∧ p.2.unforged) →
    (∀ k l, (k, l) ∈ (runF 𝐰 fops).mkt.listings → l.exitable (runF 𝐰 fops).nowNs →
      (stepF fail (runF 𝐰 fops) (.exec l.creator [] l.exitMsg)).2.ok = false →
      (∃ i, i < (step (runF 𝐰 fops) (.exec l.creator [] l.exitMsg)).2.msgs.length ∧
        fail i = true) ∧
      (stepF fail (runF 𝐰 fops) (.exec l.creator [] l.exitMsg)).1 = runF 𝐰 fops ∧
      (k, l) ∈ (stepF fail (runF 𝐰 fops) (.exec l.creator [] l.exitMsg)).1.mkt.listings ∧
      (step (stepF fail (runF 𝐰 fops) (.exec l.creator [] l.exitMsg)).1
        (.exec l.creator [] l.exitMsg)).2.ok = true) ∧
    (∀ k b, (k, b) ∈ (runF 𝐰 fops).mkt.buckets →
      (stepF fail (runF 𝐰 fops) (.exec b.owner [] (.removeBucket k.2))).2.ok = false →
      (∃ i, i < (step (runF 𝐰 fops) (.exec b.owner [] (.removeBucket k.2))).2.msgs.length ∧
        fail i = true) ∧
      (stepF fail (runF 𝐰 fops) (.exec b.owner [] (.removeBucket k.2))).1 = runF 𝐰 fops ∧
      (k, b) ∈ (stepF fail (runF 𝐰 fops) (.exec b.owner [] (.removeBucket k.2))).1.mkt.buckets ∧
      (step (stepF fail (runF 𝐰 fops) (.exec b.owner [] (.removeBucket k.2))).1
        (.exec b.owner [] (.removeBucket k.2))).2.ok = true)
  /-- C16 "Paging through an owner's … buckets from page 1 upward returns each of that owner's
      records exactly once": pages `1..k` (`20·k` at least the number of the owner's buckets — the
      caller's choice) concatenated hold each `(id, bucket)` stored under that owner exactly once and
      nothing else -/
  bucketsPaging : ∀ o k, (ownerBuckets 𝐰.mkt o).length ≤ 20 * k →
    let pages := (List.range k).flatMap fun i => (qBuckets 𝐰.mkt (.valid o) (i + 1)).getD []
    pages.Nodup ∧ ∀ x, x ∈ pages ↔ ((o, x.1), x.2) ∈ 𝐰.mkt.buckets
  /-- C16 "Paging through an owner's listings … returns each of that owner's records exactly once" -/
  listingsPaging : ∀ o k, (ownerListings 𝐰.mkt o).length ≤ 20 * k →
    let pages := (List.range k).flatMap fun i =>
      (qListingsByOwner 𝐰.mkt (.valid o) (i + 1)).getD []
    pages.Nodup ∧ ∀ l, l ∈ pages ↔ ((o, l.id), l) ∈ 𝐰.mkt.listings
  /-- C16 "so a listed item is never already unpurchasable": whatever page of the market query is
      asked at whatever block time, every listing in the answer is stored and purchasable -/
  marketSound : ∀ nowNs page res, qMarket 𝐰.mkt nowNs page = some res →
    ∀ l ∈ res, purchasable nowNs l = true ∧ ∃ k, (k, l) ∈ 𝐰.mkt.listings
  /-- C16 "The market … quer[y] return[s] precisely the listings that are finalized, unsold and
      unexpired": asked at a block time of at least two weeks (below, the query fails — the
      documented assumption), every stored purchasable listing is on some page `≥ 1`, and that page
      is at most 255 if the two-week index window holds at most 5100 records -/
  marketComplete : ∀ nowNs k l, TWO_WEEKS ≤ nowNs / NS → (k, l) ∈ 𝐰.mkt.listings →
    purchasable nowNs l = true →
    ∃ page, 1 ≤ page ∧ (page - 1) * 20 < (marketWindow 𝐰.mkt nowNs).length ∧
      ((marketWindow 𝐰.mkt nowNs).length ≤ 5100 → page ≤ 255) ∧
      ∃ res, qMarket 𝐰.mkt nowNs page = some res ∧ l ∈ res
  /-- C16 "The fee query reports the denomination the next purchase will be charged in and a
      next-change time before which a cycle attempt is refused and after which it is accepted"
      (`env` = the environment of the purchase / cycle attempt, any block time) -/
  feeQuery : ∀ env : Env,
    let q := qFeeDenom 𝐰.mkt env
    q.denom = feeDenomOf env 𝐰.mkt.feeKind ∧ q.kind = 𝐰.mkt.feeKind ∧
    q.nextChange = 𝐰.mkt.feeSince + WEEK + 1 ∧
    ((∃ x, cycleFee 𝐰.mkt env = .ok x) ↔ env.nowNs / NS ≥ q.nextChange)
  /-- C16 … as transactions: after waiting `dNs` nanoseconds (within the `u64` range) the cycle
      transaction of any account succeeds iff the block second has reached the reported time -/
  feeQueryCycle : ∀ dNs s, w0.nowNs + closed_elapsed ops + dNs ≤ U64MAX →
    ((step (run w0 (ops ++ [.advance dNs 0])) (.exec s [] .feeCycle)).2.ok = true ↔
      (run w0 (ops ++ [.advance dNs 0])).nowNs / NS ≥ (qFeeDenom 𝐰.mkt 𝐰.env).nextChange)
end

/-- C18, what IS true, for ANY history from a deployment — no `CleanHistory`, so `ops` may itself
    contain forged hook calls.  One existing theorem per field (Props/C18Reach.lean). -/
theorem Summary2_forged_from_deployment {w0 : World} (hd : Deployed w0) (ops : List Op) :
    ForgeGuarantees w0 ops where
  forgedConfined := fun op caller funds sender x inner hop hok =>
    C18_forged_step_confined_reach ops op hd caller funds sender x inner hop hok
  finalizedImmune := fun ops' hops k l hl hs =>
    C18_finalized_immune_run_reach ops ops' hd hops k l hl hs
  forgersOnly := fun ops' hops => C18_forgers_only_reach ops ops' hd hops
  accountsCannotForge := fun op acct funds sender x inner hacct hop =>
    C18_accounts_cannot_forge_reach ops op acct hacct funds sender x inner hop

/-- **The specification, second half**: every history from a deployment that meets `CleanHistory`
    and carries 128-bit amounts reaches a state with all of `TradeGuarantees`.  The proof term names,
    field by field, the theorems that are applied. -/
theorem guarantees2_from_deployment {w0 : World} (hd : Deployed w0) (ops : List Op)
    (hc : CleanHistory w0 ops) (hfit : ∀ op ∈ ops, op.fits128)
    (hinst : ∃ t r, w0.mkt = instantiate t r ∧ t ≤ w0.nowNs) : TradeGuarantees w0 ops := by
  obtain ⟨t, r, h0, ht⟩ := hinst
  have hU : ∀ op ∈ ops, op.avoids w0.self ∧ op.unforged :=
    fun op h => ⟨hc.notSelf op h, hc.unforged op h⟩
  have hreg : ∀ p ∈ w0.reg, MIN_BPS ≤ p.2.bps ∧ p.2.bps ≤ MAX_BPS := by
    rw [hd.reg0]; intro p hp; cases hp
  have hnd : (akeys w0.reg).Nodup := by rw [hd.reg0]; exact List.nodup_nil
  exact {
    deletePaysRecord := fun _ _ _ _ hs hok hx hxp => C05_payout_delete_reach h0 ops hs hok hx hxp hd.pool
    withdrawPaysRecord := fun _ _ _ _ hs hok hx hxp =>
      C05_payout_purchased_reach h0 ops hs hok hx hxp hd.pool
    removeBucketPaysRecord := fun _ _ _ _ hs hok hx hxp => by
      -- `C05_payout_bucket` needs no invariant; the addresses of `𝐰` are those of `w0`
      have hst := run_static w0 ops
      exact C05_payout_bucket hs hok (hst.ne_self hx) (hst.ne_pool hxp) (hst.pool_ne_self hd.pool)
    refundNoFee := C05_refund_no_fee_reach h0 ops
    othersUntouched := fun _ _ hx hxp hy hys hyp =>
      C05_others_untouched_reach h0 ops hx hxp hd.pool hy hys hyp
    buyClosedForm := fun _ _ _ _ _ _ _ hfd h => C06_buy_closed_form_reach h0 ops hfit hfd h
    buyNoOtherDeduction := fun _ _ _ _ _ _ _ hfd h => C06_no_other_deduction_reach h0 ops hfit hfd h
    buyPaidInTransaction := fun _ _ _ _ hfd hok => C06_paid_in_transaction_reach h0 ops hfit hfd hok
    buyHalf := fun _ _ _ _ hfd hok => C11_buy_half_reach h0 ops hfd hok
    buyRefusedOverHalf := C11_buy_refused_over_half_reach w0 ops
    buyExactHalfAllowed := C11_buy_exact_half_reach hc.registry ops
    buyFeeExact := fun _ _ _ _ hfd hok => C17_buy_fee_exact_reach h0 ops hfd hok
    buyRoyaltyExact := fun _ _ _ _ hfd hok => C17_buy_royalty_conserve_reach h0 ops hfit hfd hok
    buyNoOverflow := C17_buy_no_overflow_reach w0 ops
    buyNoPanic := C17_buy_no_panic_reach w0 hreg ops
    regBounds := C14_reach_bps hreg ops
    regKeysUnique := C14_reach_nodup hnd ops
    regMsgIff := C14_step_ok_iff _
    regAdminOnly := fun _ _ h => C14_step_admin h
    regChangeGuard := fun _ _ hch => C14_step_change_guard hch
    regAdminCan := fun _ _ _ hci hadm =>
      ⟨fun _ _ hn h1 h2 => C14_admin_can_register hci hadm hn h1 h2,
       fun _ _ _ he hcool hb hp => C14_admin_can_update hci hadm he hcool hb hp,
       fun _ he hcool => C14_admin_can_remove hci hadm he hcool⟩
    allOrNothing := C15_all_or_nothing_reach _
    faultyIsSurvivors := fun fops =>
      ⟨by rw [run_append]; exact C15_runF_is_run_of_survivors_reach _ fops,
       C15_survivors_sublist_reach _ fops, C15_survivors_accepted_reach _ fops⟩
    retrySucceeds := C15_retry_succeeds_reach _
    exitAfterFault := fun fops fail hf => by
      -- `runF w0 (noFaults ops ++ fops) = runF 𝐰 fops`
      have h := C15_exit_after_fault_reach hd (noFaults ops ++ fops) (fun p hp =>
        (List.mem_append.1 hp).elim (fun hp => by
          obtain ⟨op, hop, rfl⟩ := List.mem_map.1 hp
          exact hU op hop) (hf p)) fail
      rwa [runF_append, runF_noFaults] at h
    bucketsPaging := C16_buckets_paging_reach h0 ops
    listingsPaging := C16_listings_paging_reach h0 ops
    marketSound := fun _ _ _ hq => C16_market_sound_reach h0 ops hq
    marketComplete := fun _ _ _ hnow hm hp => C16_market_complete_reach h0 ops hnow hm hp
    feeQuery := C16_fee_reach h0 ht ops hc.clock
    feeQueryCycle := fun dNs s hclk => C16_fee_cycle_reach h0 ht ops dNs hclk s
    toForgeGuarantees := Summary2_forged_from_deployment hd ops }

/-! The examples use `SummaryEx.ops` (Props/C02World.lean) from the concrete deployment `deployedEx`
(instantiated at its own block time 1 700 000 000.123456789 s). -/

namespace Summary2Ex
theorem fits : ∀ op ∈ SummaryEx.ops, op.fits128 := by decide
theorem inst : ∃ t r, deployedEx.mkt = instantiate t r ∧ t ≤ deployedEx.nowNs :=
  ⟨1700000000123456789, some 7, rfl, by decide⟩
/-- the prefixes of that history before the purchase (3 operations) and before the withdrawal (6) -/
theorem cleanTake (k : Nat) (hk : k = 3 ∨ k = 6) : CleanHistory deployedEx (SummaryEx.ops.take k) := by
  rcases hk with rfl | rfl <;>
    exact ⟨by decide, by decide, by decide, by decide, rfl, ⟨by decide, by decide⟩⟩
theorem fitsTake (k : Nat) : ∀ op ∈ SummaryEx.ops.take k, op.fits128 :=
  fun op h => fits op (List.mem_of_mem_take h)
end Summary2Ex

/-- the hypotheses of `guarantees2_from_deployment` are met by a non-trivial history … -/
example : TradeGuarantees deployedEx SummaryEx.ops :=
  guarantees2_from_deployment C02WEx.deployedEx_ok SummaryEx.ops SummaryEx.clean Summary2Ex.fits
    Summary2Ex.inst

/-- … and by its prefixes, from which the transactions the fields speak about ARE accepted: the
    purchase after three operations (fields `buy…`), the buyer's withdrawal after six
    (`withdrawPaysRecord`; signer 1 is neither the marketplace 9 nor the pool), the removal of the
    bucket at the end (`removeBucketPaysRecord`) -/
example : TradeGuarantees deployedEx (SummaryEx.ops.take 3) ∧
    TradeGuarantees deployedEx (SummaryEx.ops.take 6) :=
  ⟨guarantees2_from_deployment C02WEx.deployedEx_ok _ (Summary2Ex.cleanTake 3 (.inl rfl))
      (Summary2Ex.fitsTake 3) Summary2Ex.inst,
   guarantees2_from_deployment C02WEx.deployedEx_ok _ (Summary2Ex.cleanTake 6 (.inr rfl))
      (Summary2Ex.fitsTake 6) Summary2Ex.inst⟩
example : (step (run deployedEx (SummaryEx.ops.take 3)) (.exec 1 [] (.buy 4 5))).2.ok = true ∧
    (step (run deployedEx (SummaryEx.ops.take 6)) (.exec 1 [] (.withdrawPurchased 4))).2.ok = true ∧
    (step (run deployedEx SummaryEx.ops) (.exec 1 [] (.removeBucket 5))).2.ok = true ∧
    (1 : Nat) ≠ deployedEx.self ∧ (1 : Nat) ≠ deployedEx.pool := by decide +kernel

/-- a field applied: the purchase of the sample history was exact (`FeeExact` on both sides) -/
example := (guarantees2_from_deployment C02WEx.deployedEx_ok _ (Summary2Ex.cleanTake 3 (.inl rfl))
  (Summary2Ex.fitsTake 3) Summary2Ex.inst).buyFeeExact 1 4 5 _ rfl (by decide +kernel)

/-- C15: the withdrawal after six operations emits one message, so a fault at position 0 aborts it
    (`allOrNothing`, first case); C18: account 1 is no contract of `deployedEx`, so it cannot forge -/
example : (∃ k, k < (step (run deployedEx (SummaryEx.ops.take 6))
      (.exec 1 [] (.withdrawPurchased 4))).2.msgs.length ∧ C15REx.failAt 0 k = true) ∧
    deployedEx.kindOf 1 = none := ⟨⟨0, by decide +kernel, rfl⟩, by decide⟩

/-! ### a deployment with an NFT collection and a hostile contract (C14, C18)

`Summary2Ex.wAdm` is `c18World` (= `deployedEx` plus the hostile contract 6, which answers both token
probes) plus the honest CW721 collection 5 administered by account 1 (`⟨some 1, 2, false, false⟩`:
admin, kind 2 = honest CW721, answers no `TokenInfo`, its transfers do not fail).  After the victim's
two deposits (`c18Setup`: bucket 3, preparing listing 5) the admin's `Register` is accepted and a
stranger's is refused (fields `regMsgIff`, `regAdminOnly`, `regAdminCan`), and the forged hook call of
contract 6 naming account 1 as sender is accepted (field `forgedConfined`) — also from a history that
already contains forged calls, for which `ForgeGuarantees` still holds. -/

namespace Summary2Ex
def wAdm : World := { c18World with contracts := (5, ⟨some 1, 2, false, false⟩) :: c18World.contracts }
theorem wAdm_deployed : Deployed wAdm := by
  refine ⟨⟨1700000000123456789, some 7, rfl⟩, ?_, ?_, ?_, rfl, by decide⟩
  · intro d; simp [wAdm, c18World, lget, alookup]
  · intro t; simp [wAdm, c18World, lget]
  · intro k; simp [wAdm, c18World]
theorem cleanAdm : CleanHistory wAdm c18Setup :=
  ⟨by decide, by decide, by decide, by decide, rfl, ⟨by decide, by decide⟩⟩
end Summary2Ex

example : TradeGuarantees Summary2Ex.wAdm c18Setup :=
  guarantees2_from_deployment Summary2Ex.wAdm_deployed c18Setup Summary2Ex.cleanAdm (by decide)
    ⟨1700000000123456789, some 7, rfl, by decide⟩
/-- `ForgeGuarantees` for a history that is NOT `unforged` (it contains the four forged calls) -/
example : ForgeGuarantees Summary2Ex.wAdm (c18Setup ++ c18Forgeries) ∧
    ¬ ∀ op ∈ c18Setup ++ c18Forgeries, op.unforged :=
  ⟨Summary2_forged_from_deployment Summary2Ex.wAdm_deployed _, by decide⟩
example :
    alookup 5 (run Summary2Ex.wAdm c18Setup).contracts = some ⟨some 1, 2, false, false⟩ ∧
    alookup 5 (run Summary2Ex.wAdm c18Setup).reg = none ∧
    (step (run Summary2Ex.wAdm c18Setup)
      (.royalty 1 (.register (.valid 5) (.valid 9) 50))).2.ok = true ∧
    (step (run Summary2Ex.wAdm c18Setup)
      (.royalty 2 (.register (.valid 5) (.valid 9) 50))).2.ok = false ∧
    (step (run Summary2Ex.wAdm c18Setup) forge20Bucket).2.ok = true ∧
    (step (run Summary2Ex.wAdm (c18Setup ++ c18Forgeries)) forge20Bucket).2.ok = true := by decide +kernel

#print axioms guarantees2_from_deployment
#print axioms Summary2_forged_from_deployment
end Fuzion
