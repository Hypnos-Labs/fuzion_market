/-
  Fuzion.Props.C11Reach — C11 ("Royalties never take more than half of any traded amount") for the
  purchase transaction `.exec buyer [] (.buy lid bid)` executed in `run w0 ops`; Props/C11.lean has
  the 50 % gate for the pure function `royalties` (`GenericBalance::royalties`).  What is asked of
  `w0` differs: a freshly instantiated marketplace for "at most half is taken" (`IdsInv`, `WFInv` by
  `C09_reach`, `C12_reach`), nothing for "above 5000 bps the purchase is refused" (`run w0 ops` is
  then any world), the real registry address stored for "and only then".

  5000 bps is the literal in `GenericBalance::royalties` (marketplace/src/state.rs,
  `if sum_royalties > 5000`).  The accepted transaction is decomposed (`step_buy_split`,
  Lemmas/ArithReachLemmas.lean) into the model's own `calcFeeCoin` and `royalties` calls: `l`, `b` =
  traded listing / paying bucket before, `l'`, `b'` = the re-filed records, `lbal`, `bbal` = goods /
  funds after the fee step.
-/
import Fuzion.Props.C11
import Fuzion.Props.C02World
import Fuzion.Props.C06Closed
import Fuzion.Lemmas.ArithReachLemmas
namespace Fuzion

/-- "royalties never take more than half", for one side: `g` = the side after the fee, `g'` = the
    side stored, `ms` = the royalty messages emitted for this side -/
structure RoyaltyHalf (g g' : GBal) (ms : List OutMsg) : Prop where
  paidN : ∀ k, 2 * outNative ms k ≤ coinAmt g.native k
  paidC : ∀ k, 2 * outCw20 ms k ≤ coinAmt g.cw20 k
  keptN : ∀ k, coinAmt g.native k ≤ 2 * coinAmt g'.native k
  keptC : ∀ k, coinAmt g.cw20 k ≤ 2 * coinAmt g'.cw20 k
  entryN : g'.native.length = g.native.length ∧
    ∀ i (h₁ : i < g.native.length) (h₂ : i < g'.native.length),
      g'.native[i].key = g.native[i].key ∧ g'.native[i].amount ≤ g.native[i].amount ∧
      2 * (g.native[i].amount - g'.native[i].amount) ≤ g.native[i].amount ∧
      1 ≤ g'.native[i].amount
  entryC : g'.cw20.length = g.cw20.length ∧
    ∀ i (h₁ : i < g.cw20.length) (h₂ : i < g'.cw20.length),
      g'.cw20[i].key = g.cw20[i].key ∧ g'.cw20[i].amount ≤ g.cw20[i].amount ∧
      2 * (g.cw20[i].amount - g'.cw20[i].amount) ≤ g.cw20[i].amount ∧
      1 ≤ g'.cw20[i].amount
  wf : wfBal g' = true

theorem RoyaltyHalf.of_royalties {g g' : GBal} {rs : List (Option RoyaltyInfo)}
    {ms : List OutMsg} {s : Nat} (wf : wfBal g = true) (h : royalties g rs = .ok g' ms s) :
    RoyaltyHalf g g' ms := by
  obtain ⟨z1, z2, _⟩ := (wfBal_iff g).1 wf
  have pn := fun k => royalties_paid_native (fNative_mkBank k) (fNative_mkCw20 k) h
  have pc := fun k => royalties_paid_cw20 (fCw20_mkBank k) (fCw20_mkCw20 k) h
  refine ⟨fun k => (pn k).2, fun k => (pc k).2, fun k => half_left (pn k), fun k => half_left (pc k),
    ⟨(C11_half_native h).1, fun i h₁ h₂ => ?_⟩, ⟨(C11_half_cw20 h).1, fun i h₁ h₂ => ?_⟩,
    C11_wf wf h⟩
  · obtain ⟨a, b, c, d⟩ := (C11_half_native h).2 i h₁ h₂
    exact ⟨a, b, c, d (Nat.pos_of_ne_zero (z1 _ (List.getElem_mem h₁)))⟩
  · obtain ⟨a, b, c, d⟩ := (C11_half_cw20 h).2 i h₁ h₂
    exact ⟨a, b, c, d (Nat.pos_of_ne_zero (z2 _ (List.getElem_mem h₁)))⟩

section
variable {w0 : World} {t : Nat} {r : Option Nat}

/-- "Royalties never take more than half of any traded amount": in every purchase accepted in a
    state reached from an instantiated marketplace, for each side the stored contents and the
    royalty messages are the result of `royalties` on the side's after-fee balance (`calcFeeCoin`)
    with the registry's answers for the opposite side's collections; the rate sum of each side is
    at most 5000 bps; and (`RoyaltyHalf`) for every fungible entry of either side the royalties
    paid out of it total at most half of its after-fee amount, the amount that stays in the record
    is at least half of it and at least 1.  (Holds for all amounts: `Op.fits128` is not needed.) -/
theorem C11_buy_half_reach (h0 : w0.mkt = instantiate t r) (ops : List Op)
    {buyer lid bid fd : Nat}
    (hfd : fd = feeDenomOf (run w0 ops).env (run w0 ops).mkt.feeKind)
    (hok : (step (run w0 ops) (.exec buyer [] (.buy lid bid))).2.ok = true) :
    ∃ l b l' b' lbal bbal msgsB msgsL sB sL,
      alookup (l.creator, lid) (run w0 ops).mkt.listings = some l ∧
      alookup (buyer, bid) (run w0 ops).mkt.buckets = some b ∧
      alookup (buyer, lid) (step (run w0 ops) (.exec buyer [] (.buy lid bid))).1.mkt.listings =
        some l' ∧
      alookup (l.creator, bid) (step (run w0 ops) (.exec buyer [] (.buy lid bid))).1.mkt.buckets =
        some b' ∧
      calcFeeCoin fd l.forSale = some (l'.fee, lbal) ∧
      calcFeeCoin fd b.funds = some (b'.fee, bbal) ∧
      royalties bbal ((collections l.forSale).map (run w0 ops).env.regLookup) =
        .ok b'.funds msgsB sB ∧
      royalties lbal ((collections b.funds).map (run w0 ops).env.regLookup) =
        .ok l'.forSale msgsL sL ∧
      (step (run w0 ops) (.exec buyer [] (.buy lid bid))).2.msgs =
        pendingFeeMsgs (run w0 ops).self b.fee ++ msgsB ++ msgsL ∧
      -- the gate was passed on both sides
      sB = ((sideEntries (run w0 ops).env l.forSale).map (·.bps)).sum ∧ sB ≤ 5000 ∧
      sL = ((sideEntries (run w0 ops).env b.funds).map (·.bps)).sum ∧ sL ≤ 5000 ∧
      -- at most half is taken, at least half and at least 1 stays
      RoyaltyHalf bbal b'.funds msgsB ∧ RoyaltyHalf lbal l'.forSale msgsL := by
  subst hfd
  obtain ⟨l, b, l', b', lbal, bbal, msgsB, msgsL, sB, sL, s, wl, wb⟩ :=
    step_buy_split (C09_reach h0 ops) (C12_reach h0 ops) hok
  obtain ⟨g1, g2⟩ := C11_gate_ok s.royB
  obtain ⟨g3, g4⟩ := C11_gate_ok s.royL
  exact ⟨l, b, l', b', lbal, bbal, msgsB, msgsL, sB, sL, s.listing, s.bucket, s.refiledL,
    s.refiledB, s.feeL, s.feeB, s.royB, s.royL, s.msgs, g1, g2, g3, g4,
    RoyaltyHalf.of_royalties (C17_fee_wf wb s.feeB) s.royB,
    RoyaltyHalf.of_royalties (C17_fee_wf wl s.feeL) s.royL⟩

example := C11_buy_half_reach (w0 := AcctEx.w0) rfl C06CEx.ops
  (buyer := 2) (lid := 3) (bid := 8) rfl C06CEx.buy_ok

/-! ### sample worlds at the gate

The sample deployment `AcctEx.w0` with collection 60 registered at exactly 50 % (`wHalf0`) and at
50.01 % (`wOver0`) — rates the registry's own messages never store (`C14_reach_bps`), seeded here to
reach the gate with one collection —, and the first five operations of `AcctEx.ops`
(Lemmas/AcctLemmas.lean): listing 3, which holds NFT (60, 7), is finalized and buyer 2 has filled
bucket 8 with its price. -/

namespace C11REx
def wHalf0 : World := { AcctEx.w0 with reg := [(60, ⟨0, 5000, 9⟩)] }
def wOver0 : World := { AcctEx.w0 with reg := [(60, ⟨0, 5001, 9⟩)] }
def ops : List Op := AcctEx.ops.take 5
end C11REx

/-- at the gate: with the seller's collection at exactly 5000 bps the purchase is accepted,
    1000 of the bucket's 2000 go to the payout address and 1000 stay -/
example : (step (run C11REx.wHalf0 C11REx.ops) (.exec 2 [] (.buy 3 8))).2.ok = true ∧
    (step (run C11REx.wHalf0 C11REx.ops) (.exec 2 [] (.buy 3 8))).2.msgs =
      [.bankSend 9 [⟨2, 1000⟩]] ∧
    (step (run C11REx.wHalf0 C11REx.ops) (.exec 2 [] (.buy 3 8))).1.mkt.buckets.map
      (fun p => p.2.funds) = [⟨[⟨2, 1000⟩], [], []⟩] := by decide +kernel
example := C11_buy_half_reach (w0 := C11REx.wHalf0) rfl C11REx.ops
  (buyer := 2) (lid := 3) (bid := 8) rfl (by decide +kernel)

/-- "Royalties never take more than half": if the rates registered for the collections of the
    goods of listing `lid`, or of the funds of the paying bucket, sum to more than 5000 bps, the
    handler refuses, the purchase transaction fails and the world is unchanged.  Nothing is asked
    of `w0` or `ops`: `run w0 ops` stands for any world. -/
theorem C11_buy_refused_over_half_reach (w0 : World) (ops : List Op) (buyer lid bid : Nat) :
    ∀ k l b, findById lid (run w0 ops).mkt.listings = some (k, l) →
      alookup (buyer, bid) (run w0 ops).mkt.buckets = some b →
      (((sideEntries (run w0 ops).env l.forSale).map (·.bps)).sum > 5000 ∨
       ((sideEntries (run w0 ops).env b.funds).map (·.bps)).sum > 5000) →
      (∀ res, buy (run w0 ops).mkt (run w0 ops).env buyer lid bid ≠ .ok res) ∧
      (step (run w0 ops) (.exec buyer [] (.buy lid bid))).2.ok = false ∧
      (step (run w0 ops) (.exec buyer [] (.buy lid bid))).2.msgs = [] ∧
      (step (run w0 ops) (.exec buyer [] (.buy lid bid))).1 = run w0 ops := by
  intro k l b hl hb hover
  have hT : ¬ BuyTerms (run w0 ops).mkt (run w0 ops).env buyer lid bid := by
    -- of the published terms only the two look-ups and the two rate sums (last) matter
    rintro ⟨k', l', b', hl', hb', _, _, _, _, _, _, s1, s2⟩
    rw [hl] at hl'; cases hl'
    rw [hb] at hb'; cases hb'
    rw [bpsOf_eq_sideEntries] at s1 s2
    omega
  refine ⟨fun res h => hT (BuyTerms.of_ok h), ?_⟩
  -- a call without coins fails and leaves the world as it is, or the handler accepted (`hx`)
  rcases stepF_exec_nil noFault (run w0 ops) buyer (.buy lid bid) with
    ⟨e, hs⟩ | ⟨m', msgs, w2, hx, _, _⟩
  · show (stepF noFault _ _).2.ok = false ∧ (stepF noFault _ _).2.msgs = [] ∧
      (stepF noFault _ _).1 = _
    rw [hs]
    exact ⟨rfl, rfl, rfl⟩
  · exact absurd (BuyTerms.of_ok hx) hT

/-- in the state reached from `wOver0` the records exist, the seller's collection is registered at
    5001 bps, and the purchase is refused with `royaltyOverHalf` -/
example : ∃ k l b, findById 3 (run C11REx.wOver0 C11REx.ops).mkt.listings = some (k, l) ∧
    alookup (2, 8) (run C11REx.wOver0 C11REx.ops).mkt.buckets = some b ∧
    ((sideEntries (run C11REx.wOver0 C11REx.ops).env l.forSale).map (·.bps)).sum = 5001 ∧
    (step (run C11REx.wOver0 C11REx.ops) (.exec 2 [] (.buy 3 8))).2.err =
      some .royaltyOverHalf :=
  ⟨_, _, _, rfl, rfl, by decide +kernel, by decide +kernel⟩

/-- "at most half": with the address of the real registry stored at deployment, in every reached
    state a purchase is refused with `Err.royaltyOverHalf` — by the handler or as a transaction —
    ONLY if the rates registered for the collections of one of the two sides sum to MORE than 5000
    bps.  So at exactly 5000 bps (or below) it is never refused for that reason. -/
theorem C11_buy_exact_half_reach {w0 : World} (hreg : w0.mkt.registry = some w0.regAddr)
    (ops : List Op) (buyer lid bid : Nat)
    (h : buy (run w0 ops).mkt (run w0 ops).env buyer lid bid = .error .royaltyOverHalf ∨
      (step (run w0 ops) (.exec buyer [] (.buy lid bid))).2.err = some .royaltyOverHalf) :
    ∃ k l b, findById lid (run w0 ops).mkt.listings = some (k, l) ∧
      alookup (buyer, bid) (run w0 ops).mkt.buckets = some b ∧
      (((sideEntries (run w0 ops).env l.forSale).map (·.bps)).sum > 5000 ∨
       ((sideEntries (run w0 ops).env b.funds).map (·.bps)).sum > 5000) := by
  obtain ⟨k, l, b, ra, hl, hbk, hra, hc⟩ := buy_overHalf_inv
    (h.elim id fun h => step_buy_err h (show Err.royaltyOverHalf ≠ .dispatch by decide))
  have : ra = (run w0 ops).env.regAddr :=
    Option.some.inj (hra.symm.trans (run_registry_real hreg ops))
  exact ⟨k, l, b, hl, hbk, hc.resolve_left fun h => h this⟩

/-- `wOver0` stores the real registry address and the purchase in the reached state is refused
    with `royaltyOverHalf` (5001 bps, see above) -/
example : C11REx.wOver0.mkt.registry = some C11REx.wOver0.regAddr ∧
    (step (run C11REx.wOver0 C11REx.ops) (.exec 2 [] (.buy 3 8))).2.err =
      some .royaltyOverHalf := ⟨rfl, by decide +kernel⟩

/-- "exactly 50 % is allowed": with the address of the real registry stored at deployment, in
    every reached state the handler ACCEPTS a purchase whose other published terms hold and whose
    two rate sums are at most 5000 bps — bound included (`C02_buy_iff`, right to left, with
    `BuyTerms` written out). -/
theorem C11_buy_accepted_at_half_reach {w0 : World} (hreg : w0.mkt.registry = some w0.regAddr)
    (ops : List Op) (buyer lid bid : Nat) :
    ∀ k l b, findById lid (run w0 ops).mkt.listings = some (k, l) →
      alookup (buyer, bid) (run w0 ops).mkt.buckets = some b →
      l.status = .finalized → l.claimant = none →
      (∀ e, l.expiresAt = some e → (run w0 ops).nowNs ≤ e) →
      (∀ x, l.whitelist = some x → x = buyer) → b.owner = buyer →
      genbalCmp b.funds l.ask = true →
      ((sideEntries (run w0 ops).env l.forSale).map (·.bps)).sum ≤ 5000 →
      ((sideEntries (run w0 ops).env b.funds).map (·.bps)).sum ≤ 5000 →
      ∃ res, buy (run w0 ops).mkt (run w0 ops).env buyer lid bid = .ok res := by
  intro k l b hl hb hs hc he hw ho hg s1 s2
  exact (C02_buy_iff (run_registry_real hreg ops)).2 ⟨k, l, b, hl, hb, hs, hc, he, hw, ho, hg, s1, s2⟩

/-- at the bound: in the state reached from `wHalf0` the seller's rate sum is exactly 5000 and all
    terms hold (the transaction is accepted too, see the example after `C11_buy_half_reach`) -/
example : C11REx.wHalf0.mkt.registry = some C11REx.wHalf0.regAddr ∧
    ∃ k l b, findById 3 (run C11REx.wHalf0 C11REx.ops).mkt.listings = some (k, l) ∧
      alookup (2, 8) (run C11REx.wHalf0 C11REx.ops).mkt.buckets = some b ∧
      l.status = .finalized ∧ l.claimant = none ∧
      (∀ e, l.expiresAt = some e → (run C11REx.wHalf0 C11REx.ops).nowNs ≤ e) ∧
      (∀ x, l.whitelist = some x → x = 2) ∧ b.owner = 2 ∧ genbalCmp b.funds l.ask = true ∧
      ((sideEntries (run C11REx.wHalf0 C11REx.ops).env l.forSale).map (·.bps)).sum = 5000 ∧
      ((sideEntries (run C11REx.wHalf0 C11REx.ops).env b.funds).map (·.bps)).sum = 0 :=
  ⟨rfl, _, _, _, rfl, rfl, by decide, by decide, by decide, by decide, by decide, by decide,
    by decide, by decide⟩

end

#print axioms C11_buy_half_reach
#print axioms C11_buy_refused_over_half_reach
#print axioms C11_buy_exact_half_reach
#print axioms C11_buy_accepted_at_half_reach

end Fuzion
