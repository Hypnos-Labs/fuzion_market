/-
  Fuzion.Props.C03Reach — the theorems of Props/C03.lean for every state `run w0 ops` with
  `w0.mkt = instantiate t r` and `ops` arbitrary: marketplace messages of any account, forged hook
  calls, CW20 / CW721 sends, registry messages, admin changes, the passage of time.  `IdsInv` and
  `WFInv` are discharged by `C09_reach`, `C12_reach`; so is "the closed listing has claimant `c`" in
  `C03_claim_only_buyer_reach` (a closed record of a reached state carries its holder as claimant).
  What remains are hypotheses about the input: which purchase / withdrawal was accepted, which
  record is looked at.  Nothing about the initial world other than its marketplace record is
  assumed.  The counting form `C03_sold_once_reach` is in Props/C03Closed.lean.
-/
import Fuzion.Props.C03
import Fuzion.Lemmas.ClosedLemmas
import Fuzion.Lemmas.AcctLemmas
namespace Fuzion

/-! ### sample reachable states for the examples

From the sample deployment `AcctEx.w0`: the first six operations of `AcctEx.ops`
(Lemmas/AcctLemmas.lean; seller 1's listing 3 is finalized, buyer 2's bucket 8 holds its price),
then the bystander 5 opens bucket 9 with 30 of denom 1 — a competitor whose bucket does not match.
`wSold` is the state after buyer 2's purchase. -/

namespace C03REx
def ops : List Op := AcctEx.ops.take 6 ++ [.exec 5 [⟨1, 30⟩] (.createBucket 9)]
def w : World := run AcctEx.w0 ops
def opsSold : List Op := ops ++ [.exec 2 [] (.buy 3 8)]
def wSold : World := run AcctEx.w0 opsSold
end C03REx

example : AcctEx.w0.mkt = instantiate 0 (some 102) := rfl
example : C03REx.w.mkt.listings.map (fun p => (p.1, p.2.creator, p.2.status)) =
      [((1, 3), 1, .finalized)] ∧
    C03REx.w.mkt.buckets.map (fun p => (p.1, p.2.owner)) = [((5, 9), 5), ((2, 8), 2)] ∧
    C03REx.wSold.mkt.listings.map (fun p => (p.1, p.2.claimant, p.2.status)) =
      [((2, 3), some 2, .closed)] ∧
    C03REx.wSold.mkt.buckets.map (fun p => (p.1, p.2.owner)) = [((1, 8), 1), ((5, 9), 5)] := by
  decide +kernel

section
variable {w0 : World} {t : Nat} {r : Option Nat}

/-- "A successful purchase simultaneously makes the buyer [the owner of] the listing's goods and
    the seller [the owner of] the bucket's goods; neither half happens without the other", in
    every reachable state: the single state update of an accepted `buy` re-files the listing
    (closed, claimant = buyer) under the buyer's key *and* the bucket under the seller's key,
    removes both old entries, leaves every other key of both tables alone, and overwrites
    nothing. -/
theorem C03_swap_reach (h0 : w0.mkt = instantiate t r) (ops : List Op) {m' : Market} {env : Env}
    {buyer lid bid : Nat} {out : List OutMsg}
    (h : buy (run w0 ops).mkt env buyer lid bid = .ok (m', out)) :
    ∃ l b l' b',
      -- the old records
      alookup (l.creator, lid) (run w0 ops).mkt.listings = some l ∧
      alookup (buyer, bid) (run w0 ops).mkt.buckets = some b ∧
      -- the new ones
      alookup (buyer, lid) m'.listings = some l' ∧ l'.creator = buyer ∧ l'.claimant = some buyer ∧
      l'.status = .closed ∧ l'.id = lid ∧
      alookup (l.creator, bid) m'.buckets = some b' ∧ b'.owner = l.creator ∧
      -- the old entries are gone
      (buyer ≠ l.creator →
        alookup (l.creator, lid) m'.listings = none ∧ alookup (buyer, bid) m'.buckets = none) ∧
      -- every other key is untouched
      (∀ k, k ≠ (buyer, lid) → k ≠ (l.creator, lid) →
        alookup k m'.listings = alookup k (run w0 ops).mkt.listings) ∧
      (∀ k, k ≠ (buyer, bid) → k ≠ (l.creator, bid) →
        alookup k m'.buckets = alookup k (run w0 ops).mkt.buckets) ∧
      -- nothing was stored under the two new keys before
      (buyer ≠ l.creator →
        alookup (buyer, lid) (run w0 ops).mkt.listings = none ∧
        alookup (l.creator, bid) (run w0 ops).mkt.buckets = none) :=
  C03_swap (C09_reach h0 ops) h

/-- buyer 2's purchase of listing 3 with bucket 8 is accepted in the sample state (`errOf … =
    none`: the handler returned `.ok`) … -/
example : C12Ex.errOf (buy C03REx.w.mkt C03REx.w.env 2 3 8) = none := by decide +kernel
/-- … and the theorem applies to it -/
example {m' : Market} {out : List OutMsg} (h : buy C03REx.w.mkt C03REx.w.env 2 3 8 = .ok (m', out)) :=
  C03_swap_reach (w0 := AcctEx.w0) rfl C03REx.ops h

/-- "makes the buyer the **only** party able to claim the listing's goods and the seller the
    **only** party able to claim the bucket's goods", in the state after a purchase accepted in
    any reachable state: whatever the time and whoever asks, `WithdrawPurchased lid` is accepted
    exactly for the buyer and `RemoveBucket bid` exactly for the seller. -/
theorem C03_swap_claims_reach (h0 : w0.mkt = instantiate t r) (ops : List Op) {m' : Market}
    {env : Env} {buyer lid bid : Nat} {out : List OutMsg}
    (h : buy (run w0 ops).mkt env buyer lid bid = .ok (m', out)) :
    ∃ seller l, alookup (seller, lid) (run w0 ops).mkt.listings = some l ∧ l.creator = seller ∧
      ∀ (env' : Env) (who : Nat),
        ((∃ r, withdrawPurchased m' env' who lid = .ok r) ↔ who = buyer) ∧
        ((∃ r, withdrawBucket m' env' who bid = .ok r) ↔ who = seller) :=
  C03_swap_claims (C09_reach h0 ops) h

example {m' : Market} {out : List OutMsg} (h : buy C03REx.w.mkt C03REx.w.env 2 3 8 = .ok (m', out)) :=
  C03_swap_claims_reach (w0 := AcctEx.w0) rfl C03REx.ops h
/-- what `C03_swap_claims_reach` says there, computed on the state after the purchase: the
    buyer's claim is accepted, the seller's and the bystander's are refused; the seller can take
    bucket 8, the buyer no longer can -/
example :
    C12Ex.errOf (withdrawPurchased C03REx.wSold.mkt C03REx.wSold.env 2 3) = none ∧
    C12Ex.errOf (withdrawPurchased C03REx.wSold.mkt C03REx.wSold.env 1 3) = some .notClaimant ∧
    C12Ex.errOf (withdrawPurchased C03REx.wSold.mkt C03REx.wSold.env 5 3) = some .notClaimant ∧
    C12Ex.errOf (withdrawBucket C03REx.wSold.mkt C03REx.wSold.env 1 8) = none ∧
    C12Ex.errOf (withdrawBucket C03REx.wSold.mkt C03REx.wSold.env 2 8) = some .notFound := by decide +kernel

/-- "the buyer the only party able to claim the listing's goods", in every reachable state: a
    closed listing has a claimant, the claimant is the account the record is filed under, and
    `WithdrawPurchased` is accepted for that account and refused for everybody else, at any
    time. -/
theorem C03_claim_only_buyer_reach (h0 : w0.mkt = instantiate t r) (ops : List Op) {lid : Nat}
    {k : Nat × Nat} {l : Listing} (hl : findById lid (run w0 ops).mkt.listings = some (k, l))
    (hs : l.status = .closed) :
    l.claimant = some l.creator ∧ k = (l.creator, lid) ∧
    ∀ (env : Env) (who : Nat),
      (∃ r, withdrawPurchased (run w0 ops).mkt env who lid = .ok r) ↔ who = l.creator := by
  have hc := (wfListing_closed ((C12_reach h0 ops).lwf (k, l) (findById_some hl).2) hs).2.1
  exact ⟨hc, ((C09_reach h0 ops).findById_key hl).1, fun env who => C03_claim_only_buyer hl hs hc⟩

/-- the sold listing 3 of the sample state -/
example : (findById 3 C03REx.wSold.mkt.listings).map (fun p => (p.1, p.2.status)) =
    some ((2, 3), .closed) := by decide +kernel

/-- "… the seller cannot take the goods back", in every reachable state: once a listing has a
    claimant, `DeleteListing` is refused for every sender at every time. -/
theorem C03_no_delete_after_sale_reach (h0 : w0.mkt = instantiate t r) (ops : List Op) {lid : Nat}
    {k : Nat × Nat} {l : Listing} {c : Nat}
    (hl : findById lid (run w0 ops).mkt.listings = some (k, l)) (hc : l.claimant = some c)
    (env : Env) (who : Nat) : ∃ e, deleteListing (run w0 ops).mkt env who lid = .error e :=
  C03_no_delete_after_sale (C09_reach h0 ops) hl hc env who

/-- the sold listing has claimant 2; the old seller's delete is refused -/
example : (findById 3 C03REx.wSold.mkt.listings).map (fun p => p.2.claimant) = some (some 2) ∧
    C12Ex.errOf (deleteListing C03REx.wSold.mkt C03REx.wSold.env 1 3) = some .notFound := by decide +kernel

/-- "the seller the only party able to claim the bucket's goods", in every reachable state: a
    bucket filed under `(seller, bid)` can be withdrawn by `seller` and by nobody else, and nobody
    else can pay with it. -/
theorem C03_claim_only_seller_reach (h0 : w0.mkt = instantiate t r) (ops : List Op)
    {seller bid : Nat} {b : Bucket}
    (hb : alookup (seller, bid) (run w0 ops).mkt.buckets = some b) (env : Env) (who : Nat) :
    ((∃ r, withdrawBucket (run w0 ops).mkt env who bid = .ok r) ↔ who = seller) ∧
    (∀ lid, (∃ r, buy (run w0 ops).mkt env who lid bid = .ok r) → who = seller) :=
  C03_claim_only_seller (C09_reach h0 ops) hb env who

/-- the re-filed bucket (1, 8) after the sale -/
example : (alookup (1, 8) C03REx.wSold.mkt.buckets).isSome = true := by decide +kernel

/-- the purchased goods are claimable exactly once, from any reachable state: an accepted
    `WithdrawPurchased` removes the listing, after which every further claim and every purchase
    of that id is refused — for every sender and at every later time. -/
theorem C03_claim_once_listing_reach (h0 : w0.mkt = instantiate t r) (ops : List Op) {m' : Market}
    {env : Env} {who lid : Nat} {out : List OutMsg}
    (h : withdrawPurchased (run w0 ops).mkt env who lid = .ok (m', out)) :
    findById lid m'.listings = none ∧
    (∀ env' who', ∃ e, withdrawPurchased m' env' who' lid = .error e) ∧
    (∀ env' buyer bid, ∃ e, buy m' env' buyer lid bid = .error e) :=
  C03_claim_once_listing (C09_reach h0 ops) (C12_reach h0 ops) h

/-- buyer 2's claim is accepted after the sale; computed, the second claim of the same goods is
    refused -/
example : C12Ex.errOf (withdrawPurchased C03REx.wSold.mkt C03REx.wSold.env 2 3) = none ∧
    (step (step C03REx.wSold (.exec 2 [] (.withdrawPurchased 3))).1
      (.exec 2 [] (.withdrawPurchased 3))).2.ok = false := by decide +kernel

/-- the bucket's goods are claimable exactly once, from any reachable state: an accepted
    `RemoveBucket` removes the bucket, after which nobody can withdraw it again or pay with it. -/
theorem C03_claim_once_bucket_reach (h0 : w0.mkt = instantiate t r) (ops : List Op) {m' : Market}
    {env : Env} {who bid : Nat} {out : List OutMsg}
    (h : withdrawBucket (run w0 ops).mkt env who bid = .ok (m', out)) :
    (∀ env' who', ∃ e, withdrawBucket m' env' who' bid = .error e) ∧
    (∀ env' who' lid, ∃ e, buy m' env' who' lid bid = .error e) :=
  C03_claim_once_bucket (C09_reach h0 ops) h

/-- the seller takes the proceeds after the sale; computed, a second withdrawal is refused -/
example : C12Ex.errOf (withdrawBucket C03REx.wSold.mkt C03REx.wSold.env 1 8) = none ∧
    (step (step C03REx.wSold (.exec 1 [] (.removeBucket 8))).1
      (.exec 1 [] (.removeBucket 8))).2.ok = false := by decide +kernel

/-- `SoldOut` then persists (`C03_sold_stays`) and refuses every purchase (`C03_sold_refuses`). -/
theorem C03_sold_after_buy_reach (h0 : w0.mkt = instantiate t r) (ops : List Op) {m' : Market}
    {env : Env} {buyer lid bid : Nat} {out : List OutMsg}
    (h : buy (run w0 ops).mkt env buyer lid bid = .ok (m', out)) : SoldOut m' lid :=
  C03_sold_after_buy (C09_reach h0 ops) h

example {m' : Market} {out : List OutMsg} (h : buy C03REx.w.mkt C03REx.w.env 2 3 8 = .ok (m', out)) :=
  C03_sold_after_buy_reach (w0 := AcctEx.w0) rfl C03REx.ops h

/-- `SoldOut` is the "closed, or used and gone" state, in every reachable state (both sides occur:
    see the example) -/
theorem C03_soldOut_iff_reach (h0 : w0.mkt = instantiate t r) (ops : List Op) (lid : Nat) :
    SoldOut (run w0 ops).mkt lid ↔
      (∃ k l, findById lid (run w0 ops).mkt.listings = some (k, l) ∧ l.status = .closed) ∨
      (lid ∈ (run w0 ops).mkt.listingUsed ∧ findById lid (run w0 ops).mkt.listings = none) :=
  C03_soldOut_iff (C09_reach h0 ops) lid

/-- both sides occur: listing 3 is closed after the sale (left disjunct holds), and is neither
    closed nor gone before it -/
example : (∃ k l, findById 3 C03REx.wSold.mkt.listings = some (k, l) ∧ l.status = .closed) ∧
    ¬ ((∃ k l, findById 3 C03REx.w.mkt.listings = some (k, l) ∧ l.status = .closed) ∨
       (3 ∈ C03REx.w.mkt.listingUsed ∧ findById 3 C03REx.w.mkt.listings = none)) := by
  have e : (findById 3 C03REx.w.mkt.listings).map (·.2.status) = some .finalized := by
    decide +kernel
  refine ⟨⟨_, _, rfl, rfl⟩, ?_⟩
  rintro (⟨k, l, h, hs⟩ | ⟨_, h⟩)
  · simp [h, hs] at e
  · simp [h] at e

/-- "under every ordering of competing purchases, deletions and withdrawals a listing is sold at
    most once": after a purchase transaction of `lid` accepted in any reachable state, every
    purchase transaction for `lid` — any sender, any bucket, any attached coins — at any later
    point of any continuation is refused. -/
theorem C03_second_buy_refused_reach (h0 : w0.mkt = instantiate t r) (ops : List Op) {s : Nat}
    {f : List Coin} {lid bid : Nat}
    (hok : (step (run w0 ops) (.exec s f (.buy lid bid))).2.ok = true)
    (ops' : List Op) (s' : Nat) (f' : List Coin) (bid' : Nat) :
    (step (run (step (run w0 ops) (.exec s f (.buy lid bid))).1 ops')
      (.exec s' f' (.buy lid bid'))).2.ok = false :=
  C03_second_buy_refused (C09_reach h0 ops) hok ops' s' f' bid'

/-- the purchase transaction is accepted -/
example : (step C03REx.w (.exec 2 [] (.buy 3 8))).2.ok = true := by decide +kernel

/-- a purchase refused in a reachable state leaves the whole world unchanged; in particular the
    losing buyer's bucket is still there with the same contents — and, the state being
    reachable, the loser can still take it out: `RemoveBucket` of that bucket is accepted for
    him (the bucket stored under `(b2, bid2)` is owned by `b2`: `wfBucket`, from `C12_reach`). -/
theorem C03_loser_intact_reach (h0 : w0.mkt = instantiate t r) (ops : List Op) {b2 : Nat}
    {f : List Coin} {lid bid2 : Nat}
    (h : (step (run w0 ops) (.exec b2 f (.buy lid bid2))).2.ok = false) :
    (step (run w0 ops) (.exec b2 f (.buy lid bid2))).1 = run w0 ops ∧
    alookup (b2, bid2) (step (run w0 ops) (.exec b2 f (.buy lid bid2))).1.mkt.buckets =
      alookup (b2, bid2) (run w0 ops).mkt.buckets ∧
    ∀ x, alookup (b2, bid2) (run w0 ops).mkt.buckets = some x → ∀ env,
      ∃ res, withdrawBucket (step (run w0 ops) (.exec b2 f (.buy lid bid2))).1.mkt env b2 bid2 =
        .ok res := by
  obtain ⟨h1, h2⟩ := C03_loser_intact h
  refine ⟨h1, h2, fun x hx env => ?_⟩
  rw [h1]
  exact withdrawBucket_accepts_iff.2 ⟨x, hx, (wfBucket_iff.1 ((C12_reach h0 ops).bucket hx)).1.symm⟩

/-- the bystander's purchase with the non-matching bucket 9 is refused, before and after the sale
    -/
example : (step C03REx.w (.exec 5 [] (.buy 3 9))).2.ok = false ∧
    (step C03REx.wSold (.exec 5 [] (.buy 3 9))).2.ok = false ∧
    (alookup (5, 9) C03REx.w.mkt.buckets).isSome = true := by decide +kernel

/-- the *winner's* purchase, accepted in a reachable state, does not touch the losers' buckets
    either: every bucket other than the one paid with is stored, unchanged, under the same key
    afterwards. -/
theorem C03_loser_untouched_reach (h0 : w0.mkt = instantiate t r) (ops : List Op) {buyer : Nat}
    {f : List Coin} {lid bid : Nat}
    (hok : (step (run w0 ops) (.exec buyer f (.buy lid bid))).2.ok = true)
    {b2 bid2 : Nat} {x : Bucket} (hx : alookup (b2, bid2) (run w0 ops).mkt.buckets = some x)
    (hne : (b2, bid2) ≠ (buyer, bid)) :
    alookup (b2, bid2) (step (run w0 ops) (.exec buyer f (.buy lid bid))).1.mkt.buckets = some x :=
  C03_loser_untouched (C09_reach h0 ops) hok hx hne

/-- the bystander's bucket (5, 9) while buyer 2 buys; computed: it is the same record afterwards
    -/
example : (step C03REx.w (.exec 2 [] (.buy 3 8))).2.ok = true ∧
    (alookup (5, 9) C03REx.w.mkt.buckets).isSome = true ∧ ((5, 9) : Nat × Nat) ≠ (2, 8) ∧
    alookup (5, 9) (step C03REx.w (.exec 2 [] (.buy 3 8))).1.mkt.buckets =
      alookup (5, 9) C03REx.w.mkt.buckets := by decide +kernel

end

#print axioms C03_swap_reach
#print axioms C03_swap_claims_reach
#print axioms C03_claim_only_buyer_reach
#print axioms C03_no_delete_after_sale_reach
#print axioms C03_claim_only_seller_reach
#print axioms C03_claim_once_listing_reach
#print axioms C03_claim_once_bucket_reach
#print axioms C03_sold_after_buy_reach
#print axioms C03_soldOut_iff_reach
#print axioms C03_second_buy_refused_reach
#print axioms C03_loser_intact_reach
#print axioms C03_loser_untouched_reach

end Fuzion
