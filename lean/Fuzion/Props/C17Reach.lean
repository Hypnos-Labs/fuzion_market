/-
  Fuzion.Props.C17Reach — C17 ("Fee and royalty arithmetic is exact and total for all 128-bit
  amounts") for the purchase transaction `.exec buyer [] (.buy lid bid)` executed in `run w0 ops`;
  Props/C17.lean has it for the pure functions `calcFeeCoin` (`calc_fee_coin`) and `royalties`
  (`GenericBalance::royalties`) under hypotheses about the balance they are applied to.  Totality
  asks nothing of `w0` (`run w0 ops` is then any world), or only that its registry holds rates
  within the registry's bounds (`C14_reach_bps` carries them along).  For exactness the hypotheses
  on the balances are discharged from `h0 : w0.mkt = instantiate t r`: `IdsInv`, `WFInv` (hence
  duplicate-free denominations) by `C09_reach`, `C12_reach`; the 128-bit bound — only where it is
  really needed — by `closed_bounded` from `hfit : ∀ op ∈ ops, op.fits128` (every amount an
  operation carries is a `Uint128`, the Rust type of those fields).

  The accepted transaction is decomposed (`step_buy_split`, Lemmas/ArithReachLemmas.lean) into one
  `calcFeeCoin` call and one `royalties` call per side: `l`, `b` = the traded listing and the paying
  bucket before; `l'`, `b'` = the re-filed records (`l'` owned by the buyer, `b'` by the seller);
  `lbal`, `bbal` = the goods / funds between the fee step and the royalty step.  The seller's
  collections (NFTs in `l.forSale`) charge the bucket, the buyer's (NFTs in `b.funds`) the goods.
-/
import Fuzion.Props.C06Closed
import Fuzion.Props.C14
import Fuzion.Lemmas.ArithReachLemmas
namespace Fuzion

/-! ### what "exact" means for one side -/

/-- the fee step was exact: `g` = the side before, `fee` = the fee coin recorded, `g'` = the side
    after the fee (`fd` = the fee denomination in force) -/
structure FeeExact (fd : Nat) (g : GBal) (fee : Option Coin) (g' : GBal) : Prop where
  nodup : (keys g.native).Nodup
  floor : feeAmt fee fd = coinAmt g.native fd * 5 / 1000
  none_iff : fee = none ↔ coinAmt g.native fd * 5 / 1000 = 0
  absent : fd ∉ keys g.native → fee = none
  coin : ∀ f, fee = some f → f = ⟨fd, coinAmt g.native fd * 5 / 1000⟩ ∧ f.amount ≠ 0
  conserve : ∀ k, coinAmt g'.native k + feeAmt fee k = coinAmt g.native k
  others : ∀ k, k ≠ fd → coinAmt g'.native k = coinAmt g.native k ∧ feeAmt fee k = 0
  keysPerm : (keys g'.native).Perm (keys g.native)
  cw20 : g'.cw20 = g.cw20
  nfts : g'.nfts = g.nfts

theorem FeeExact.of_calc {fd : Nat} {g g' : GBal} {fee : Option Coin} (nd : (keys g.native).Nodup)
    (h : calcFeeCoin fd g = some (fee, g')) : FeeExact fd g fee g' := by
  obtain ⟨f1, f2, -⟩ := C17_fee_floor nd h
  obtain ⟨c1, c2, c3⟩ := C17_fee_conserve nd h
  refine ⟨nd, f1, f2, fun ha => f2.2 (by rw [coinAmt_eq_zero_of_not_mem ha]), ?_, c1, fun k hk => ?_,
    (C17_fee_keys_perm nd h).1, c2, c3⟩
  · rw [calcFeeCoin_spec nd] at h
    cases h
    rcases feeOf_cases fd g with ⟨e, -⟩ | ⟨e, hz⟩ <;> rw [e]
    · nofun
    · rintro _ ⟨⟩; exact ⟨rfl, hz⟩
  · have o := C17_fee_other h k hk
    have := c1 k
    rw [o, Nat.add_zero] at this
    exact ⟨this, o⟩

/-- the royalty step was exact: `es` = the entries charged, `g` = the side after the fee, `g'` =
    the side stored, `ms` = the royalty messages emitted for this side -/
structure RoyaltyExact (es : List RoyaltyInfo) (g g' : GBal) (ms : List OutMsg) : Prop where
  conserveN : ∀ k, coinAmt g'.native k + outNative ms k = coinAmt g.native k
  conserveC : ∀ k, coinAmt g'.cw20 k + outCw20 ms k = coinAmt g.cw20 k
  native : g'.native = g.native.map fun c =>
    ⟨c.key, c.amount - (es.map fun e => c.amount * e.bps / 10000).sum⟩
  cw20 : g'.cw20 = g.cw20.map fun c =>
    ⟨c.key, c.amount - (es.map fun e => c.amount * e.bps / 10000).sum⟩
  /-- the subtraction above is a true one (never wraps) -/
  le : ∀ c ∈ g.native ++ g.cw20, (es.map fun e => c.amount * e.bps / 10000).sum ≤ c.amount
  nfts : g'.nfts = g.nfts
  /-- the messages: per fungible entry `c` and per charged entry `e` with a non-zero share exactly
      one transfer of `⌊c.amount·e.bps/10⁴⌋` of that asset to `e.payout` -/
  msgs : ms =
    (g.native.flatMap fun c => es.filterMap fun e =>
      if c.amount * e.bps / 10000 = 0 then none
      else some (OutMsg.bankSend e.payout [⟨c.key, c.amount * e.bps / 10000⟩])) ++
    (g.cw20.flatMap fun c => es.filterMap fun e =>
      if c.amount * e.bps / 10000 = 0 then none
      else some (OutMsg.cw20Transfer c.key e.payout (c.amount * e.bps / 10000)))
  /-- no 128-bit overflow: what is stored and what is sent are `Uint128`s -/
  fits : g'.bounded ∧ ∀ m ∈ ms, m.amtBounded

theorem RoyaltyExact.of_royalties {g g' : GBal} {rs : List (Option RoyaltyInfo)}
    {ms : List OutMsg} {s : Nat} (hb : g.bounded) (h : royalties g rs = .ok g' ms s) :
    RoyaltyExact (rs.filterMap id) g g' ms := by
  obtain ⟨c1, c2, c3, _⟩ := C17_roy_conserve h
  obtain ⟨r1, r2, r3⟩ := C17_roy_remainder hb h
  exact ⟨c1, c2, r1, r2, r3, c3, C17_roy_msgs hb h, C17_roy_bounded hb h⟩

section
variable {w0 : World} {t : Nat} {r : Option Nat}

/-- "never overflow, wrap or abort", for the purchase transaction in EVERY state `run w0 ops`
    (no hypothesis on `w0` or `ops` is needed for this part: the fee and royalty computations are
    total on every record, reachable or not).
    (i) neither the handler nor the transaction ever fails with `Err.overflow` (the `checked_sub`
        of `calc_fee_coin`);
    (ii) they fail with `Err.panic` (abort of the `u64` rate sum in `royalties`) only if the rates
        the registry reports for the collections of one of the two sides sum to more than
        `u64::MAX` — see `C17_buy_no_panic_reach` for what that takes. -/
theorem C17_buy_no_overflow_reach (w0 : World) (ops : List Op) (buyer lid bid : Nat) :
    (∀ env, buy (run w0 ops).mkt env buyer lid bid ≠ .error .overflow) ∧
    (step (run w0 ops) (.exec buyer [] (.buy lid bid))).2.err ≠ some .overflow ∧
    (∀ e, (e = .panic ∧ (buy (run w0 ops).mkt (run w0 ops).env buyer lid bid = .error e ∨
        (step (run w0 ops) (.exec buyer [] (.buy lid bid))).2.err = some e)) →
      ∃ k l b, findById lid (run w0 ops).mkt.listings = some (k, l) ∧
        alookup (buyer, bid) (run w0 ops).mkt.buckets = some b ∧
        (((sideEntries (run w0 ops).env l.forSale).map (·.bps)).sum > U64MAX ∨
         ((sideEntries (run w0 ops).env b.funds).map (·.bps)).sum > U64MAX)) := by
  refine ⟨fun env => buy_ne_overflow _ env _ _ _,
    fun h => buy_ne_overflow _ _ _ _ _ (step_buy_err h (show Err.overflow ≠ .dispatch by decide)),
    ?_⟩
  rintro e ⟨rfl, h | h⟩
  · exact buy_panic_inv h
  · exact buy_panic_inv (step_buy_err h (by decide))

/-- (ii) is sharp: in the model a registry seeded with a rate above `u64::MAX` (impossible through
    the registry's own messages, `C14_reach_bps`) does make the purchase of the sample history
    abort -/
example : (step (run { AcctEx.w0 with reg := [(60, ⟨0, U64MAX + 1, 9⟩)] } (AcctEx.ops.take 5))
    (.exec 2 [] (.buy 3 8))).2.err = some .panic := by decide +kernel

/-- "never … abort": with a registry that starts within the rate bounds the registry contract
    enforces (10 … 300 bps: `MIN_BPS`, `MAX_BPS` of royalty/src/contract.rs; e.g. the empty
    registry of a deployment), in every reached state the purchase aborts only if one side holds
    NFTs of more than `u64::MAX / 300` (≈ 6·10¹⁶) distinct collections. -/
theorem C17_buy_no_panic_reach (w0 : World)
    (hreg : ∀ p ∈ w0.reg, MIN_BPS ≤ p.2.bps ∧ p.2.bps ≤ MAX_BPS) (ops : List Op)
    (buyer lid bid : Nat)
    (h : buy (run w0 ops).mkt (run w0 ops).env buyer lid bid = .error .panic ∨
      (step (run w0 ops) (.exec buyer [] (.buy lid bid))).2.err = some .panic) :
    ∃ k l b, findById lid (run w0 ops).mkt.listings = some (k, l) ∧
      alookup (buyer, bid) (run w0 ops).mkt.buckets = some b ∧
      (300 * (collections l.forSale).length > U64MAX ∨
       300 * (collections b.funds).length > U64MAX) := by
  obtain ⟨k, l, b, hl, hb, hs⟩ := (C17_buy_no_overflow_reach w0 ops buyer lid bid).2.2 _ ⟨rfl, h⟩
  have hleg : ∀ c e, (run w0 ops).env.regLookup c = some e → e.bps ≤ MAX_BPS := by
    intro c e he
    exact (C14_reach_bps hreg ops (c, e) (alookup_some_mem he)).2
  have h1 := bpsOf_le_of_legal hleg (collections l.forSale)
  have h2 := bpsOf_le_of_legal hleg (collections b.funds)
  rw [bpsOf_eq_sideEntries] at h1 h2
  exact ⟨k, l, b, hl, hb,
    hs.imp (fun hs => Nat.lt_of_lt_of_le hs h1) fun hs => Nat.lt_of_lt_of_le hs h2⟩

/-- the registry of the sample deployment is within bounds (and the sample purchase does not
    abort: it is accepted) -/
example : (∀ p ∈ AcctEx.w0.reg, MIN_BPS ≤ p.2.bps ∧ p.2.bps ≤ MAX_BPS) ∧
    (step C06CEx.w (.exec 2 [] (.buy 3 8))).2.err = none := by decide +kernel

/-- "Fee … arithmetic is exact": in a purchase accepted in any reached state, for each side the
    fee recorded on the re-filed record and the balance handed to the royalty step are the result
    of `calcFeeCoin` on the side's old contents, and that step was exact (`FeeExact`): the fee is
    `⌊amount·5/1000⌋` of the side's amount of the current fee denomination `fd` (no fee coin when
    that is 0, in particular when the denomination is absent), every other entry is untouched, and
    fee + remainder = original amount; key uniqueness comes from `WFInv`.  (Holds for all amounts:
    `Op.fits128` is not needed.) -/
theorem C17_buy_fee_exact_reach (h0 : w0.mkt = instantiate t r) (ops : List Op)
    {buyer lid bid fd : Nat}
    (hfd : fd = feeDenomOf (run w0 ops).env (run w0 ops).mkt.feeKind)
    (hok : (step (run w0 ops) (.exec buyer [] (.buy lid bid))).2.ok = true) :
    ∃ l b l' b' lbal bbal,
      alookup (l.creator, lid) (run w0 ops).mkt.listings = some l ∧
      alookup (buyer, bid) (run w0 ops).mkt.buckets = some b ∧
      alookup (buyer, lid) (step (run w0 ops) (.exec buyer [] (.buy lid bid))).1.mkt.listings =
        some l' ∧
      alookup (l.creator, bid) (step (run w0 ops) (.exec buyer [] (.buy lid bid))).1.mkt.buckets =
        some b' ∧
      calcFeeCoin fd l.forSale = some (l'.fee, lbal) ∧
      calcFeeCoin fd b.funds = some (b'.fee, bbal) ∧
      FeeExact fd l.forSale l'.fee lbal ∧ FeeExact fd b.funds b'.fee bbal := by
  subst hfd
  obtain ⟨l, b, l', b', lbal, bbal, _, _, _, _, s, wl, wb⟩ :=
    step_buy_split (C09_reach h0 ops) (C12_reach h0 ops) hok
  exact ⟨l, b, l', b', lbal, bbal, s.listing, s.bucket, s.refiledL, s.refiledB, s.feeL, s.feeB,
    FeeExact.of_calc (wfBal_keys wl).1 s.feeL, FeeExact.of_calc (wfBal_keys wb).1 s.feeB⟩

/-- it applies to the sample purchase (`C06CEx`: seller 1 sells 1000 of the fee denomination 1,
    400 of token 50 and an NFT of collection 60 for 2000 of denom 2) … -/
example := C17_buy_fee_exact_reach (w0 := AcctEx.w0) rfl C06CEx.ops
  (buyer := 2) (lid := 3) (bid := 8) rfl C06CEx.buy_ok
/-- … where the goods pay the fee 5 = ⌊1000·5/1000⌋ and the bucket (no denom 1) pays none -/
example : (step C06CEx.w (.exec 2 [] (.buy 3 8))).1.mkt.listings.map (fun p => p.2.fee) =
      [some ⟨1, 5⟩] ∧
    (step C06CEx.w (.exec 2 [] (.buy 3 8))).1.mkt.buckets.map (fun p => p.2.fee) = [none] := by
  decide +kernel

/-- "royalty arithmetic is exact … for all 128-bit amounts": in a purchase accepted in a state
    reached by operations that carry 128-bit amounts, the contents stored on each re-filed record
    and the royalty messages are the result of `royalties` on the side's after-fee balance with
    the registry's answers for the collections of the OPPOSITE side, and that step was exact
    (`RoyaltyExact`): per fungible entry, amount after fee = amount left in the record + sum of
    the royalty messages emitted for that entry; each message carries `⌊afterFee·bps/10⁴⌋` to the
    payout address of an entry `e` the registry holds for the collection of an NFT on the opposite
    side; nothing wraps and everything fits 128 bits.  The transaction's messages are the pending
    fee of the paying bucket, then the bucket's royalty messages, then the goods'. -/
theorem C17_buy_royalty_conserve_reach (h0 : w0.mkt = instantiate t r) (ops : List Op)
    (hfit : ∀ op ∈ ops, op.fits128) {buyer lid bid fd : Nat}
    (hfd : fd = feeDenomOf (run w0 ops).env (run w0 ops).mkt.feeKind)
    (hok : (step (run w0 ops) (.exec buyer [] (.buy lid bid))).2.ok = true) :
    ∃ l b l' b' lbal bbal msgsB msgsL sB sL,
      alookup (l.creator, lid) (run w0 ops).mkt.listings = some l ∧
      alookup (buyer, bid) (run w0 ops).mkt.buckets = some b ∧
      alookup (buyer, lid) (step (run w0 ops) (.exec buyer [] (.buy lid bid))).1.mkt.listings =
        some l' ∧
      alookup (l.creator, bid) (step (run w0 ops) (.exec buyer [] (.buy lid bid))).1.mkt.buckets =
        some b' ∧
      calcFeeCoin fd l.forSale = some (l'.fee, lbal) ∧
      calcFeeCoin fd b.funds = some (b'.fee, bbal) ∧
      -- the royalty step of the model, applied to each side after the fee
      royalties bbal ((collections l.forSale).map (run w0 ops).env.regLookup) =
        .ok b'.funds msgsB sB ∧
      royalties lbal ((collections b.funds).map (run w0 ops).env.regLookup) =
        .ok l'.forSale msgsL sL ∧
      (step (run w0 ops) (.exec buyer [] (.buy lid bid))).2.msgs =
        pendingFeeMsgs (run w0 ops).self b.fee ++ msgsB ++ msgsL ∧
      -- it was exact
      RoyaltyExact (sideEntries (run w0 ops).env l.forSale) bbal b'.funds msgsB ∧
      RoyaltyExact (sideEntries (run w0 ops).env b.funds) lbal l'.forSale msgsL ∧
      -- the entries charged are registered collections of the opposite side
      (∀ e ∈ sideEntries (run w0 ops).env l.forSale,
        ∃ n ∈ l.forSale.nfts, alookup n.coll (run w0 ops).reg = some e) ∧
      (∀ e ∈ sideEntries (run w0 ops).env b.funds,
        ∃ n ∈ b.funds.nfts, alookup n.coll (run w0 ops).reg = some e) := by
  subst hfd
  obtain ⟨l, b, l', b', lbal, bbal, msgsB, msgsL, sB, sL, s, _, _⟩ :=
    step_buy_split (C09_reach h0 ops) (C12_reach h0 ops) hok
  have hB := closed_bounded h0 ops hfit
  have bl := (C17_fee_bounded (hB.lb _ (alookup_some_mem s.listing)) s.feeL).1
  have bb := (C17_fee_bounded (hB.bb _ (alookup_some_mem s.bucket)) s.feeB).1
  exact ⟨l, b, l', b', lbal, bbal, msgsB, msgsL, sB, sL, s.listing, s.bucket, s.refiledL,
    s.refiledB, s.feeL, s.feeB, s.royB, s.royL, s.msgs,
    RoyaltyExact.of_royalties bb s.royB, RoyaltyExact.of_royalties bl s.royL,
    fun e he => mem_sideEntries.1 he, fun e he => mem_sideEntries.1 he⟩

example := C17_buy_royalty_conserve_reach (w0 := AcctEx.w0) rfl C06CEx.ops C06CEx.fits
  (buyer := 2) (lid := 3) (bid := 8) rfl C06CEx.buy_ok
/-- there the seller's collection 60 (250 bps, payout address 6) charges the bucket's 2000 of
    denom 2 with 50 = ⌊2000·250/10⁴⌋, leaving 1950, and the goods (the buyer pays with no NFT)
    are charged nothing -/
example : sideEntries C06CEx.w.env ⟨[⟨1, 1000⟩], [⟨50, 400⟩], [⟨60, 7⟩]⟩ = [⟨200, 250, 6⟩] ∧
    (step C06CEx.w (.exec 2 [] (.buy 3 8))).2.msgs = [.bankSend 6 [⟨2, 50⟩]] ∧
    (step C06CEx.w (.exec 2 [] (.buy 3 8))).1.mkt.buckets.map (fun p => p.2.funds) =
      [⟨[⟨2, 1950⟩], [], []⟩] := by decide +kernel

/-- "never overflow": every amount a purchase accepted in a reached state stores or sends is a
    `Uint128` — the two fee coins, both after-fee balances, both stored balances (so `BoundedInv`
    holds again) and every royalty message. -/
theorem C17_buy_amounts_fit_reach (h0 : w0.mkt = instantiate t r) (ops : List Op)
    (hfit : ∀ op ∈ ops, op.fits128) {buyer lid bid : Nat}
    (hok : (step (run w0 ops) (.exec buyer [] (.buy lid bid))).2.ok = true) :
    ∃ l b l' b' msgsB msgsL,
      alookup (l.creator, lid) (run w0 ops).mkt.listings = some l ∧
      alookup (buyer, bid) (run w0 ops).mkt.buckets = some b ∧
      alookup (buyer, lid) (step (run w0 ops) (.exec buyer [] (.buy lid bid))).1.mkt.listings =
        some l' ∧
      alookup (l.creator, bid) (step (run w0 ops) (.exec buyer [] (.buy lid bid))).1.mkt.buckets =
        some b' ∧
      (step (run w0 ops) (.exec buyer [] (.buy lid bid))).2.msgs =
        pendingFeeMsgs (run w0 ops).self b.fee ++ msgsB ++ msgsL ∧
      (∀ f, l'.fee = some f → f.amount ≤ U128MAX) ∧ (∀ f, b'.fee = some f → f.amount ≤ U128MAX) ∧
      l'.forSale.bounded ∧ b'.funds.bounded ∧ (∀ x ∈ msgsB ++ msgsL, x.amtBounded) ∧
      BoundedInv (step (run w0 ops) (.exec buyer [] (.buy lid bid))).1.mkt := by
  obtain ⟨l, b, l', b', lbal, bbal, msgsB, msgsL, sB, sL, s, _, _⟩ :=
    step_buy_split (C09_reach h0 ops) (C12_reach h0 ops) hok
  have hB := closed_bounded h0 ops hfit
  obtain ⟨bl, fl⟩ := C17_fee_bounded (hB.lb _ (alookup_some_mem s.listing)) s.feeL
  obtain ⟨bb, fb⟩ := C17_fee_bounded (hB.bb _ (alookup_some_mem s.bucket)) s.feeB
  obtain ⟨rb, mb⟩ := C17_roy_bounded bb s.royB
  obtain ⟨rl, ml⟩ := C17_roy_bounded bl s.royL
  refine ⟨l, b, l', b', msgsB, msgsL, s.listing, s.bucket, s.refiledL, s.refiledB, s.msgs,
    fl, fb, rl, rb, ?_,
    closed_bounded_step _ hB
      (show (Op.exec buyer [] (.buy lid bid)).fits128 from ⟨List.forall_mem_nil _, trivial⟩)⟩
  intro x hx
  rcases List.mem_append.1 hx with hx | hx
  · exact mb x hx
  · exact ml x hx

example := C17_buy_amounts_fit_reach (w0 := AcctEx.w0) rfl C06CEx.ops C06CEx.fits
  (buyer := 2) (lid := 3) (bid := 8) C06CEx.buy_ok

end

#print axioms C17_buy_no_overflow_reach
#print axioms C17_buy_no_panic_reach
#print axioms C17_buy_fee_exact_reach
#print axioms C17_buy_royalty_conserve_reach
#print axioms C17_buy_amounts_fit_reach

end Fuzion
