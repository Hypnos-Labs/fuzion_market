/-
  Fuzion.Props.C07Closed — C07 from deployment: the `Reach` hypothesis of `C07_reachable`
  (`Reach w` has the two fields `inv : C01Inv w` and `clean : CleanRecords w`, Props/C07.lean: what the exits need of a
  world, whether or not it was reached from anywhere) discharged for a freshly deployed
  marketplace (`Deployed`, Props/C01Closed.lean).
-/
import Fuzion.Props.C07
import Fuzion.Props.C01Closed
namespace Fuzion

/-- a deployment holds nothing and records nothing, so both halves of `Reach` hold of it -/
theorem Reach_deployed {w : World} (h : Deployed w) : Reach w := by
  obtain ⟨t, r, hm⟩ := h.mkt
  refine ⟨C01Inv_deployed h, ⟨?_, ?_⟩⟩
  · intro p hp; rw [hm] at hp; cases hp
  · intro p hp; rw [hm] at hp; cases hp

theorem Reach_from_deployment {w0 : World} (hd : Deployed w0) (ops : List Op)
    (hops : ∀ op ∈ ops, op.avoids w0.self ∧ op.unforged) : Reach (run w0 ops) :=
  C07_reach_run ops (Reach_deployed hd) hops

/-- **Nothing gets stuck, from deployment**: after any history (from a freshly deployed
    marketplace) whose operations are not signed by the marketplace, do not register it as payout
    address and contain no forged hook call, every listing that is not finalized-and-still-running
    is cashed out by one message of its creator / buyer, every bucket by one message of its owner,
    and after waiting long enough the state is `Drainable` (so `C07_drain`: all exits succeed, no
    record remains, the marketplace holds nothing). -/
theorem C07_from_deployment {w0 : World} (h0 : Deployed w0) (ops : List Op)
    (hops : ∀ op ∈ ops, op.avoids w0.self ∧ op.unforged) :
    (∀ k l, (k, l) ∈ (run w0 ops).mkt.listings → l.exitable (run w0 ops).nowNs →
      (step (run w0 ops) (.exec l.creator [] l.exitMsg)).2.ok = true) ∧
    (∀ k b, (k, b) ∈ (run w0 ops).mkt.buckets →
      (step (run w0 ops) (.exec b.owner [] (.removeBucket k.2))).2.ok = true) ∧
    ∃ dNs, Drainable (step (run w0 ops) (.advance dNs 0)).1 :=
  C07_reachable (Reach_deployed h0) ops hops

#print axioms Reach_deployed
#print axioms C07_from_deployment
#print axioms Reach_from_deployment
end Fuzion
