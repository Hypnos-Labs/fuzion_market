/-
  Fuzion.Props.CodecRoundtrip — the protocol parser (`Driver/Codec.lean`) inverts the protocol printer
  (`Driver/Print.lean`) on WORLD and OP: `parse (print x ++ rest) = some (x, rest)` for all values.

  Consequences for the driver: (1) every `World` (with its `idxOk` flag) and every `Op` HAS a protocol
  line that the driver's parser reads back as exactly that value (with the kind string `opKind` used
  for reporting), whatever follows on the line; (2) the run-time echo check
  `pWorld (parse line) = line` identifies the parsed value uniquely: no second world / operation prints
  to the same tokens, and a line is split into WORLD or OP and remainder in only one way.

  POST is `=` (the pre-state again) or a WORLD, which `post` reads with `world`: nothing to add.

  OUTCOME, the third part `Print.lean` prints, has no round trip, and none holds for all values: the
  parser never produces `.msg (.fundPool ..)` (a `P` entry is read as `.pool`), and `pOutcome` drops
  what the error forms of the protocol do not carry (the sub-messages of a refused outcome, the
  messages of a dirty one).  Its printer serves the run-time echo check only.
-/
import Fuzion.Lemmas.CodecLemmas
namespace Fuzion.Codec
open Fuzion

/-- "parse (print x ++ rest) = some (x, rest) for all values" (`Driver/Print.lean`) — WORLD, with
any `idxOk` flag. -/
theorem world_roundtrip (w : World) (idxOk : Bool) (rest : List String) :
    world (pWorld w idxOk ++ rest) = some ((w, idxOk), rest) := by
  simp only [world, pWorld, ↓List.append_assoc, List.cons_append, List.nil_append, ↓nat_step,
    ↓(listOf_rt (keyed_rt listing_rt)).step, ↓(listOf_rt (keyed_rt bucket_rt)).step, ↓(listOf_rt nat_rt).step,
    ↓feeKind_rt.step, ↓(opt_rt nat_rt).step, ↓bool01_rt.step, ↓(listOf_rt regEntry_rt).step,
    ↓(listOf_rt triple_rt).step, ↓(listOf_rt contract_rt).step, P.pure_apply]

/-- "parse (print x ++ rest) = some (x, rest) for all values" — OP, together with the kind string
`opKind o` used for reporting. -/
theorem op_roundtrip (o : Op) (rest : List String) :
    op (pOp o ++ rest) = some ((opKind o, o), rest) := by
  cases o <;> simp only [pOp, ↓List.append_assoc, List.cons_append, List.nil_append] <;>
    simp only [op, ↓tok_step, String.reduceBEq, Bool.false_eq_true, ↓reduceIte, ↓nat_step,
      ↓(listOf_rt coin_rt).step, ↓P.bind_ok (execMsg_rt _ _), ↓inner_rt.step, ↓P.bind_ok (royMsg_rt _ _),
      ↓(opt_rt nat_rt).step, P.pure_apply]
  -- the operation is read back for any message; what is left is that `op` builds the kind string
  -- `opKind` gives, which for a message is computed by cases
  case exec s f m => cases m <;> rfl
  case royalty s m => cases m <;> rfl
  all_goals rfl

theorem pWorld_append_injective {w w' : World} {b b' : Bool} {r r' : List String}
    (h : pWorld w b ++ r = pWorld w' b' ++ r') : w = w' ∧ b = b' ∧ r = r' := by
  -- parse both sides
  simpa only [Option.some.injEq, Prod.mk.injEq, and_assoc] using
    (world_roundtrip w b r).symm.trans ((congrArg world h).trans (world_roundtrip w' b' r'))

theorem pOp_append_injective {o o' : Op} {r r' : List String}
    (h : pOp o ++ r = pOp o' ++ r') : o = o' ∧ r = r' := by
  have h1 := (op_roundtrip o r).symm.trans ((congrArg op h).trans (op_roundtrip o' r'))
  simp only [Option.some.injEq, Prod.mk.injEq] at h1
  exact ⟨h1.1.2, h1.2⟩

/-- "the printer is injective, so two different worlds … never share a line"
(`Driver/Print.lean`) -/
theorem pWorld_injective {w w' : World} {b b' : Bool} (h : pWorld w b = pWorld w' b') :
    w = w' ∧ b = b' :=
  have ⟨hw, hb, _⟩ := pWorld_append_injective (congrArg (· ++ []) h)
  ⟨hw, hb⟩

/-- "the printer is injective, so two different … operations never share a line" -/
theorem pOp_injective {o o' : Op} (h : pOp o = pOp o') : o = o' :=
  (pOp_append_injective (congrArg (· ++ []) h)).1

/-- a world with a listing (all optional fields present, three kinds of assets, an ask of
`U128MAX` = 2^128 − 1, the widest amount), a bucket, both id lists, a registry entry, ledgers and two
contracts -/
def rtWorld : World :=
  { self := 1, pool := 2, regAddr := 3, junoD := 100, usdcD := 101, nowNs := 1700000000000000000,
    height := 12345,
    mkt := { listings := [((10, 7), { creator := 10, id := 7, finalizedAt := some 5, expiresAt := some 99,
                                      status := .finalized, claimant := none, whitelist := some 11,
                                      forSale := ⟨[⟨100, 5⟩], [⟨20, 6⟩], [⟨30, 1⟩, ⟨30, 2⟩]⟩,
                                      ask := ⟨[⟨101, 340282366920938463463374607431768211455⟩], [], []⟩,
                                      fee := some ⟨100, 1⟩ })],
             buckets := [((11, 1), ⟨11, ⟨[⟨101, 9⟩], [], []⟩, none⟩)],
             listingUsed := [7, 8], bucketUsed := [1],
             feeKind := .usdc, feeSince := 42, registry := some 3 },
    reg := [(30, ⟨17, 250, 12⟩)],
    bank := [((10, 100), 1000), ((11, 101), 0)],
    cw20 := [((20, 10), 77)],
    nft := [((30, 1), 1), ((30, 2), 1)],
    contracts := [(20, ⟨some 9, 1, true, false⟩), (30, ⟨none, 2, false, true⟩)] }

/-- an `exec` carrying funds and a cw20 `receive` hook with a nested create-listing message that uses
both raw-address forms -/
def rtOp : Op :=
  .exec 10 [⟨100, 5⟩, ⟨101, 6⟩]
    (.receive (.valid 10) 77 (some (.createListing 7 ⟨⟨[⟨100, 1⟩], [(.valid 20, 3)], [(.invalid, 4)]⟩, some .invalid⟩)))

/-- the printed forms are what PROTOCOL.md prescribes (evaluated by the kernel) -/
example : pOp rtOp =
    ["X", "10", "2", "100", "5", "101", "6", "RC", "V", "10", "77", "CL", "7",
     "1", "100", "1", "1", "V", "20", "3", "1", "I", "4", "I"] := by decide +kernel

example : pWorld rtWorld true =
    ["1", "2", "3", "100", "101", "1700000000000000000", "12345",
     -- one listing, keyed (10, 7)
     "1", "10", "7", "10", "7", "S", "5", "S", "99", "1", "N", "S", "11",
     "1", "100", "5", "1", "20", "6", "2", "30", "1", "30", "2",
     "1", "101", "340282366920938463463374607431768211455", "0", "0", "S", "100", "1",
     -- one bucket, keyed (11, 1)
     "1", "11", "1", "11", "1", "101", "9", "0", "0", "N",
     -- used ids, fee kind, fee since, registry, idxOk
     "2", "7", "8", "1", "1", "1", "42", "S", "3", "1",
     -- registry, bank, cw20, nft, contracts
     "1", "30", "17", "250", "12", "2", "10", "100", "1000", "11", "101", "0", "1", "20", "10", "77",
     "2", "30", "1", "1", "30", "2", "1", "2", "20", "S", "9", "1", "1", "0", "30", "N", "2", "0", "1"] := by
  decide +kernel

/-- the parser's `String.toNat?` does not reduce in the kernel, so the round trips on the concrete
values instantiate the theorems -/
example : world (pWorld rtWorld true ++ ["X", "1"]) = some ((rtWorld, true), ["X", "1"]) :=
  world_roundtrip rtWorld true ["X", "1"]

example : op (pOp rtOp ++ ["="]) = some (("X.RC.CL", rtOp), ["="]) :=
  op_roundtrip rtOp ["="]

-- the injectivity theorems separate: another flag, another height, another operation is another line
example : pWorld rtWorld true = pWorld rtWorld true := rfl
example : pWorld rtWorld true ≠ pWorld rtWorld false := fun h => by simpa using (pWorld_injective h).2
example : pWorld rtWorld true ≠ pWorld { rtWorld with height := 12346 } true :=
  fun h => by simpa [rtWorld] using congrArg World.height (pWorld_injective h).1
example : pOp rtOp = pOp rtOp := rfl
example : pOp rtOp ≠ pOp (.advance 1 2) := fun h => by simpa [rtOp] using pOp_injective h

example : pOp rtOp ++ ["="] = pOp rtOp ++ ["="] := rfl
example : pWorld rtWorld true ++ ["="] = pWorld rtWorld true ++ ["="] := rfl

#print axioms world_roundtrip
#print axioms op_roundtrip
#print axioms pWorld_injective
#print axioms pOp_injective
#print axioms pWorld_append_injective
#print axioms pOp_append_injective

end Fuzion.Codec
