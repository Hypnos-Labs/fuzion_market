/-
  Fuzion.Props.C14 — "Royalty entries change only by the collection's admin, within bounds".

  Property text:  A collection's royalty entry can be created, modified or removed only by the
  account that is that NFT contract's admin at that moment; its rate is always between 10 and
  300 bps; and an existing entry cannot be modified or removed until 100 blocks after it was
  created or last modified, while from then on the admin can.  Lookups, single or batched, return
  the current entry (or none) for each requested collection, in request order.

  About saturation.  The Rust tests `last_updated.saturating_add(100) > height` on `u64`s.  The
  `…_ok_iff` theorems below are exact (they carry the `min … U64MAX`); the `…_iff` theorems read
  the test as `lastUpdated + 100 ≤ height` under the side condition `env.height < U64MAX` (the
  chain has not reached block 2⁶⁴ − 1), the primed variants under the alternative side condition
  `e.lastUpdated + COOLDOWN ≤ U64MAX` on every stored entry.  At `height = U64MAX` exactly the
  saturated test lets every entry through; that is the only difference.
-/
import Fuzion.Lemmas.RegistryLemmas
namespace Fuzion

/-- "A collection's royalty entry can be created … only by the account that is that NFT
    contract's admin at that moment; its rate is … between 10 and 300 bps": exact acceptance
    condition and effect of `Register` in one statement. -/
theorem C14_register_ok_iff (reg : Registry) (env : RegEnv) (sender : Nat) (nft payout : RawAddr)
    (bps : Nat) (r : Registry) :
    regRegister reg env sender nft payout bps = .ok r ↔
    ∃ c p, nft = .valid c ∧ payout = .valid p ∧ MIN_BPS ≤ bps ∧ bps ≤ MAX_BPS ∧
      env.adminOf c = some (some sender) ∧ alookup c reg = none ∧
      r = ainsert c ⟨env.height, bps, p⟩ reg := by
  unfold regRegister
  rw [ite_error_ok, Bool.not_eq_true, Bool.not_eq_false', bpsOk_iff]
  split
  · rw [adminTests_ok, ite_error_ok]
    -- `.valid c = .valid c'` and `.valid p = .valid p'` fix the two witnesses on the right; what is
    -- left differs in spelling only (`isSome = false` for `= none`, `.ok _ = .ok r` turned round)
    simp only [RawAddr.valid.injEq, exists_and_left, exists_eq_left', Except.ok.injEq,
      eq_comm (a := r), Bool.not_eq_true, Option.isSome_eq_false_iff, Option.isNone_iff_eq_none,
      and_assoc]
  · next hbad =>
    -- one of the two addresses does not validate
    exact ⟨fun h => (nomatch h.2), fun ⟨c, p, hc, hp, _⟩ => (hbad p c hp hc).elim⟩

/-- "A collection's royalty entry can be created … only by the account that is that NFT
    contract's admin at that moment; its rate is … between 10 and 300 bps": the acceptance half
    of `C14_register_ok_iff`. -/
theorem C14_register_iff (reg : Registry) (env : RegEnv) (sender : Nat) (nft payout : RawAddr)
    (bps : Nat) :
    (∃ r, regRegister reg env sender nft payout bps = .ok r) ↔
    ∃ c p, nft = .valid c ∧ payout = .valid p ∧ MIN_BPS ≤ bps ∧ bps ≤ MAX_BPS ∧
      env.adminOf c = some (some sender) ∧ alookup c reg = none := by
  constructor
  · rintro ⟨r, h⟩
    obtain ⟨c, p, h1, h2, h3, h4, h5, h6, _⟩ := (C14_register_ok_iff ..).1 h
    exact ⟨c, p, h1, h2, h3, h4, h5, h6⟩
  · rintro ⟨c, p, h1, h2, h3, h4, h5, h6⟩
    exact ⟨_, (C14_register_ok_iff ..).2 ⟨c, p, h1, h2, h3, h4, h5, h6, rfl⟩⟩

theorem C14_register_effect {reg : Registry} {env : RegEnv} {sender : Nat} {nft payout : RawAddr}
    {bps : Nat} {r : Registry} (h : regRegister reg env sender nft payout bps = .ok r) :
    ∃ c p, nft = .valid c ∧ payout = .valid p ∧ r = ainsert c ⟨env.height, bps, p⟩ reg := by
  obtain ⟨c, p, h1, h2, _, _, _, _, h7⟩ := (C14_register_ok_iff ..).1 h
  exact ⟨c, p, h1, h2, h7⟩

-- admin 1 of collection 5 registers 50 bps at height 7
example : regRegister [] ⟨7, fun c => if c = 5 then some (some 1) else none⟩ 1 (.valid 5) (.valid 9) 50
    = .ok [(5, ⟨7, 50, 9⟩)] := by rfl

/-- "modified only by the … admin at that moment; rate … between 10 and 300 bps; … cannot be
    modified … until 100 blocks after it was created or last modified, while from then on the
    admin can": exact acceptance condition (with the `u64` saturation) and effect of `Update`.
    Absent fields keep the stored value. -/
theorem C14_update_ok_iff (reg : Registry) (env : RegEnv) (sender : Nat) (nft : RawAddr)
    (payout : Option RawAddr) (bps : Option Nat) (r : Registry) :
    regUpdate reg env sender nft payout bps = .ok r ↔
    ∃ c e, nft = .valid c ∧ env.adminOf c = some (some sender) ∧ alookup c reg = some e ∧
      min (e.lastUpdated + COOLDOWN) U64MAX ≤ env.height ∧
      (∀ b, bps = some b → MIN_BPS ≤ b ∧ b ≤ MAX_BPS) ∧ payout ≠ some .invalid ∧
      r = ainsert c ⟨env.height, bps.getD e.bps, updPayout payout e.payout⟩ reg := by
  cases nft with
  | invalid => exact ⟨nofun, nofun⟩
  | valid c =>
    -- at `.valid c` the handler is by definition the guard chain on the left of `regGuard_ok`,
    -- continued (`k`) by the two tests on the new values
    refine regGuard_ok.trans ?_
    simp only [RawAddr.valid.injEq, exists_and_left, exists_eq_left', ite_error_ok]
    -- what is left are the two tests on the new values, each by cases on the value it looks at
    refine and_congr_right fun _ => exists_congr fun e => and_congr_right fun _ =>
      and_congr_right fun _ => and_congr ?_ ?_
    · cases bps <;> simp [bpsOk_iff]
    -- the model's `match payout` against `updPayout` on the right; `some .invalid` is refused
    · rcases payout with _ | p | _
      · simp [updPayout_none, eq_comm (a := r)]
      · simp [updPayout_valid, eq_comm (a := r)]
      · simp

/-- below block `u64::MAX`, or with no stored `lastUpdated + 100` above `u64::MAX`, the saturation
    in the cooldown test of a stored entry is invisible -/
theorem C14_cooled_iff {reg : Registry} {env : RegEnv}
    (hU : env.height < U64MAX ∨ ∀ c e, alookup c reg = some e → e.lastUpdated + COOLDOWN ≤ U64MAX)
    {c : Nat} {e : RoyaltyInfo} (he : alookup c reg = some e) :
    min (e.lastUpdated + COOLDOWN) U64MAX ≤ env.height ↔ e.lastUpdated + COOLDOWN ≤ env.height :=
  min_sat_le_iff (hU.symm.imp (· c e he) id)

/-- `C14_update_iff` and `C14_update_iff'` in one: either side condition will do -/
theorem C14_update_iff_of (reg : Registry) (env : RegEnv) (sender : Nat) (nft : RawAddr)
    (payout : Option RawAddr) (bps : Option Nat)
    (hU : env.height < U64MAX ∨ ∀ c e, alookup c reg = some e → e.lastUpdated + COOLDOWN ≤ U64MAX) :
    (∃ r, regUpdate reg env sender nft payout bps = .ok r) ↔
    ∃ c e, nft = .valid c ∧ env.adminOf c = some (some sender) ∧ alookup c reg = some e ∧
      e.lastUpdated + COOLDOWN ≤ env.height ∧
      (∀ b, bps = some b → MIN_BPS ≤ b ∧ b ≤ MAX_BPS) ∧ payout ≠ some .invalid := by
  constructor
  · rintro ⟨r, h⟩
    obtain ⟨c, e, h1, h2, h3, h4, h5, h6, _⟩ := (C14_update_ok_iff ..).1 h
    exact ⟨c, e, h1, h2, h3, (C14_cooled_iff hU h3).1 h4, h5, h6⟩
  · rintro ⟨c, e, h1, h2, h3, h4, h5, h6⟩
    exact ⟨_, (C14_update_ok_iff ..).2 ⟨c, e, h1, h2, h3, (C14_cooled_iff hU h3).2 h4, h5, h6, rfl⟩⟩

/-- "modified only by the … admin at that moment; … cannot be modified … until 100 blocks after
    it was created or last modified, while from then on the admin can": the acceptance half of
    `C14_update_ok_iff` with the cooldown as `lastUpdated + 100 ≤ height`.  Side condition:
    `env.height < U64MAX` (see the header). -/
theorem C14_update_iff (reg : Registry) (env : RegEnv) (sender : Nat) (nft : RawAddr)
    (payout : Option RawAddr) (bps : Option Nat) (hH : env.height < U64MAX) :
    (∃ r, regUpdate reg env sender nft payout bps = .ok r) ↔
    ∃ c e, nft = .valid c ∧ env.adminOf c = some (some sender) ∧ alookup c reg = some e ∧
      e.lastUpdated + COOLDOWN ≤ env.height ∧
      (∀ b, bps = some b → MIN_BPS ≤ b ∧ b ≤ MAX_BPS) ∧ payout ≠ some .invalid :=
  C14_update_iff_of reg env sender nft payout bps (.inl hH)

theorem C14_update_iff' (reg : Registry) (env : RegEnv) (sender : Nat) (nft : RawAddr)
    (payout : Option RawAddr) (bps : Option Nat)
    (hE : ∀ c e, alookup c reg = some e → e.lastUpdated + COOLDOWN ≤ U64MAX) :
    (∃ r, regUpdate reg env sender nft payout bps = .ok r) ↔
    ∃ c e, nft = .valid c ∧ env.adminOf c = some (some sender) ∧ alookup c reg = some e ∧
      e.lastUpdated + COOLDOWN ≤ env.height ∧
      (∀ b, bps = some b → MIN_BPS ≤ b ∧ b ≤ MAX_BPS) ∧ payout ≠ some .invalid :=
  C14_update_iff_of reg env sender nft payout bps (.inr hE)

theorem C14_update_effect {reg : Registry} {env : RegEnv} {sender : Nat} {nft : RawAddr}
    {payout : Option RawAddr} {bps : Option Nat} {r : Registry}
    (h : regUpdate reg env sender nft payout bps = .ok r) :
    ∃ c e, nft = .valid c ∧ alookup c reg = some e ∧
      r = ainsert c ⟨env.height, bps.getD e.bps, updPayout payout e.payout⟩ reg := by
  obtain ⟨c, e, h1, _, h3, _, _, _, h7⟩ := (C14_update_ok_iff ..).1 h
  exact ⟨c, e, h1, h3, h7⟩

-- entry written at height 7, admin 1 changes only the rate at height 107
example : regUpdate [(5, ⟨7, 50, 9⟩)] ⟨107, fun c => if c = 5 then some (some 1) else none⟩ 1
    (.valid 5) none (some 300) = .ok [(5, ⟨107, 300, 9⟩)] := by rfl
-- … and is refused one block earlier
example : regUpdate [(5, ⟨7, 50, 9⟩)] ⟨106, fun c => if c = 5 then some (some 1) else none⟩ 1
    (.valid 5) none (some 300) = .error .cooldown := by rfl
example : (107 : Nat) < U64MAX := by decide
example : ∀ c e, alookup c [(5, (⟨7, 50, 9⟩ : RoyaltyInfo))] = some e →
    e.lastUpdated + COOLDOWN ≤ U64MAX := by
  intro c e h
  simp only [alookup] at h
  split at h
  · cases h; decide
  · cases h

/-- "removed only by the … admin at that moment; … cannot be … removed until 100 blocks after it
    was created or last modified, while from then on the admin can": exact acceptance condition
    (with the `u64` saturation) and effect of `Remove`. -/
theorem C14_remove_ok_iff (reg : Registry) (env : RegEnv) (sender : Nat) (nft : RawAddr)
    (r : Registry) :
    regRemove reg env sender nft = .ok r ↔
    ∃ c e, nft = .valid c ∧ env.adminOf c = some (some sender) ∧ alookup c reg = some e ∧
      min (e.lastUpdated + COOLDOWN) U64MAX ≤ env.height ∧ r = aerase c reg := by
  cases nft with
  | invalid => exact ⟨nofun, nofun⟩
  | valid c =>
    -- as in `C14_update_ok_iff`: the handler at `.valid c` is the guard chain, continued by `.ok`
    refine regGuard_ok.trans ?_
    simp only [RawAddr.valid.injEq, exists_and_left, exists_eq_left', Except.ok.injEq,
      eq_comm (a := r)]

/-- `C14_remove_iff` and `C14_remove_iff'` in one: either side condition will do -/
theorem C14_remove_iff_of (reg : Registry) (env : RegEnv) (sender : Nat) (nft : RawAddr)
    (hU : env.height < U64MAX ∨ ∀ c e, alookup c reg = some e → e.lastUpdated + COOLDOWN ≤ U64MAX) :
    (∃ r, regRemove reg env sender nft = .ok r) ↔
    ∃ c e, nft = .valid c ∧ env.adminOf c = some (some sender) ∧ alookup c reg = some e ∧
      e.lastUpdated + COOLDOWN ≤ env.height := by
  constructor
  · rintro ⟨r, h⟩
    obtain ⟨c, e, h1, h2, h3, h4, _⟩ := (C14_remove_ok_iff ..).1 h
    exact ⟨c, e, h1, h2, h3, (C14_cooled_iff hU h3).1 h4⟩
  · rintro ⟨c, e, h1, h2, h3, h4⟩
    exact ⟨_, (C14_remove_ok_iff ..).2 ⟨c, e, h1, h2, h3, (C14_cooled_iff hU h3).2 h4, rfl⟩⟩

/-- "removed only by the … admin at that moment; … cannot be … removed until 100 blocks after it
    was created or last modified, while from then on the admin can": the acceptance half of
    `C14_remove_ok_iff` with the cooldown as `lastUpdated + 100 ≤ height`.  Side condition:
    `env.height < U64MAX` (see the header). -/
theorem C14_remove_iff (reg : Registry) (env : RegEnv) (sender : Nat) (nft : RawAddr)
    (hH : env.height < U64MAX) :
    (∃ r, regRemove reg env sender nft = .ok r) ↔
    ∃ c e, nft = .valid c ∧ env.adminOf c = some (some sender) ∧ alookup c reg = some e ∧
      e.lastUpdated + COOLDOWN ≤ env.height :=
  C14_remove_iff_of reg env sender nft (.inl hH)

theorem C14_remove_iff' (reg : Registry) (env : RegEnv) (sender : Nat) (nft : RawAddr)
    (hE : ∀ c e, alookup c reg = some e → e.lastUpdated + COOLDOWN ≤ U64MAX) :
    (∃ r, regRemove reg env sender nft = .ok r) ↔
    ∃ c e, nft = .valid c ∧ env.adminOf c = some (some sender) ∧ alookup c reg = some e ∧
      e.lastUpdated + COOLDOWN ≤ env.height :=
  C14_remove_iff_of reg env sender nft (.inr hE)

theorem C14_remove_effect {reg : Registry} {env : RegEnv} {sender : Nat} {nft : RawAddr}
    {r : Registry} (h : regRemove reg env sender nft = .ok r) :
    ∃ c, nft = .valid c ∧ r = aerase c reg := by
  obtain ⟨c, e, h1, _, _, _, h5⟩ := (C14_remove_ok_iff ..).1 h
  exact ⟨c, h1, h5⟩

example : regRemove [(5, ⟨7, 50, 9⟩)] ⟨107, fun c => if c = 5 then some (some 1) else none⟩ 1
    (.valid 5) = .ok [] := by rfl
example : regRemove [(5, ⟨7, 50, 9⟩)] ⟨106, fun c => if c = 5 then some (some 1) else none⟩ 1
    (.valid 5) = .error .cooldown := by rfl

/-- What an accepted message does, whatever its kind.  It names a collection `c` whose admin (in
    the environment of this call) is the sender; an entry stored for `c` is out of its cooldown;
    and the registry changes at `c` only: the entry is erased, or replaced by one stamped with the
    current height, whose rate is within bounds if the stored one was (an `Update` without a rate
    keeps it) and whose payout address is the stored one unless the message names another (so a
    payout address in the registry was put there by a message of the admin of that moment). -/
theorem C14_accepted {reg r : Registry} {env : RegEnv} {sender : Nat} {msg : RoyMsg}
    (h : regExecute reg env sender msg = .ok r) :
    ∃ c, msg.nft = .valid c ∧ env.adminOf c = some (some sender) ∧
      (∀ e, alookup c reg = some e → min (e.lastUpdated + COOLDOWN) U64MAX ≤ env.height) ∧
      (r = aerase c reg ∨
       ∃ bps payout, r = ainsert c ⟨env.height, bps, payout⟩ reg ∧
        ((∀ e, alookup c reg = some e → MIN_BPS ≤ e.bps ∧ e.bps ≤ MAX_BPS) →
          MIN_BPS ≤ bps ∧ bps ≤ MAX_BPS) ∧
        ((∃ e, alookup c reg = some e ∧ payout = e.payout) ∨
          (∃ n b, msg = .register n (.valid payout) b) ∨
          ∃ n b, msg = .update n (some (.valid payout)) b)) := by
  cases msg with
  | register n p b =>
    obtain ⟨c, p, rfl, rfl, h1, h2, h3, h4, rfl⟩ := (C14_register_ok_iff ..).1 h
    exact ⟨c, rfl, h3, fun e he => (nomatch h4.symm.trans he),
      .inr ⟨b, p, rfl, fun _ => ⟨h1, h2⟩, .inr (.inl ⟨_, _, rfl⟩)⟩⟩
  | update n p b =>
    obtain ⟨c, e, rfl, h1, h2, h3, h4, h5, rfl⟩ := (C14_update_ok_iff ..).1 h
    refine ⟨c, rfl, h1, fun e' he' => Option.some.inj (h2 ▸ he') ▸ h3,
      .inr ⟨_, _, rfl, fun hold => ?_, ?_⟩⟩
    · cases b with
      | none => exact hold e h2
      | some b => exact h4 b rfl
    · rcases p with _ | p | _
      · exact .inl ⟨e, h2, rfl⟩
      · exact .inr (.inr ⟨_, _, rfl⟩)
      · exact absurd rfl h5
  | remove n =>
    obtain ⟨c, e, rfl, h1, h2, h3, rfl⟩ := (C14_remove_ok_iff ..).1 h
    exact ⟨c, rfl, h1, fun e' he' => Option.some.inj (h2 ▸ he') ▸ h3, .inl rfl⟩

/-- "A collection's royalty entry can be created, modified or removed only by the account that is
    that NFT contract's admin at that moment": an accepted message names a collection `c` whose
    admin (in the environment of this call) is the sender, and every other collection's entry is
    as before. -/
theorem C14_only_entry {reg : Registry} {env : RegEnv} {sender : Nat} {msg : RoyMsg}
    {r : Registry} (h : regExecute reg env sender msg = .ok r) :
    ∃ c, msg.nft = .valid c ∧ env.adminOf c = some (some sender) ∧
      ∀ c', c' ≠ c → alookup c' r = alookup c' reg := by
  obtain ⟨c, hn, hadm, -, rfl | ⟨_, _, rfl, -⟩⟩ := C14_accepted h
  · exact ⟨c, hn, hadm, fun c' hne => alookup_aerase_ne hne _⟩
  · exact ⟨c, hn, hadm, fun c' hne => alookup_ainsert_ne hne _ _⟩

example : regExecute [] ⟨7, fun c => if c = 5 then some (some 1) else none⟩ 1
    (.register (.valid 5) (.valid 9) 50) = .ok [(5, ⟨7, 50, 9⟩)] := by rfl

/-- "only by the account that is that NFT contract's admin": a sender who is admin of no
    contract can change nothing — every message of theirs is refused. -/
theorem C14_nonadmin_noop {reg : Registry} {env : RegEnv} {sender : Nat}
    (hno : ∀ c, env.adminOf c ≠ some (some sender)) (msg : RoyMsg) :
    ∃ e, regExecute reg env sender msg = .error e := by
  cases h : regExecute reg env sender msg with
  | error e => exact ⟨e, rfl⟩
  | ok r =>
    obtain ⟨c, _, hc, _⟩ := C14_only_entry h
    exact absurd hc (hno c)

-- sender 2 is admin of nothing in this environment
example : ∀ c, (fun c => if c = 5 then some (some 1) else none : Nat → Option (Option Nat)) c
    ≠ some (some 2) := by
  intro c; dsimp only; split <;> simp

theorem C14_changed_names {reg : Registry} {env : RegEnv} {sender : Nat} {msg : RoyMsg}
    {r : Registry} (h : regExecute reg env sender msg = .ok r) {c : Nat}
    (hch : alookup c r ≠ alookup c reg) : msg.nft = .valid c := by
  obtain ⟨c0, hn, -, hother⟩ := C14_only_entry h
  cases (Decidable.byContradiction fun hne => hch (hother c hne) : c = c0)
  exact hn

/-- The property in one statement, per collection.  If an accepted message changes what is
    stored for collection `c`, then the sender is `c`'s admin in the environment of this call;
    an entry that existed before was at least 100 blocks old (`u64`-saturated sum); and an entry
    that exists afterwards is stamped with the current height (so the 100 blocks count from
    this creation / modification).  The rate bound is `C14_bps_inv`. -/
theorem C14_change_guard {reg : Registry} {env : RegEnv} {sender : Nat} {msg : RoyMsg}
    {r : Registry} (h : regExecute reg env sender msg = .ok r) {c : Nat}
    (hch : alookup c r ≠ alookup c reg) :
    env.adminOf c = some (some sender) ∧
    (∀ e, alookup c reg = some e → min (e.lastUpdated + COOLDOWN) U64MAX ≤ env.height) ∧
    (∀ e', alookup c r = some e' → e'.lastUpdated = env.height) := by
  obtain ⟨c0, hn, hadm, hold, hr⟩ := C14_accepted h
  cases RawAddr.valid.inj ((C14_changed_names h hch).symm.trans hn)
  refine ⟨hadm, hold, fun e' he' => ?_⟩
  rcases hr with rfl | ⟨_, _, rfl, -⟩
  · rw [alookup_aerase_self] at he'; cases he'
  · rw [alookup_ainsert_self] at he'; cases he'; rfl

-- the accepted update above changes what is stored for collection 5
example : alookup 5 ([(5, ⟨107, 300, 9⟩)] : Registry) ≠ alookup 5 [(5, ⟨7, 50, 9⟩)] := by decide

/-- "its rate is always between 10 and 300 bps": the bound is preserved by every accepted
    message (an `Update` without a rate keeps the stored, already bounded, one). -/
theorem C14_bps_inv {reg : Registry} {env : RegEnv} {sender : Nat} {msg : RoyMsg} {r : Registry}
    (hinv : ∀ p ∈ reg, MIN_BPS ≤ p.2.bps ∧ p.2.bps ≤ MAX_BPS)
    (h : regExecute reg env sender msg = .ok r) :
    ∀ p ∈ r, MIN_BPS ≤ p.2.bps ∧ p.2.bps ≤ MAX_BPS := by
  obtain ⟨c, -, -, -, rfl | ⟨_, _, rfl, hb, -⟩⟩ := C14_accepted h
  · exact forall_mem_aerase hinv c
  · exact forall_mem_ainsert hinv (hb fun e he => hinv (c, e) (alookup_some_mem he))

example : ∀ p ∈ ([(5, ⟨7, 50, 9⟩)] : Registry), MIN_BPS ≤ p.2.bps ∧ p.2.bps ≤ MAX_BPS := by decide

/-- one entry per collection: key uniqueness is preserved (so "the entry" of a collection is
    well defined and `alookup` sees every stored pair). -/
theorem C14_nodup_inv {reg : Registry} {env : RegEnv} {sender : Nat} {msg : RoyMsg} {r : Registry}
    (hinv : (akeys reg).Nodup) (h : regExecute reg env sender msg = .ok r) : (akeys r).Nodup := by
  obtain ⟨c, -, -, -, rfl | ⟨_, _, rfl, -⟩⟩ := C14_accepted h
  · exact nodup_akeys_aerase _ hinv
  · exact nodup_akeys_ainsert _ _ hinv

example : (akeys ([(5, ⟨7, 50, 9⟩)] : Registry)).Nodup := by decide

/-- "created or last modified": no entry is stamped with a future block. -/
theorem C14_stamp_inv {reg : Registry} {env : RegEnv} {sender : Nat} {msg : RoyMsg} {r : Registry}
    (hinv : ∀ p ∈ reg, p.2.lastUpdated ≤ env.height)
    (h : regExecute reg env sender msg = .ok r) : ∀ p ∈ r, p.2.lastUpdated ≤ env.height := by
  obtain ⟨c, -, -, -, rfl | ⟨_, _, rfl, -⟩⟩ := C14_accepted h
  · exact forall_mem_aerase hinv c
  · exact forall_mem_ainsert hinv (Nat.le_refl _)

example : ∀ p ∈ ([(5, ⟨7, 50, 9⟩)] : Registry), p.2.lastUpdated ≤ 7 := by decide

/-- "Lookups, single … return the current entry (or none)". -/
theorem C14_single (reg : Registry) (c : Nat) : regSingle reg c = alookup c reg := rfl

/-- "Lookups, … batched, return the current entry (or none) for each requested collection, in
    request order" (for a non-empty batch). -/
theorem C14_multi (reg : Registry) {cs : List Nat} (h : cs ≠ []) :
    regMulti reg cs = some (cs.map (regSingle reg)) := by
  cases cs with
  | nil => exact absurd rfl h
  | cons a t => rfl

example : ([5, 6] : List Nat) ≠ [] := by decide

/-- the code rejects the empty batch (`"No contracts found"`) -/
theorem C14_multi_nil (reg : Registry) : regMulti reg [] = none := rfl

/-- "for each requested collection, in request order": position by position. -/
theorem C14_multi_get {reg : Registry} {cs : List Nat} {out : List (Option RoyaltyInfo)}
    (h : regMulti reg cs = some out) :
    out.length = cs.length ∧ ∀ i (hi : i < cs.length), out[i]? = some (alookup cs[i] reg) := by
  cases cs with
  | nil => cases h
  | cons a t =>
    cases (C14_multi reg (List.cons_ne_nil a t)).symm.trans h
    refine ⟨List.length_map _, fun i hi => ?_⟩
    rw [List.getElem?_map, List.getElem?_eq_getElem hi, Option.map_some, C14_single]

example : regMulti [(5, ⟨7, 50, 9⟩)] [6, 5] = some [none, some ⟨7, 50, 9⟩] := by decide

/-- The registry across one operation of any kind: it is as it was, or the operation is a registry
    message that the handler — run on the pre-state registry, block height and contract table —
    accepts, and then only `reg` is replaced by its result. -/
theorem C14_step_reg (w : World) (op : Op) :
    (step w op).1.reg = w.reg ∨
    ∃ s m r, op = .royalty s m ∧ regExecute w.reg w.regEnv s m = .ok r ∧
      step w op = ({ w with reg := r }, ⟨true, none, []⟩) :=
  stepF_reg_cases noFault w op

/-- "can be created, modified or removed only by …": marketplace messages, token sends, admin
    changes and the passage of time leave the registry exactly as it was. -/
theorem C14_frame {w : World} {op : Op} (hop : ∀ s m, op ≠ .royalty s m) :
    (step w op).1.reg = w.reg :=
  stepF_reg noFault hop

example : ∀ s m, Op.advance 5 5 ≠ .royalty s m := by intro s m h; cases h

/-- what every accepted registry message preserves, every operation preserves -/
theorem C14_step_inv {P : Registry → Prop}
    (hP : ∀ {reg r : Registry} {env : RegEnv} {sender : Nat} {msg : RoyMsg},
      P reg → regExecute reg env sender msg = .ok r → P r)
    {w : World} (op : Op) (h : P w.reg) : P (step w op).1.reg := by
  rcases C14_step_reg w op with e | ⟨s, m, r, -, hx, e⟩ <;> rw [e]
  · exact h
  · exact hP h hx

/-- hence it holds along every history.  The predicate does not see the block height, so
    `C14_stamp_inv` (whose bound moves with it) is not an instance. -/
theorem C14_reach_inv {P : Registry → Prop}
    (hP : ∀ {reg r : Registry} {env : RegEnv} {sender : Nat} {msg : RoyMsg},
      P reg → regExecute reg env sender msg = .ok r → P r)
    {w : World} (h : P w.reg) (ops : List Op) : P (run w ops).reg :=
  run_invariant (P := fun w => P w.reg) (fun _ op => C14_step_inv hP op) ops h

theorem C14_step_bps {w : World} (op : Op)
    (hinv : ∀ p ∈ w.reg, MIN_BPS ≤ p.2.bps ∧ p.2.bps ≤ MAX_BPS) :
    ∀ p ∈ (step w op).1.reg, MIN_BPS ≤ p.2.bps ∧ p.2.bps ≤ MAX_BPS :=
  C14_step_inv (P := fun reg => ∀ p ∈ reg, MIN_BPS ≤ p.2.bps ∧ p.2.bps ≤ MAX_BPS) C14_bps_inv op hinv

/-- "its rate is always between 10 and 300 bps": `C14_bps_inv` along every history, of every mix
    of operations by anybody, starting from a registry within bounds (e.g. the empty one). -/
theorem C14_reach_bps {w : World}
    (hinv : ∀ p ∈ w.reg, MIN_BPS ≤ p.2.bps ∧ p.2.bps ≤ MAX_BPS) (ops : List Op) :
    ∀ p ∈ (run w ops).reg, MIN_BPS ≤ p.2.bps ∧ p.2.bps ≤ MAX_BPS :=
  C14_reach_inv (P := fun reg => ∀ p ∈ reg, MIN_BPS ≤ p.2.bps ∧ p.2.bps ≤ MAX_BPS) C14_bps_inv hinv ops

theorem C14_reach_nodup {w : World} (hinv : (akeys w.reg).Nodup) (ops : List Op) :
    (akeys (run w ops).reg).Nodup :=
  C14_reach_inv (P := fun reg => (akeys reg).Nodup) C14_nodup_inv hinv ops

theorem C14_step_ok_iff (w : World) (sender : Nat) (msg : RoyMsg) :
    (step w (.royalty sender msg)).2.ok = true ↔
    ∃ r, regExecute w.reg w.regEnv sender msg = .ok r ∧
      (step w (.royalty sender msg)).1 = { w with reg := r } := by
  unfold step
  rcases stepF_royalty noFault w sender msg with ⟨e, hx, hs⟩ | ⟨r, hx, hs⟩ <;> rw [hs]
  · exact ⟨fun h => (nomatch h), fun ⟨r, hr, _⟩ => (nomatch hx.symm.trans hr)⟩
  · exact ⟨fun _ => ⟨r, hx, rfl⟩, fun _ => rfl⟩

/-- "only by the account that is that NFT contract's admin at that moment": `C14_only_entry` as
    a transaction; the admin is the one recorded in the contract table of the world *in which
    the transaction runs*. -/
theorem C14_step_admin {w : World} {sender : Nat} {msg : RoyMsg}
    (h : (step w (.royalty sender msg)).2.ok = true) :
    ∃ c, msg.nft = .valid c ∧ w.regEnv.adminOf c = some (some sender) ∧
      ∀ c', c' ≠ c → alookup c' (step w (.royalty sender msg)).1.reg = alookup c' w.reg := by
  obtain ⟨r, hx, e⟩ := (C14_step_ok_iff w sender msg).1 h
  rw [e]
  exact C14_only_entry hx

/-- If one step of any kind changes what is stored for collection `c`: the step was a registry
    message naming `c`, sent by the account the pre-state contract table records as `c`'s admin; an
    entry that existed was at least 100 blocks old; an entry that exists afterwards is stamped with
    the current height. -/
theorem C14_step_change_names {w : World} {op : Op} {c : Nat}
    (hch : alookup c (step w op).1.reg ≠ alookup c w.reg) :
    ∃ sender msg, op = .royalty sender msg ∧ msg.nft = .valid c ∧ (step w op).2.ok = true ∧
      (∃ ci, alookup c w.contracts = some ci ∧ ci.admin = some sender) ∧
      (∀ e, alookup c w.reg = some e → min (e.lastUpdated + COOLDOWN) U64MAX ≤ w.height) ∧
      (∀ e', alookup c (step w op).1.reg = some e' → e'.lastUpdated = w.height) := by
  rcases C14_step_reg w op with e | ⟨s, m, r, rfl, hx, e⟩
  · exact absurd (congrArg (alookup c) e) hch
  · rw [e] at hch ⊢
    obtain ⟨g1, g2, g3⟩ := C14_change_guard hx hch
    exact ⟨s, m, rfl, C14_changed_names hx hch, rfl, (regEnv_adminOf_iff w c s).1 g1, g2, g3⟩

/-- The whole first and third clauses at world level, for any operation whatsoever:
    `C14_step_change_names` without the collection the message names. -/
theorem C14_step_change_guard {w : World} {op : Op} {c : Nat}
    (hch : alookup c (step w op).1.reg ≠ alookup c w.reg) :
    ∃ sender msg, op = .royalty sender msg ∧ (step w op).2.ok = true ∧
      (∃ ci, alookup c w.contracts = some ci ∧ ci.admin = some sender) ∧
      (∀ e, alookup c w.reg = some e → min (e.lastUpdated + COOLDOWN) U64MAX ≤ w.height) ∧
      (∀ e', alookup c (step w op).1.reg = some e' → e'.lastUpdated = w.height) := by
  obtain ⟨s, m, hop, -, h⟩ := C14_step_change_names hch
  exact ⟨s, m, hop, h⟩

/-- "while from then on the admin can [modify]": in any world, once 100 blocks have passed since
    the entry was written, the `Update` transaction of the collection's current admin succeeds
    (for admissible new values) and stores the new entry.  No side condition. -/
theorem C14_admin_can_update {w : World} {c sender : Nat} {ci : ContractInfo} {e : RoyaltyInfo}
    {payout : Option RawAddr} {bps : Option Nat}
    (hci : alookup c w.contracts = some ci) (hadm : ci.admin = some sender)
    (he : alookup c w.reg = some e) (hcool : e.lastUpdated + COOLDOWN ≤ w.height)
    (hb : ∀ b, bps = some b → MIN_BPS ≤ b ∧ b ≤ MAX_BPS) (hp : payout ≠ some .invalid) :
    (step w (.royalty sender (.update (.valid c) payout bps))).2.ok = true ∧
    alookup c (step w (.royalty sender (.update (.valid c) payout bps))).1.reg =
      some ⟨w.height, bps.getD e.bps, updPayout payout e.payout⟩ := by
  have hsat : min (e.lastUpdated + COOLDOWN) U64MAX ≤ w.regEnv.height :=
    Nat.le_trans (Nat.min_le_left _ _) hcool
  have hx : regExecute w.reg w.regEnv sender (.update (.valid c) payout bps) = .ok _ :=
    (C14_update_ok_iff ..).2
      ⟨c, e, rfl, (regEnv_adminOf_iff w c sender).2 ⟨ci, hci, hadm⟩, he, hsat, hb, hp, rfl⟩
  unfold step
  rw [stepF_royalty_ok hx]
  exact ⟨rfl, alookup_ainsert_self _ _ _⟩

/-- "while from then on the admin can [remove]": in any world, once 100 blocks have passed since
    the entry was written, the `Remove` transaction of the collection's current admin succeeds
    and the entry is gone.  No side condition. -/
theorem C14_admin_can_remove {w : World} {c sender : Nat} {ci : ContractInfo} {e : RoyaltyInfo}
    (hci : alookup c w.contracts = some ci) (hadm : ci.admin = some sender)
    (he : alookup c w.reg = some e) (hcool : e.lastUpdated + COOLDOWN ≤ w.height) :
    (step w (.royalty sender (.remove (.valid c)))).2.ok = true ∧
    alookup c (step w (.royalty sender (.remove (.valid c)))).1.reg = none := by
  have hsat : min (e.lastUpdated + COOLDOWN) U64MAX ≤ w.regEnv.height :=
    Nat.le_trans (Nat.min_le_left _ _) hcool
  have hx : regExecute w.reg w.regEnv sender (.remove (.valid c)) = .ok _ :=
    (C14_remove_ok_iff ..).2
      ⟨c, e, rfl, (regEnv_adminOf_iff w c sender).2 ⟨ci, hci, hadm⟩, he, hsat, rfl⟩
  unfold step
  rw [stepF_royalty_ok hx]
  exact ⟨rfl, alookup_aerase_self _ _⟩

/-- "can be created … by the … admin": with no entry stored, the `Register` transaction of the
    collection's current admin succeeds for any valid payout address and any rate within bounds,
    and stores `⟨current height, bps, payout⟩`. -/
theorem C14_admin_can_register {w : World} {c sender p bps : Nat} {ci : ContractInfo}
    (hci : alookup c w.contracts = some ci) (hadm : ci.admin = some sender)
    (hnone : alookup c w.reg = none) (h1 : MIN_BPS ≤ bps) (h2 : bps ≤ MAX_BPS) :
    (step w (.royalty sender (.register (.valid c) (.valid p) bps))).2.ok = true ∧
    alookup c (step w (.royalty sender (.register (.valid c) (.valid p) bps))).1.reg =
      some ⟨w.height, bps, p⟩ := by
  have hx : regExecute w.reg w.regEnv sender (.register (.valid c) (.valid p) bps) = .ok _ :=
    (C14_register_ok_iff ..).2
      ⟨c, p, rfl, rfl, h1, h2, (regEnv_adminOf_iff w c sender).2 ⟨ci, hci, hadm⟩, hnone, rfl⟩
  unfold step
  rw [stepF_royalty_ok hx]
  exact ⟨rfl, alookup_ainsert_self _ _ _⟩

/-! #### a concrete hand-over: after `setAdmin` the old admin is refused, the new one accepted -/

/-- collection 5 (an honest CW721) is administered by account 1; nothing registered yet -/
private def exW : World :=
  { self := 100, pool := 101, regAddr := 102, junoD := 1, usdcD := 2, nowNs := 0, height := 1000,
    mkt := instantiate 0 (some 102), reg := [], bank := [], cw20 := [], nft := [],
    contracts := [(5, ⟨some 1, 2, false, false⟩)] }

/-- account 1 hands collection 5 over to account 2 -/
private def exW' : World := (step exW (.setAdmin 1 5 (some 2))).1

private def exReg : RoyMsg := .register (.valid 5) (.valid 9) 50

-- before the hand-over: admin 1 is accepted (hypothesis of `C14_step_admin`), 2 is refused
example : (step exW (.royalty 1 exReg)).2.ok = true := by decide
example : (step exW (.royalty 2 exReg)).2.ok = false := by decide
-- the hand-over itself succeeds
example : (step exW (.setAdmin 1 5 (some 2))).2.ok = true := by decide
-- after it the OLD admin fails and the NEW one succeeds: "admin at that moment"
example : (step exW' (.royalty 1 exReg)).2.ok = false := by decide
example : (step exW' (.royalty 1 exReg)).2.err = some .notAdmin := by decide
example : (step exW' (.royalty 2 exReg)).2.ok = true := by decide
example : (step exW' (.royalty 2 exReg)).1.reg = [(5, ⟨1000, 50, 9⟩)] := by decide
-- hypothesis of `C14_step_change_guard`
example : alookup 5 (step exW (.royalty 1 exReg)).1.reg ≠ alookup 5 exW.reg := by decide
-- cooldown at world level: 99 blocks later the new admin cannot yet modify, 100 blocks later can
example : (step (run exW' [.royalty 2 exReg, .advance 0 99])
    (.royalty 2 (.update (.valid 5) none (some 300)))).2.err = some .cooldown := by decide
example : (run exW' [.royalty 2 exReg, .advance 0 100,
    .royalty 2 (.update (.valid 5) none (some 300))]).reg = [(5, ⟨1100, 300, 9⟩)] := by decide
-- hypotheses of the `C14_admin_can_…` theorems (world 100 blocks after 2's registration)
example : alookup 5 (run exW' [.royalty 2 exReg, .advance 0 100]).contracts
    = some ⟨some 2, 2, false, false⟩ := by decide
example : alookup 5 (run exW' [.royalty 2 exReg, .advance 0 100]).reg = some ⟨1000, 50, 9⟩ := by
  decide
example : (1000 : Nat) + COOLDOWN ≤ (run exW' [.royalty 2 exReg, .advance 0 100]).height := by decide
example : alookup 5 exW.contracts = some ⟨some 1, 2, false, false⟩ ∧ alookup 5 exW.reg = none := by
  decide
-- hypotheses of `C14_reach_bps`, `C14_reach_nodup`
example : ∀ p ∈ exW.reg, MIN_BPS ≤ p.2.bps ∧ p.2.bps ≤ MAX_BPS := by decide
example : (akeys exW.reg).Nodup := by decide

#print axioms C14_register_ok_iff
#print axioms C14_register_iff
#print axioms C14_register_effect
#print axioms C14_update_ok_iff
#print axioms C14_update_iff
#print axioms C14_update_iff'
#print axioms C14_update_effect
#print axioms C14_remove_ok_iff
#print axioms C14_remove_iff
#print axioms C14_remove_iff'
#print axioms C14_remove_effect
#print axioms C14_only_entry
#print axioms C14_nonadmin_noop
#print axioms C14_change_guard
#print axioms C14_bps_inv
#print axioms C14_nodup_inv
#print axioms C14_stamp_inv
#print axioms C14_single
#print axioms C14_multi
#print axioms C14_multi_nil
#print axioms C14_multi_get
#print axioms C14_frame
#print axioms C14_step_bps
#print axioms C14_reach_bps
#print axioms C14_reach_nodup
#print axioms C14_step_ok_iff
#print axioms C14_step_admin
#print axioms C14_step_change_guard
#print axioms C14_admin_can_update
#print axioms C14_admin_can_remove
#print axioms C14_admin_can_register
#print axioms C14_cooled_iff
#print axioms C14_update_iff_of
#print axioms C14_remove_iff_of
#print axioms C14_accepted
#print axioms C14_changed_names
#print axioms C14_step_reg
#print axioms C14_step_inv
#print axioms C14_reach_inv
#print axioms C14_step_change_names

end Fuzion
