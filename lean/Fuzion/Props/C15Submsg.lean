/-
  Fuzion.Props.C15Submsg — C15, the reply discipline made explicit (see Model/Submsg.lean).
  Under the CosmWasm sub-message semantics a failure can be swallowed only by a sub-message sent
  with `ReplyOn::Error` / `Always` whose `reply` returns Ok.  The marketplace sends every message
  with `ReplyOn::Never` (implementation side: oracle `oSub` on every recorded response) and its
  `reply` rejects every id but 1 (`C15_reply_only_1`, compared on `REPLY` lines).  Hence no failure
  is swallowed (`C15_never_means_atomic`), one `ReplyOn::Error` would be enough to swallow one
  (`C15_error_reply_swallows`), and the model's `dispatchAll` is this discipline with plain messages
  (`C15_dispatchAll_is_plain`).
-/
import Fuzion.Model.Submsg
import Fuzion.Model.Chain
namespace Fuzion
open Fuzion.Submsg

def AllNever {μ : Type} (xs : List (SubM μ)) : Prop := ∀ x ∈ xs, x.replyOn = .never

/-- a plain message is just run: `reply` is not consulted, a failure propagates -/
theorem dispatchSub_never {σ μ : Type} (sem : Sem σ μ) (s : σ) {x : SubM μ} (h : x.replyOn = .never) :
    dispatchSub sem s x = sem.run s x.msg := by
  unfold dispatchSub
  rw [h]
  cases sem.run s x.msg <;> rfl

/-- with plain messages the discipline is exactly "run in order, abort on the first failure":
    the `reply` entry point is never consulted -/
theorem C15_never_is_plain {σ μ : Type} (sem : Sem σ μ) :
    ∀ (xs : List (SubM μ)) (s : σ), AllNever xs →
      dispatch sem s xs = (xs.map (·.msg)).foldlM (fun st m => sem.run st m) s := by
  intro xs
  induction xs with
  | nil => intro s _; rfl
  | cons x xs ih =>
    intro s h
    rw [dispatch, dispatchSub_never sem s (h x List.mem_cons_self), List.map_cons, List.foldlM_cons]
    cases sem.run s x.msg with
    | none => rfl
    | some s' => exact ih s' fun y hy => h y (List.mem_cons_of_mem _ hy)

/-- **no failure is swallowed**: if any message of a plain response fails when its turn comes, the
    whole dispatch fails (whatever `reply` would answer) -/
theorem C15_never_means_atomic {σ μ : Type} (sem : Sem σ μ) :
    ∀ (pre : List (SubM μ)) (x : SubM μ) (post : List (SubM μ)) (s s' : σ),
      AllNever (pre ++ x :: post) → dispatch sem s pre = some s' → sem.run s' x.msg = none →
      dispatch sem s (pre ++ x :: post) = none := by
  intro pre x post s s' h hp hr
  have hpre : AllNever pre := fun y hy => h y (List.mem_append_left _ hy)
  rw [C15_never_is_plain sem _ _ h, List.map_append, List.foldlM_append,
    ← C15_never_is_plain sem _ _ hpre, hp]
  show List.foldlM _ s' (x.msg :: post.map (·.msg)) = none
  rw [List.foldlM_cons, hr]
  rfl

/-- conversely, ONE `reply_on_error` sub-message whose reply answers Ok is enough to swallow a
    failure: the dispatch then succeeds although the message failed (this is the shape of change the
    oracle `oSub` and the fault injection are there to catch) -/
theorem C15_error_reply_swallows :
    let sem : Sem Nat Bool := ⟨fun s ok => if ok then some (s + 1) else none, fun s _ _ => some s⟩
    dispatch sem 0 [⟨false, 2, .error⟩, ⟨true, 0, .never⟩] = some 1 ∧
    dispatch sem 0 [⟨false, 0, .never⟩, ⟨true, 0, .never⟩] = none := by
  decide

/-- the model's own dispatcher (Model/Chain.lean) is this discipline instantiated with plain
    messages: `dispatchAll noFault` = in-order `dispatch1`, aborting on the first failure -/
theorem C15_dispatchAll_is_plain (w : World) (msgs : List OutMsg) :
    dispatchAll noFault w msgs 0 =
      dispatch ⟨dispatch1, fun s _ _ => some s⟩ w (msgs.map fun m => ⟨m, 0, .never⟩) := by
  suffices h : ∀ (msgs : List OutMsg) (w : World) (i : Nat),
      dispatchAll noFault w msgs i =
        dispatch ⟨dispatch1, fun s _ _ => some s⟩ w (msgs.map fun m => ⟨m, 0, .never⟩) from h msgs w 0
  intro msgs
  induction msgs with
  | nil => intro w i; rfl
  | cons m ms ih =>
    intro w i
    -- one step of either dispatcher: no fault at `i`, and a plain sub-message is just run
    simp only [dispatchAll, noFault, Bool.false_eq_true, ↓reduceIte, List.map_cons, dispatch,
      dispatchSub_never _ _ (x := ⟨m, 0, .never⟩) rfl]
    cases hd : dispatch1 w m with
    | none => rfl
    | some w' => simp only [ih w' (i + 1)]

-- hypotheses of `C15_never_means_atomic`: a two-message plain response whose second message fails
example : let sem : Sem Nat Bool := ⟨fun s ok => if ok then some (s + 1) else none, fun s _ _ => some s⟩
    AllNever ([⟨true, 0, .never⟩] ++ (⟨false, 0, .never⟩ : SubM Bool) :: []) ∧
    dispatch sem 0 [⟨true, 0, .never⟩] = some 1 ∧ sem.run 1 false = none := by
  refine ⟨?_, by decide, by decide⟩
  intro x hx
  simp only [List.cons_append, List.nil_append, List.mem_cons, List.not_mem_nil, or_false] at hx
  rcases hx with rfl | rfl <;> rfl

#print axioms C15_never_is_plain
#print axioms C15_never_means_atomic
#print axioms C15_error_reply_swallows
#print axioms C15_dispatchAll_is_plain
#print axioms dispatchSub_never
end Fuzion
