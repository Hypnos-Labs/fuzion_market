/-
  Fuzion.Props.C05Closed — the payout theorems of Props/C05.lean for every state `run w0 ops` with
  `w0.mkt = instantiate t r` and `ops` arbitrary: `IdsInv` and `WFInv` of the state in which the
  payout happens are discharged by `C09_reach`, `C12_reach`.

  What remains is about the input and the configuration: the account `x` that signs the payout
  is neither the marketplace contract nor the community-pool account, and the pool account is not
  the marketplace (`w0.pool ≠ w0.self`).  These three are stated on the initial world `w0` — no
  operation changes `self` or `pool` (`run_static`).  They are needed: the ledger deltas of
  `PaidOut` are stated per account and coincide when two of the three roles are played by one
  account.
-/
import Fuzion.Props.C05
import Fuzion.Lemmas.ClosedLemmas
namespace Fuzion

/-! The examples use the states `run AcctEx.w0 (AcctEx.ops.take k)` of the sample history
(Lemmas/AcctLemmas.lean), which Props/C05.lean calls `C05Ex.at_ k`. -/

example : AcctEx.w0.mkt = instantiate 0 (some 102) := rfl
example (k : Nat) : C05Ex.at_ k = run AcctEx.w0 (AcctEx.ops.take k) := rfl

section payout
variable {w0 w' : World} {t : Nat} {r : Option Nat} {o : Outcome} {x id : Nat}

/-- "Every successful … listing deletion … removes the record and delivers exactly its recorded
    assets to its owner …  Refunds of records that never traded carry no fee", in every reachable
    state: the listing `l` was filed under `(x, id)`, created by `x`, unclaimed and not closed; it
    carries **no fee** and the payout is `PaidOut … l.forSale none`: nothing goes to the pool. -/
theorem C05_payout_delete_reach (h0 : w0.mkt = instantiate t r) (ops : List Op)
    (hs : step (run w0 ops) (.exec x [] (.deleteListing id)) = (w', o)) (hok : o.ok = true)
    (hx : x ≠ w0.self) (hxp : x ≠ w0.pool) (hp : w0.pool ≠ w0.self) :
    ∃ l, alookup (x, id) (run w0 ops).mkt.listings = some l ∧ l.creator = x ∧ l.claimant = none ∧
      l.status ≠ .closed ∧ l.fee = none ∧
      o.msgs = sendTokens x l.forSale ∧
      w'.mkt = { (run w0 ops).mkt with listings := aerase (x, id) (run w0 ops).mkt.listings } ∧
      alookup (x, id) w'.mkt.listings = none ∧ findById id w'.mkt.listings = none ∧
      (∀ k, k ≠ (x, id) → alookup k w'.mkt.listings = alookup k (run w0 ops).mkt.listings) ∧
      PaidOut (run w0 ops) w' x l.forSale none := by
  have hd := run_static w0 ops
  exact C05_payout_delete (C09_reach h0 ops) (closed_wf h0 ops) hs hok (hd.ne_self hx) (hd.ne_pool hxp)
    (hd.pool_ne_self hp)

/-- after three operations of the sample history seller 1 deletes the preparing listing 3; 1 is
    neither the marketplace (100) nor the pool (101) -/
example : (step (run AcctEx.w0 (AcctEx.ops.take 3)) (.exec 1 [] (.deleteListing 3))).2.ok = true ∧
    (1 : Nat) ≠ AcctEx.w0.self ∧ (1 : Nat) ≠ AcctEx.w0.pool ∧ AcctEx.w0.pool ≠ AcctEx.w0.self := by
  decide +kernel

/-- "… or purchased-listing withdrawal removes the record and delivers exactly its recorded assets
    to its owner plus exactly its recorded fee to the community pool", in every reachable state:
    the sold listing `l` was filed under `(x, id)` with `x` as its buyer (claimant and creator); the
    goods go to `x`, the fee recorded at the purchase goes to the pool. -/
theorem C05_payout_purchased_reach (h0 : w0.mkt = instantiate t r) (ops : List Op)
    (hs : step (run w0 ops) (.exec x [] (.withdrawPurchased id)) = (w', o)) (hok : o.ok = true)
    (hx : x ≠ w0.self) (hxp : x ≠ w0.pool) (hp : w0.pool ≠ w0.self) :
    ∃ l, alookup (x, id) (run w0 ops).mkt.listings = some l ∧ l.creator = x ∧
      l.claimant = some x ∧ l.status = .closed ∧
      o.msgs = withdrawMsgs (run w0 ops).self x l.forSale l.fee ∧
      w'.mkt = { (run w0 ops).mkt with listings := aerase (x, id) (run w0 ops).mkt.listings } ∧
      alookup (x, id) w'.mkt.listings = none ∧ findById id w'.mkt.listings = none ∧
      (∀ k, k ≠ (x, id) → alookup k w'.mkt.listings = alookup k (run w0 ops).mkt.listings) ∧
      PaidOut (run w0 ops) w' x l.forSale l.fee := by
  have hd := run_static w0 ops
  exact C05_payout_purchased (C09_reach h0 ops) (closed_wf h0 ops) hs hok (hd.ne_self hx)
    (hd.ne_pool hxp) (hd.pool_ne_self hp)

/-- after eight operations (creation, two top-ups, finalization, bucket, registry update,
    purchase, one second) buyer 2 withdraws the purchased listing 3 -/
example : (step (run AcctEx.w0 (AcctEx.ops.take 8)) (.exec 2 [] (.withdrawPurchased 3))).2.ok = true ∧
    (2 : Nat) ≠ AcctEx.w0.self ∧ (2 : Nat) ≠ AcctEx.w0.pool ∧ AcctEx.w0.pool ≠ AcctEx.w0.self := by
  decide +kernel

/-- "Every successful bucket removal, listing deletion or purchased-listing withdrawal removes the
    record and delivers exactly its recorded assets to its owner plus exactly its recorded fee to
    the community pool": the three payout theorems in one statement, in every reachable state. -/
theorem C05_payout_reach (h0 : w0.mkt = instantiate t r) (ops : List Op) (hok : o.ok = true)
    (hx : x ≠ w0.self) (hxp : x ≠ w0.pool) (hp : w0.pool ≠ w0.self) :
    (step (run w0 ops) (.exec x [] (.removeBucket id)) = (w', o) →
      ∃ b, alookup (x, id) (run w0 ops).mkt.buckets = some b ∧ b.owner = x ∧
        alookup (x, id) w'.mkt.buckets = none ∧ PaidOut (run w0 ops) w' x b.funds b.fee) ∧
    (step (run w0 ops) (.exec x [] (.deleteListing id)) = (w', o) →
      ∃ l, alookup (x, id) (run w0 ops).mkt.listings = some l ∧ l.creator = x ∧
        alookup (x, id) w'.mkt.listings = none ∧ findById id w'.mkt.listings = none ∧
        PaidOut (run w0 ops) w' x l.forSale none) ∧
    (step (run w0 ops) (.exec x [] (.withdrawPurchased id)) = (w', o) →
      ∃ l, alookup (x, id) (run w0 ops).mkt.listings = some l ∧ l.claimant = some x ∧
        alookup (x, id) w'.mkt.listings = none ∧ findById id w'.mkt.listings = none ∧
        PaidOut (run w0 ops) w' x l.forSale l.fee) := by
  have hd := run_static w0 ops
  exact C05_payout (C09_reach h0 ops) (closed_wf h0 ops) hok (hd.ne_self hx) (hd.ne_pool hxp)
    (hd.pool_ne_self hp)

/-- after nine operations seller 1 removes bucket 8 (received in the trade) -/
example : (step (run AcctEx.w0 (AcctEx.ops.take 9)) (.exec 1 [] (.removeBucket 8))).2.ok = true ∧
    (1 : Nat) ≠ AcctEx.w0.self ∧ (1 : Nat) ≠ AcctEx.w0.pool ∧ AcctEx.w0.pool ≠ AcctEx.w0.self := by
  decide +kernel

end payout

/-- "Refunds of records that never traded carry no fee", in every reachable state: (a) only a sold
    (closed) listing can carry a fee, so a preparing or finalized listing has none; (b) an accepted
    `DeleteListing` emits no fund-community-pool message, and the listing it refunds has no fee
    recorded; (c) for any payout with no recorded fee the community pool's balance is exactly
    unchanged in every denomination and the marketplace loses exactly the goods. -/
theorem C05_refund_no_fee_reach {w0 : World} {t : Nat} {r : Option Nat}
    (h0 : w0.mkt = instantiate t r) (ops : List Op) :
    (∀ k l, alookup k (run w0 ops).mkt.listings = some l → l.status ≠ .closed → l.fee = none) ∧
    (∀ env s id m' out, deleteListing (run w0 ops).mkt env s id = .ok (m', out) →
      (∀ dep c, OutMsg.fundPool dep c ∉ out) ∧
      ∃ l, alookup (s, id) (run w0 ops).mkt.listings = some l ∧ l.fee = none) ∧
    (∀ (w w' : World) x g, PaidOut w w' x g none →
      (∀ d, lget w'.bank (w.pool, d) = lget w.bank (w.pool, d)) ∧
      (∀ d, lget w'.bank (w.self, d) + coinAmt g.native d = lget w.bank (w.self, d))) :=
  C05_refund_no_fee (C09_reach h0 ops) (C12_reach h0 ops)

/-- the state after three operations holds the preparing listing 3, whose deletion is accepted -/
example : (run AcctEx.w0 (AcctEx.ops.take 3)).mkt.listings.map (fun p => (p.1, p.2.status)) =
      [((1, 3), .preparing)] ∧
    C12Ex.errOf (deleteListing (run AcctEx.w0 (AcctEx.ops.take 3)).mkt
      (run AcctEx.w0 (AcctEx.ops.take 3)).env 1 3) = none := by decide +kernel

/-- "… and no other account's balance or NFT changes", in every reachable state: in every deposit
    step and every payout step signed by `x` — accepted or not — every account `y` other than `x`,
    the marketplace and the community pool is exactly as before: all bank balances, all token
    balances, and the set of NFTs it owns (equalities, not inequalities). -/
theorem C05_others_untouched_reach {w0 : World} {t : Nat} {r : Option Nat}
    (h0 : w0.mkt = instantiate t r) (ops : List Op) {x y : Nat}
    (hx : x ≠ w0.self) (hxp : x ≠ w0.pool) (hp : w0.pool ≠ w0.self)
    (hy : y ≠ x) (hys : y ≠ w0.self) (hyp : y ≠ w0.pool) :
    (∀ funds i, Untouched (run w0 ops) (step (run w0 ops) (.exec x funds (Inner.toExec i))).1 y) ∧
    (∀ tk amount inner, Untouched (run w0 ops) (step (run w0 ops) (.send20 tk x amount inner)).1 y) ∧
    (∀ c tid inner, Untouched (run w0 ops) (step (run w0 ops) (.send721 c x tid inner)).1 y) ∧
    (∀ id, Untouched (run w0 ops) (step (run w0 ops) (.exec x [] (.removeBucket id))).1 y) ∧
    (∀ id, Untouched (run w0 ops) (step (run w0 ops) (.exec x [] (.deleteListing id))).1 y) ∧
    (∀ id, Untouched (run w0 ops) (step (run w0 ops) (.exec x [] (.withdrawPurchased id))).1 y) := by
  have hd := run_static w0 ops
  exact C05_others_untouched (C09_reach h0 ops) (closed_wf h0 ops) (hd.ne_self hx) (hd.ne_pool hxp)
    (hd.pool_ne_self hp) hy (hd.ne_self hys) (hd.ne_pool hyp)

/-- `x = 2` (the buyer) and the bystander `y = 5` in the sample deployment; and the theorem
    applied: 5's 30 coins of denom 1 and 77 units of token 50 are where they were after 2's
    withdrawal in the state after eight operations -/
example : (2 : Nat) ≠ AcctEx.w0.self ∧ (2 : Nat) ≠ AcctEx.w0.pool ∧ AcctEx.w0.pool ≠ AcctEx.w0.self ∧
    (5 : Nat) ≠ 2 ∧ (5 : Nat) ≠ AcctEx.w0.self ∧ (5 : Nat) ≠ AcctEx.w0.pool := by decide
example : Untouched (run AcctEx.w0 (AcctEx.ops.take 8))
    (step (run AcctEx.w0 (AcctEx.ops.take 8)) (.exec 2 [] (.withdrawPurchased 3))).1 5 :=
  (C05_others_untouched_reach (w0 := AcctEx.w0) rfl (AcctEx.ops.take 8) (x := 2) (y := 5)
    (by decide) (by decide) (by decide) (by decide) (by decide) (by decide)).2.2.2.2.2 3
example : lget (step (run AcctEx.w0 (AcctEx.ops.take 8)) (.exec 2 [] (.withdrawPurchased 3))).1.bank (5, 1)
      = 30 ∧
    lget (step (run AcctEx.w0 (AcctEx.ops.take 8)) (.exec 2 [] (.withdrawPurchased 3))).1.cw20 (50, 5)
      = 77 := by decide +kernel

#print axioms C05_payout_delete_reach
#print axioms C05_payout_purchased_reach
#print axioms C05_payout_reach
#print axioms C05_refund_no_fee_reach
#print axioms C05_others_untouched_reach

end Fuzion
