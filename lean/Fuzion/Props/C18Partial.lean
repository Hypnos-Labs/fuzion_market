/-
  Fuzion.Props.C18Partial — what a forged receive call still CANNOT do.

  Property text (C18): "A third-party contract cannot alter or freeze someone else's escrow."
  The full property is FALSE of the code (defect D5; `Props/C18.lean` proves its negation with a
  reachable witness): the CW20 / CW721 receive hooks cannot authenticate the sender a calling
  contract names, so any contract can top up another wallet's bucket or listing in preparation
  with an asset of its own that later refuses to move.

  This file proves the limits of that attack.  A *forged call* is
  `execute m env caller [] (.receive sender amount inner)` or `(.receiveNft sender tid inner)`
  made directly by a contract `caller` (honest tokens reach the hooks only through `Op.send20` /
  `Op.send721`, where the named sender is the real depositor).  The bounds assume the id invariant
  `IdsInv` (Inv/MInv.lean; preserved by every message, `C09_inv_execute`): one record of the NAMED
  sender is written, a bucket or a listing still in preparation, and it gains an entry keyed by the
  CALLER's own address and loses nothing; nothing is paid out; only a contract can forge.
-/
import Fuzion.Lemmas.ForgeLemmas
import Fuzion.Props.C18
namespace Fuzion

/-! ### the CW20 hook -/

/-- "A third-party contract cannot alter … someone else's escrow" — the part that holds for a
    forged CW20 hook call: in every record the only thing that can differ is the amount of the
    caller's own token. -/
theorem C18_partial_receive {m m' : Market} {env : Env} {caller : Nat} {sender : RawAddr}
    {amount : Nat} {inner : Option Inner} {out : List OutMsg} (hI : IdsInv m)
    (h : receive m env caller [] sender amount inner = .ok (m', out)) :
    out = [] ∧ ∃ user, sender = .valid user ∧
      m'.feeKind = m.feeKind ∧ m'.feeSince = m.feeSince ∧ m'.registry = m.registry ∧
      (∀ i ∈ m.listingUsed, i ∈ m'.listingUsed) ∧ (∀ i ∈ m.bucketUsed, i ∈ m'.bucketUsed) ∧
      -- other wallets' records
      (∀ k : Nat × Nat, k.1 ≠ user →
        alookup k m'.listings = alookup k m.listings ∧ alookup k m'.buckets = alookup k m.buckets) ∧
      -- ONE record
      (∃ k0 : Nat × Nat, k0.1 = user ∧
        (∀ k, k ≠ k0 → alookup k m'.listings = alookup k m.listings ∧
          alookup k m'.buckets = alookup k m.buckets) ∧
        (m'.listings = m.listings ∨ m'.buckets = m.buckets)) ∧
      -- every existing listing
      (∀ k l, alookup k m.listings = some l → ∃ l', alookup k m'.listings = some l' ∧
        (l.status ≠ .preparing → l' = l) ∧
        l'.creator = l.creator ∧ l'.id = l.id ∧ l'.status = l.status ∧ l'.ask = l.ask ∧
        l'.whitelist = l.whitelist ∧ l'.claimant = l.claimant ∧ l'.finalizedAt = l.finalizedAt ∧
        l'.expiresAt = l.expiresAt ∧ l'.fee = l.fee ∧ l'.forSale.native = l.forSale.native ∧
        l'.forSale.nfts = l.forSale.nfts ∧
        (∀ t, t ≠ caller → coinAmt l'.forSale.cw20 t = coinAmt l.forSale.cw20 t) ∧
        coinAmt l.forSale.cw20 caller ≤ coinAmt l'.forSale.cw20 caller ∧
        (l' = l ∨ coinAmt l'.forSale.cw20 caller = coinAmt l.forSale.cw20 caller + amount)) ∧
      -- every existing bucket
      (∀ k b, alookup k m.buckets = some b → ∃ b', alookup k m'.buckets = some b' ∧
        b'.owner = b.owner ∧ b'.fee = b.fee ∧ b'.funds.native = b.funds.native ∧
        b'.funds.nfts = b.funds.nfts ∧
        (∀ t, t ≠ caller → coinAmt b'.funds.cw20 t = coinAmt b.funds.cw20 t) ∧
        coinAmt b.funds.cw20 caller ≤ coinAmt b'.funds.cw20 caller ∧
        (b' = b ∨ coinAmt b'.funds.cw20 caller = coinAmt b.funds.cw20 caller + amount)) := by
  obtain ⟨_, _, ho, user, hs, hc⟩ := receive_hook h
  obtain ⟨c1, c2, c3, c4, c5⟩ := hc.cfg
  refine ⟨ho, user, hs, c1, c2, c3, c4, c5, hc.others, hc.one, fun k l hl => ?_, fun k b hb => ?_⟩
  · refine hc.listing_ext hI hl ⟨rfl, rfl, fun _ _ => rfl, Nat.le_refl _, .inl rfl⟩ fun nf ht => ?_
    obtain ⟨g1, g2, g3, g4⟩ := addTokens_cw20_confined ht
    exact ⟨g1, g2, g3, g4 ▸ Nat.le_add_right .., .inr g4⟩
  · refine hc.bucket_ext hb ⟨rfl, rfl, fun _ _ => rfl, Nat.le_refl _, .inl rfl⟩ fun nf ht => ?_
    obtain ⟨g1, g2, g3, g4⟩ := addTokens_cw20_confined ht
    exact ⟨g1, g2, g3, g4 ▸ Nat.le_add_right .., .inr g4⟩

/-- the marketplace record and environment of the witness state of `Props/C18.lean`: victim 1
    has bucket 3 and the listing in preparation 5; contract 6 is hostile -/
def c18Mkt : Market := (run c18World c18Setup).mkt
def c18Env : Env := (run c18World c18Setup).env

theorem c18Mkt_eq : c18Mkt = c18State.mkt := congrArg World.mkt c18State_eq
theorem c18Env_eq : c18Env = c18State.env := congrArg World.env c18State_eq

theorem c18Mkt_ids : IdsInv c18Mkt := by
  rw [c18Mkt_eq]; constructor <;> decide

/-- the forged top-ups of the victim's bucket are accepted -/
theorem c18_receive_ok :
    ∃ r, receive c18Mkt c18Env 6 [] (.valid 1) 5 (some (.addToBucket 3)) = .ok r := by
  rw [c18Mkt_eq, c18Env_eq]; exact ⟨_, rfl⟩
theorem c18_receiveNft_ok :
    ∃ r, receiveNft c18Mkt c18Env 6 [] (.valid 1) 1 (some (.addToBucket 3)) = .ok r := by
  rw [c18Mkt_eq, c18Env_eq]; exact ⟨_, rfl⟩

example : IdsInv c18Mkt ∧
    (∃ r, receive c18Mkt c18Env 6 [] (.valid 1) 5 (some (.addToBucket 3)) = .ok r) ∧
    (∃ r, receive c18Mkt c18Env 6 [] (.valid 1) 5 (some (.addToListing 5)) = .ok r) ∧
    (∃ r, receive c18Mkt c18Env 6 [] (.valid 1) 5
      (some (.createListing 8 ⟨⟨[⟨0, 1⟩], [], []⟩, none⟩)) = .ok r) := by
  refine ⟨c18Mkt_ids, c18_receive_ok, ?_, ?_⟩ <;> rw [c18Mkt_eq, c18Env_eq] <;> exact ⟨_, rfl⟩

/-- "`Create*` inner messages create a fresh record and alter none" (CW20 hook).  That existing
    records are not altered by a creation is part of `C18_partial_receive`: one key is written, and
    here it is the new one. -/
theorem C18_partial_receive_created {m m' : Market} {env : Env} {caller : Nat} {sender : RawAddr}
    {amount : Nat} {inner : Option Inner} {out : List OutMsg}
    (h : receive m env caller [] sender amount inner = .ok (m', out)) :
    ∃ user, sender = .valid user ∧
      (∀ k l', alookup k m.listings = none → alookup k m'.listings = some l' →
        k.1 = user ∧ k.2 ∉ m.listingUsed ∧ k.2 ∈ m'.listingUsed ∧ l'.creator = user ∧ l'.id = k.2 ∧
        l'.status = .preparing ∧ l'.claimant = none ∧ l'.fee = none ∧
        l'.forSale = ⟨[], [⟨caller, amount⟩], []⟩) ∧
      (∀ k b', alookup k m.buckets = none → alookup k m'.buckets = some b' →
        k.1 = user ∧ k.2 ∉ m.bucketUsed ∧ k.2 ∈ m'.bucketUsed ∧
        b' = ⟨user, ⟨[], [⟨caller, amount⟩], []⟩, none⟩) := by
  obtain ⟨_, _, _, user, hs, hc⟩ := receive_hook h
  -- `fromBalance (.cw20 c)` is `⟨[], [c], []⟩` by definition
  exact ⟨user, hs, fun k l' h1 h2 => hc.new_listing h1 h2, fun k b' h1 h2 => hc.new_bucket h1 h2⟩

example : ∃ r, receive c18Mkt c18Env 6 [] (.valid 1) 5 (some (.createBucket 8)) = .ok r := by
  rw [c18Mkt_eq, c18Env_eq]; exact ⟨_, rfl⟩

/-! ### the CW721 hook -/

/-- The analogue for a forged CW721 hook call: the only thing that can differ is one appended NFT
    of the caller's own collection. -/
theorem C18_partial_receiveNft {m m' : Market} {env : Env} {caller : Nat} {sender : RawAddr}
    {tid : Nat} {inner : Option Inner} {out : List OutMsg} (hI : IdsInv m)
    (h : receiveNft m env caller [] sender tid inner = .ok (m', out)) :
    out = [] ∧ ∃ user, sender = .valid user ∧
      m'.feeKind = m.feeKind ∧ m'.feeSince = m.feeSince ∧ m'.registry = m.registry ∧
      (∀ i ∈ m.listingUsed, i ∈ m'.listingUsed) ∧ (∀ i ∈ m.bucketUsed, i ∈ m'.bucketUsed) ∧
      (∀ k : Nat × Nat, k.1 ≠ user →
        alookup k m'.listings = alookup k m.listings ∧ alookup k m'.buckets = alookup k m.buckets) ∧
      (∃ k0 : Nat × Nat, k0.1 = user ∧
        (∀ k, k ≠ k0 → alookup k m'.listings = alookup k m.listings ∧
          alookup k m'.buckets = alookup k m.buckets) ∧
        (m'.listings = m.listings ∨ m'.buckets = m.buckets)) ∧
      (∀ k l, alookup k m.listings = some l → ∃ l', alookup k m'.listings = some l' ∧
        (l.status ≠ .preparing → l' = l) ∧
        l'.creator = l.creator ∧ l'.id = l.id ∧ l'.status = l.status ∧ l'.ask = l.ask ∧
        l'.whitelist = l.whitelist ∧ l'.claimant = l.claimant ∧ l'.finalizedAt = l.finalizedAt ∧
        l'.expiresAt = l.expiresAt ∧ l'.fee = l.fee ∧ l'.forSale.native = l.forSale.native ∧
        l'.forSale.cw20 = l.forSale.cw20 ∧
        (l' = l ∨ l'.forSale.nfts = l.forSale.nfts ++ [⟨caller, tid⟩])) ∧
      (∀ k b, alookup k m.buckets = some b → ∃ b', alookup k m'.buckets = some b' ∧
        b'.owner = b.owner ∧ b'.fee = b.fee ∧ b'.funds.native = b.funds.native ∧
        b'.funds.cw20 = b.funds.cw20 ∧
        (b' = b ∨ b'.funds.nfts = b.funds.nfts ++ [⟨caller, tid⟩])) := by
  obtain ⟨_, _, ho, user, hs, hc⟩ := receiveNft_hook h
  obtain ⟨c1, c2, c3, c4, c5⟩ := hc.cfg
  refine ⟨ho, user, hs, c1, c2, c3, c4, c5, hc.others, hc.one, fun k l hl => ?_, fun k b hb => ?_⟩
  · exact hc.listing_ext hI hl ⟨rfl, rfl, .inl rfl⟩ fun nf ht => ht ▸ ⟨rfl, rfl, .inr rfl⟩
  · exact hc.bucket_ext hb ⟨rfl, rfl, .inl rfl⟩ fun nf ht => ht ▸ ⟨rfl, rfl, .inr rfl⟩

example : IdsInv c18Mkt ∧
    (∃ r, receiveNft c18Mkt c18Env 6 [] (.valid 1) 1 (some (.addToBucket 3)) = .ok r) ∧
    (∃ r, receiveNft c18Mkt c18Env 6 [] (.valid 1) 1 (some (.addToListing 5)) = .ok r) := by
  refine ⟨c18Mkt_ids, c18_receiveNft_ok, ?_⟩; rw [c18Mkt_eq, c18Env_eq]; exact ⟨_, rfl⟩

/-- "`Create*` inner messages create a fresh record and alter none" (CW721 hook). -/
theorem C18_partial_receiveNft_created {m m' : Market} {env : Env} {caller : Nat}
    {sender : RawAddr} {tid : Nat} {inner : Option Inner} {out : List OutMsg}
    (h : receiveNft m env caller [] sender tid inner = .ok (m', out)) :
    ∃ user, sender = .valid user ∧
      (∀ k l', alookup k m.listings = none → alookup k m'.listings = some l' →
        k.1 = user ∧ k.2 ∉ m.listingUsed ∧ k.2 ∈ m'.listingUsed ∧ l'.creator = user ∧ l'.id = k.2 ∧
        l'.status = .preparing ∧ l'.claimant = none ∧ l'.fee = none ∧
        l'.forSale = ⟨[], [], [⟨caller, tid⟩]⟩) ∧
      (∀ k b', alookup k m.buckets = none → alookup k m'.buckets = some b' →
        k.1 = user ∧ k.2 ∉ m.bucketUsed ∧ k.2 ∈ m'.bucketUsed ∧
        b' = ⟨user, ⟨[], [], [⟨caller, tid⟩]⟩, none⟩) := by
  obtain ⟨_, _, _, user, hs, hc⟩ := receiveNft_hook h
  exact ⟨user, hs, fun k l' h1 h2 => hc.new_listing h1 h2, fun k b' h1 h2 => hc.new_bucket h1 h2⟩

example : ∃ r, receiveNft c18Mkt c18Env 6 [] (.valid 1) 1 (some (.createBucket 8)) = .ok r := by
  rw [c18Mkt_eq, c18Env_eq]; exact ⟨_, rfl⟩

/-! ### who can call the hooks at all -/

/-- "an account cannot forge at all, and a contract that does not answer `TokenInfo` cannot use
    the CW20 hook"; neither hook may carry coins. -/
theorem C18_partial_gate {m : Market} {env : Env} {caller : Nat} {funds : List Coin}
    {sender : RawAddr} {x : Nat} {inner : Option Inner} {r : Market × List OutMsg} :
    (receive m env caller funds sender x inner = .ok r → env.isToken20 caller = true ∧ funds = []) ∧
    (receiveNft m env caller funds sender x inner = .ok r →
      env.isContract caller = true ∧ funds = []) := by
  obtain ⟨m', out⟩ := r
  constructor
  · intro h
    obtain ⟨h1, h2, _⟩ := receive_hook h
    exact ⟨h2, h1⟩
  · intro h
    obtain ⟨h1, h2, _⟩ := receiveNft_hook h
    exact ⟨h2, h1⟩

example : (∃ r, receive c18Mkt c18Env 6 [] (.valid 1) 5 (some (.addToBucket 3)) = .ok r) ∧
    (∃ r, receiveNft c18Mkt c18Env 6 [] (.valid 1) 1 (some (.addToBucket 3)) = .ok r) :=
  ⟨c18_receive_ok, c18_receiveNft_ok⟩

/-- the gate at world level, in terms of the chain's contract table -/
theorem C18_partial_gate_world (w : World) (caller : Nat) (funds : List Coin) (sender : RawAddr)
    (x : Nat) (inner : Option Inner) :
    ((step w (.exec caller funds (.receive sender x inner))).2.ok = true →
      funds = [] ∧ ∃ ci, w.kindOf caller = some ci ∧ ci.tokenInfo = true) ∧
    ((step w (.exec caller funds (.receiveNft sender x inner))).2.ok = true →
      funds = [] ∧ (w.kindOf caller).isSome = true) := by
  constructor
  · intro hok
    rcases forged_step_cases w caller funds sender x inner with ⟨e, hs⟩ | ⟨hf, m', hx, _⟩
    · rw [hs] at hok; cases hok
    · exact ⟨hf, env_isToken20_iff.1 (receive_hook hx).2.1⟩
  · intro hok
    rcases forged_step_cases_nft w caller funds sender x inner with ⟨e, hs⟩ | ⟨hf, m', hx, _⟩
    · rw [hs] at hok; cases hok
    · exact ⟨hf, (receiveNft_hook hx).2.1⟩

example : (step (run c18World c18Setup) forge20Bucket).2.ok = true ∧
    (step (run c18World c18Setup) forge721Bucket).2.ok = true := by
  rw [c18State_eq]; decide

/-! ### no other asset changes -/

/-- "no asset is removed … only an entry of the caller's own token address is added" as totals
    over all records. -/
theorem C18_partial_honest_assets {m m' : Market} {env : Env} {caller : Nat} {sender : RawAddr}
    {amount : Nat} {inner : Option Inner} {out : List OutMsg} (hI : IdsInv m)
    (h : receive m env caller [] sender amount inner = .ok (m', out)) :
    (∀ d, owedNative m' d = owedNative m d) ∧ (∀ d, pendingFee m' d = pendingFee m d) ∧
    (∀ t, t ≠ caller → owedCw20 m' t = owedCw20 m t) := by
  obtain ⟨_, _, user, im, _, e⟩ := receive_effect h
  obtain ⟨rfl, f⟩ := e.depositFlow hI
  -- nothing is paid out and a CW20 deposit brings no native coin: the terms added on both sides of
  -- the accounting identities are `0` by evaluation
  refine ⟨f.acctFunds.native, f.pending, fun t ht => ?_⟩
  have := f.acctFunds.cw20 t
  rwa [show inCw20 (.cw20 ⟨caller, amount⟩) t = 0 from if_neg fun e => ht e.symm] at this

example : IdsInv c18Mkt ∧
    (∃ r, receive c18Mkt c18Env 6 [] (.valid 1) 5 (some (.addToBucket 3)) = .ok r) :=
  ⟨c18Mkt_ids, c18_receive_ok⟩

theorem C18_partial_honest_assets_nft {m m' : Market} {env : Env} {caller : Nat}
    {sender : RawAddr} {tid : Nat} {inner : Option Inner} {out : List OutMsg} (hI : IdsInv m)
    (h : receiveNft m env caller [] sender tid inner = .ok (m', out)) :
    (∀ d, owedNative m' d = owedNative m d) ∧ (∀ d, pendingFee m' d = pendingFee m d) ∧
    (∀ t, owedCw20 m' t = owedCw20 m t) := by
  obtain ⟨_, _, user, im, _, e⟩ := receiveNft_effect h
  obtain ⟨rfl, f⟩ := e.depositFlow hI
  exact ⟨f.acctNft.native, f.pending, f.acctNft.cw20⟩

example : IdsInv c18Mkt ∧
    (∃ r, receiveNft c18Mkt c18Env 6 [] (.valid 1) 1 (some (.addToBucket 3)) = .ok r) :=
  ⟨c18Mkt_ids, c18_receiveNft_ok⟩

/-- what the forged calls DO inflate, exactly: a forged CW20 hook call raises the total recorded
    for the caller's own token address by exactly `amount` and leaves the recorded NFTs (as a
    multiset) as they were; a forged CW721 hook call adds exactly the NFT `⟨caller, tid⟩` of the
    caller's own collection to the recorded NFTs.  (The marketplace holds neither: this is the
    accounting gap behind the known finding D5, confined to assets of the caller's own address.) -/
theorem C18_partial_own_asset {m m' : Market} {env : Env} {caller : Nat} {sender : RawAddr}
    {x : Nat} {inner : Option Inner} {out : List OutMsg} (hI : IdsInv m) :
    (receive m env caller [] sender x inner = .ok (m', out) →
      owedCw20 m' caller = owedCw20 m caller + x ∧ (recordedNfts m').Perm (recordedNfts m)) ∧
    (receiveNft m env caller [] sender x inner = .ok (m', out) →
      (recordedNfts m').Perm (⟨caller, x⟩ :: recordedNfts m)) := by
  constructor
  · intro h
    obtain ⟨_, _, user, im, _, e⟩ := receive_effect h
    obtain ⟨rfl, f⟩ := e.depositFlow hI
    have hc := f.acctFunds.cw20 caller
    -- `Acct.nft` carries the NFTs sent and brought in as appended lists: both are `[]` here
    have hn : (recordedNfts m' ++ []).Perm (recordedNfts m ++ []) := f.acctFunds.nft
    rw [show inCw20 (.cw20 ⟨caller, x⟩) caller = x from if_pos rfl] at hc
    rw [List.append_nil, List.append_nil] at hn
    exact ⟨hc, hn⟩
  · intro h
    obtain ⟨_, _, user, im, _, e⟩ := receiveNft_effect h
    obtain ⟨rfl, f⟩ := e.depositFlow hI
    have hn : (recordedNfts m' ++ []).Perm (recordedNfts m ++ [(⟨caller, x⟩ : Nft)]) := f.acctNft.nft
    rw [List.append_nil] at hn
    exact hn.trans (List.perm_append_singleton ..)

example : IdsInv c18Mkt ∧
    (∃ r, receive c18Mkt c18Env 6 [] (.valid 1) 5 (some (.addToBucket 3)) = .ok r) ∧
    (∃ r, receiveNft c18Mkt c18Env 6 [] (.valid 1) 5 (some (.addToBucket 3)) = .ok r) := by
  refine ⟨c18Mkt_ids, c18_receive_ok, ?_⟩; rw [c18Mkt_eq, c18Env_eq]; exact ⟨_, rfl⟩

/-! ### world level -/

/-- A forged hook call as a transaction changes the marketplace record only. -/
theorem C18_partial_step (w : World) (caller : Nat) (sender : RawAddr) (amount : Nat)
    (inner : Option Inner) :
    ((step w (.exec caller [] (.receive sender amount inner))).2.ok = false ∧
      (step w (.exec caller [] (.receive sender amount inner))).1 = w) ∨
    (∃ m', receive w.mkt w.env caller [] sender amount inner = .ok (m', []) ∧
      step w (.exec caller [] (.receive sender amount inner)) =
        ({ w with mkt := m' }, ⟨true, none, []⟩)) := by
  rcases forged_step_cases w caller [] sender amount inner with ⟨e, hs⟩ | ⟨_, h⟩
  · rw [hs]; exact .inl ⟨rfl, rfl⟩
  · exact .inr h

theorem C18_partial_step_nft (w : World) (caller : Nat) (sender : RawAddr) (tid : Nat)
    (inner : Option Inner) :
    ((step w (.exec caller [] (.receiveNft sender tid inner))).2.ok = false ∧
      (step w (.exec caller [] (.receiveNft sender tid inner))).1 = w) ∨
    (∃ m', receiveNft w.mkt w.env caller [] sender tid inner = .ok (m', []) ∧
      step w (.exec caller [] (.receiveNft sender tid inner)) =
        ({ w with mkt := m' }, ⟨true, none, []⟩)) := by
  rcases forged_step_cases_nft w caller [] sender tid inner with ⟨e, hs⟩ | ⟨_, h⟩
  · rw [hs]; exact .inl ⟨rfl, rfl⟩
  · exact .inr h

theorem C18_partial_ledgers (w : World) (caller : Nat) (sender : RawAddr) (x : Nat)
    (inner : Option Inner) (op : Op)
    (hop : op = .exec caller [] (.receive sender x inner) ∨
      op = .exec caller [] (.receiveNft sender x inner)) :
    (step w op).1 = { w with mkt := (step w op).1.mkt } ∧
    (step w op).1.bank = w.bank ∧ (step w op).1.cw20 = w.cw20 ∧ (step w op).1.nft = w.nft ∧
    (step w op).1.reg = w.reg ∧ (step w op).1.contracts = w.contracts ∧
    (step w op).2.msgs = [] := by
  rcases hop with rfl | rfl
  · rcases forged_step_cases w caller [] sender x inner with ⟨e, hs⟩ | ⟨_, m', _, hs⟩ <;> rw [hs] <;>
      exact ⟨rfl, rfl, rfl, rfl, rfl, rfl, rfl⟩
  · rcases forged_step_cases_nft w caller [] sender x inner with ⟨e, hs⟩ | ⟨_, m', _, hs⟩ <;> rw [hs] <;>
      exact ⟨rfl, rfl, rfl, rfl, rfl, rfl, rfl⟩

example : forge20Bucket = .exec 6 [] (.receive (.valid 1) 5 (some (.addToBucket 3))) ∧
    forge721Bucket = .exec 6 [] (.receiveNft (.valid 1) 1 (some (.addToBucket 3))) ∧
    (step (run c18World c18Setup) forge20Bucket).2.ok = true ∧
    (step (run c18World c18Setup) forge721Bucket).2.ok = true := by
  rw [c18State_eq]; decide

#print axioms C18_partial_receive
#print axioms C18_partial_receive_created
#print axioms C18_partial_receiveNft
#print axioms C18_partial_receiveNft_created
#print axioms C18_partial_gate
#print axioms C18_partial_gate_world
#print axioms C18_partial_honest_assets
#print axioms C18_partial_honest_assets_nft
#print axioms C18_partial_own_asset
#print axioms C18_partial_step
#print axioms C18_partial_step_nft
#print axioms C18_partial_ledgers
#print axioms c18Mkt_ids
#print axioms c18Mkt_eq
#print axioms c18Env_eq
#print axioms c18_receive_ok
#print axioms c18_receiveNft_ok

end Fuzion
