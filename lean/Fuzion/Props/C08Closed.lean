/-
  Fuzion.Props.C08Closed — the run-level immutability theorem `C08_run_monotone` with the
  preservation of `IdsInv` discharged by C09.
-/
import Fuzion.Props.C08
import Fuzion.Props.C09
namespace Fuzion

theorem C08_run_monotone_closed {w : World} {lid : Nat} {k : Nat × Nat} {l : Listing}
    (hI : IdsInv w.mkt) (hfind : findById lid w.mkt.listings = some (k, l))
    (hst : l.status ≠ .preparing) (ops : List Op) :
    findById lid (run w ops).mkt.listings = none ∨
    ∃ k' l', findById lid (run w ops).mkt.listings = some (k', l') ∧ l'.status ≠ .preparing ∧
      l'.ask = l.ask ∧ l'.whitelist = l.whitelist ∧ l'.expiresAt = l.expiresAt ∧
      l'.finalizedAt = l.finalizedAt ∧ statusRank' l.status ≤ statusRank' l'.status :=
  C08_run_monotone (fun _ _ _ _ _ _ _ hi h => C09_inv_execute hi h) hI hfind hst ops

#print axioms C08_run_monotone_closed
end Fuzion
