/-
  Fuzion.Props.C16Closed — C16 ("Queries report exactly what is stored and what is purchasable")
  for every state reached from a freshly instantiated marketplace.

  Props/C16.lean proves the query theorems for market records with unique storage keys, every
  listing filed under `(creator, id)`, well-formed listings (`wfListing`) and — for the fee query —
  a fee stamp that does not saturate.  Here these are discharged for `(run w0 ops).mkt` with
  `w0.mkt = instantiate t r` and `ops` arbitrary: `C09_reach` gives the keys and the filing,
  `C12_reach` the well-formedness, `C13_no_saturation_reach` the stamp bound.

  What remains, and why:
  * `hk : (ownerBuckets m o).length ≤ 20 * k` — how many pages the caller asks for (input);
  * `hnow : TWO_WEEKS ≤ nowNs / NS` — below it the market query fails (`C16_market_none_iff`; the
    Rust's `current_time - 1_209_600` underflows — the documented assumption), and the model
    constrains neither the instantiation time nor the clock of the initial world.  The query time
    `nowNs` is a parameter of the queries and is left arbitrary; `C16_market_precise_now_reach`
    takes the block time of the reached world and asks for the two weeks on the initial world only;
  * `hlen : (marketWindow m nowNs).length ≤ 5100` — the reach of the `u8` page number: the stated
    limit of the interface, not an invariant (nothing bounds the number of listings finalized
    within two weeks); `C16_market_precise_unbounded_reach` does without it;
  * for the fee query: `ht : t ≤ w0.nowNs` and `hclk` (the block time stays within a `u64`), as in
    Props/C13Closed.lean.
-/
import Fuzion.Props.C16
import Fuzion.Props.C13Closed
namespace Fuzion

/-! ### sample reachable state for the examples

From `deployedEx` (Props/C01Closed.lean; block time 1 700 000 000.123456789 s, instantiated at
that time): account 1 lists 10 of denom 0 for 5 of denom 2, reserved for buyer 2, finalizes for
ten minutes, and opens bucket 6. -/

namespace C16CEx
def ops : List Op :=
  [ .exec 1 [⟨0, 10⟩] (.createListing 5 ⟨⟨[⟨2, 5⟩], [], []⟩, some (.valid 2)⟩),
    .exec 1 [] (.finalize 5 600),
    .exec 1 [⟨2, 10⟩] (.createBucket 6) ]
def w : World := run deployedEx ops
def lst : Listing :=
  { creator := 1, id := 5, finalizedAt := some 1700000000123456789,
    expiresAt := some 1700000600123456789, status := .finalized, claimant := none,
    whitelist := some 2, forSale := ⟨[⟨0, 10⟩], [], []⟩, ask := ⟨[⟨2, 5⟩], [], []⟩, fee := none }
theorem w_listings : w.mkt.listings = [((1, 5), lst)] := by decide
theorem w_buckets : w.mkt.buckets = [((1, 6), ⟨1, ⟨[⟨2, 10⟩], [], []⟩, none⟩)] := by decide
theorem mem_listings : ((1, 5), lst) ∈ w.mkt.listings := w_listings ▸ List.mem_cons_self ..
theorem mem_buckets : ((1, 6), ⟨1, ⟨[⟨2, 10⟩], [], []⟩, none⟩) ∈ w.mkt.buckets :=
  w_buckets ▸ List.mem_cons_self ..
theorem w_now : TWO_WEEKS ≤ w.nowNs / NS := by decide
theorem lst_purchasable : purchasable w.nowNs lst = true := by decide
end C16CEx

example : deployedEx.mkt = instantiate 1700000000123456789 (some 7) := rfl

section
variable {w0 : World} {t : Nat} {r : Option Nat}

/-- "returns each of that owner's records exactly once" (buckets), in every reachable state: the
    list that is paged for owner `o` is a permutation of `o`'s stored `(id, bucket)` pairs,
    strictly ascending by id, without duplicates, and contains no record of anyone else. -/
theorem C16_owner_exact_buckets_reach (h0 : w0.mkt = instantiate t r) (ops : List Op) (o : Nat) :
    (ownerBuckets (run w0 ops).mkt o).Perm
        (((run w0 ops).mkt.buckets.filter (fun p => decide (p.1.1 = o))).map (fun p => (p.1.2, p.2))) ∧
    (ownerBuckets (run w0 ops).mkt o).Pairwise (fun a b => a.1 ≤ b.1) ∧
    (ownerBuckets (run w0 ops).mkt o).Pairwise (fun a b => a.1 < b.1) ∧
    (ownerBuckets (run w0 ops).mkt o).Nodup ∧
    ∀ x, x ∈ ownerBuckets (run w0 ops).mkt o ↔ ((o, x.1), x.2) ∈ (run w0 ops).mkt.buckets :=
  C16_owner_exact_buckets _ o (C09_reach h0 ops).bkeys

/-- "returns each of that owner's records exactly once" (listings), in every reachable state. -/
theorem C16_owner_exact_listings_reach (h0 : w0.mkt = instantiate t r) (ops : List Op) (o : Nat) :
    (ownerListings (run w0 ops).mkt o).Perm
        (((run w0 ops).mkt.listings.filter (fun p => decide (p.1.1 = o))).map (fun p => (p.1.2, p.2))) ∧
    (ownerListings (run w0 ops).mkt o).Pairwise (fun a b => a.1 ≤ b.1) ∧
    (ownerListings (run w0 ops).mkt o).Pairwise (fun a b => a.1 < b.1) ∧
    (ownerListings (run w0 ops).mkt o).Nodup ∧
    ∀ x, x ∈ ownerListings (run w0 ops).mkt o ↔ ((o, x.1), x.2) ∈ (run w0 ops).mkt.listings :=
  C16_owner_exact_listings _ o (C09_reach h0 ops).lkeys

/-- the two theorems applied to the sample state: owner 1's bucket 6 and listing 5 are in the
    paged lists -/
example : (6, (⟨1, ⟨[⟨2, 10⟩], [], []⟩, none⟩ : Bucket)) ∈ ownerBuckets C16CEx.w.mkt 1 ∧
    (5, C16CEx.lst) ∈ ownerListings C16CEx.w.mkt 1 :=
  ⟨((C16_owner_exact_buckets_reach (w0 := deployedEx) rfl C16CEx.ops 1).2.2.2.2 _).2
      C16CEx.mem_buckets,
   ((C16_owner_exact_listings_reach (w0 := deployedEx) rfl C16CEx.ops 1).2.2.2.2 _).2
      C16CEx.mem_listings⟩

/-- `get_buckets` end to end, in every reachable state: asking pages `1..k` (with `20·k` at least
    the number of the owner's buckets — the caller's choice of `k`) and concatenating the answers
    yields each `(id, bucket)` stored under that owner exactly once and nothing else. -/
theorem C16_buckets_paging_reach (h0 : w0.mkt = instantiate t r) (ops : List Op) (o k : Nat)
    (hk : (ownerBuckets (run w0 ops).mkt o).length ≤ 20 * k) :
    let pages := (List.range k).flatMap fun i => (qBuckets (run w0 ops).mkt (.valid o) (i + 1)).getD []
    pages.Nodup ∧ ∀ x, x ∈ pages ↔ ((o, x.1), x.2) ∈ (run w0 ops).mkt.buckets :=
  C16_buckets_paging _ o k (C09_reach h0 ops).bkeys hk

/-- one page suffices for owner 1 in the sample state -/
example : (ownerBuckets C16CEx.w.mkt 1).length ≤ 20 * 1 := by
  rw [ownerBuckets, List.length_mergeSort, C16CEx.w_buckets]; decide

/-- The same for `get_listings_by_owner`; unique keys and "filed under `(creator, id)`" are both
    parts of `IdsInv`. -/
theorem C16_listings_paging_reach (h0 : w0.mkt = instantiate t r) (ops : List Op) (o k : Nat)
    (hk : (ownerListings (run w0 ops).mkt o).length ≤ 20 * k) :
    let pages := (List.range k).flatMap fun i =>
      (qListingsByOwner (run w0 ops).mkt (.valid o) (i + 1)).getD []
    pages.Nodup ∧ ∀ l, l ∈ pages ↔ ((o, l.id), l) ∈ (run w0 ops).mkt.listings :=
  C16_listings_paging _ o k (C09_reach h0 ops).lkeys (C09_reach h0 ops).lfiled hk

example : (ownerListings C16CEx.w.mkt 1).length ≤ 20 * 1 := by
  rw [ownerListings, List.length_mergeSort, C16CEx.w_listings]; decide

/-- "so a listed item is never already unpurchasable", in every reachable state. -/
theorem C16_listed_purchasable_reach (h0 : w0.mkt = instantiate t r) (ops : List Op)
    {k : Nat × Nat} {l : Listing} (hm : (k, l) ∈ (run w0 ops).mkt.listings) {nowNs : Nat}
    (hl : listable nowNs l = true) : purchasable nowNs l = true :=
  C16_listed_purchasable ((C12_reach h0 ops).lwf (k, l) hm) hl

/-- the sample listing is stored and passes the filter at the world's block time -/
example : ((1, 5), C16CEx.lst) ∈ C16CEx.w.mkt.listings ∧ listable C16CEx.w.nowNs C16CEx.lst = true :=
  ⟨C16CEx.mem_listings, purchasable_listable C16CEx.lst_purchasable⟩

/-- "The market … quer[y] return[s] precisely the listings that are finalized, unsold and
    unexpired … a listed item is never already unpurchasable" (soundness), in every reachable
    state, whatever page is asked. -/
theorem C16_market_sound_reach (h0 : w0.mkt = instantiate t r) (ops : List Op)
    {nowNs page : Nat} {res : List Listing} (hq : qMarket (run w0 ops).mkt nowNs page = some res) :
    ∀ l ∈ res, purchasable nowNs l = true ∧ ∃ k, (k, l) ∈ (run w0 ops).mkt.listings :=
  C16_market_sound (C12_reach h0 ops).lwf hq

/-- from two weeks of block time on the query is answered (`C16_market_total`) -/
example : ∃ res, qMarket C16CEx.w.mkt C16CEx.w.nowNs 1 = some res :=
  C16_market_total _ _ _ C16CEx.w_now

/-- "(for the whitelist query, those reserved for that buyer)" (soundness), in every reachable
    state. -/
theorem C16_whitelist_sound_reach (h0 : w0.mkt = instantiate t r) (ops : List Op)
    {nowNs o : Nat} {res : List Listing}
    (hq : qWhitelisted (run w0 ops).mkt nowNs (.valid o) = some res) :
    ∀ l ∈ res, purchasable nowNs l = true ∧ l.whitelist = some o ∧
      ∃ k, (k, l) ∈ (run w0 ops).mkt.listings :=
  C16_whitelist_sound (C12_reach h0 ops).lwf hq

example : ∃ res, qWhitelisted C16CEx.w.mkt C16CEx.w.nowNs (.valid 2) = some res :=
  (C16_whitelist_total _ _ _).1

/-- "return precisely the listings that are finalized, unsold and unexpired" (completeness, the
    index window), in every reachable state: a stored purchasable listing lies inside the window
    `[now_s − 1209600, ∞)` the market query scans. -/
theorem C16_market_window_reach (h0 : w0.mkt = instantiate t r) (ops : List Op) {nowNs : Nat}
    {k : Nat × Nat} {l : Listing} (hm : (k, l) ∈ (run w0 ops).mkt.listings)
    (hp : purchasable nowNs l = true) : l ∈ marketWindow (run w0 ops).mkt nowNs :=
  C16_market_window hm ((C12_reach h0 ops).lwf (k, l) hm) hp

/-- "return precisely the listings that are finalized, unsold and unexpired" (completeness), in
    every reachable state: with a block time of at least two weeks (`hnow`, see the header), every
    stored purchasable listing appears on some page `≥ 1`, that page starts inside the index
    window, and it is at most 255 if the window holds at most 5100 records. -/
theorem C16_market_complete_reach (h0 : w0.mkt = instantiate t r) (ops : List Op) {nowNs : Nat}
    {k : Nat × Nat} {l : Listing} (hnow : TWO_WEEKS ≤ nowNs / NS)
    (hm : (k, l) ∈ (run w0 ops).mkt.listings) (hp : purchasable nowNs l = true) :
    ∃ page, 1 ≤ page ∧ (page - 1) * 20 < (marketWindow (run w0 ops).mkt nowNs).length ∧
      ((marketWindow (run w0 ops).mkt nowNs).length ≤ 5100 → page ≤ 255) ∧
      ∃ res, qMarket (run w0 ops).mkt nowNs page = some res ∧ l ∈ res :=
  C16_market_complete hnow hm ((C12_reach h0 ops).lwf (k, l) hm) hp

/-- the sample listing is stored and purchasable at the world's block time, which is beyond two
    weeks -/
example : TWO_WEEKS ≤ C16CEx.w.nowNs / NS ∧ ((1, 5), C16CEx.lst) ∈ C16CEx.w.mkt.listings ∧
    purchasable C16CEx.w.nowNs C16CEx.lst = true :=
  ⟨C16CEx.w_now, C16CEx.mem_listings, C16CEx.lst_purchasable⟩
/-- … so the market query of the sample state lists it -/
example : ∃ page res, qMarket C16CEx.w.mkt C16CEx.w.nowNs page = some res ∧ C16CEx.lst ∈ res := by
  obtain ⟨page, _, _, _, res, h1, h2⟩ :=
    C16_market_complete_reach (w0 := deployedEx) rfl C16CEx.ops (nowNs := C16CEx.w.nowNs)
      C16CEx.w_now C16CEx.mem_listings C16CEx.lst_purchasable
  exact ⟨page, res, h1, h2⟩

/-- "The market … quer[y] return[s] precisely the listings that are finalized, unsold and
    unexpired", in every reachable state, with a block time of at least two weeks and an index
    window within the reach of a `u8` page number (`hlen`: the interface's limit, not an
    invariant). -/
theorem C16_market_precise_reach (h0 : w0.mkt = instantiate t r) (ops : List Op) {nowNs : Nat}
    (l : Listing) (hnow : TWO_WEEKS ≤ nowNs / NS)
    (hlen : (marketWindow (run w0 ops).mkt nowNs).length ≤ 5100) :
    (∃ page, 1 ≤ page ∧ page ≤ 255 ∧ ∃ res, qMarket (run w0 ops).mkt nowNs page = some res ∧ l ∈ res) ↔
      ∃ k, (k, l) ∈ (run w0 ops).mkt.listings ∧ purchasable nowNs l = true :=
  C16_market_precise l (C12_reach h0 ops).lwf hnow hlen

example : TWO_WEEKS ≤ C16CEx.w.nowNs / NS ∧
    (marketWindow C16CEx.w.mkt C16CEx.w.nowNs).length ≤ 5100 := by
  refine ⟨C16CEx.w_now, ?_⟩
  rw [marketWindow, List.length_map, List.length_mergeSort, C16CEx.w_listings]; decide

/-- the same over all page numbers `≥ 1`, without the `u8` bound, whatever the window's size -/
theorem C16_market_precise_unbounded_reach (h0 : w0.mkt = instantiate t r) (ops : List Op)
    {nowNs : Nat} (l : Listing) (hnow : TWO_WEEKS ≤ nowNs / NS) :
    (∃ page, 1 ≤ page ∧ ∃ res, qMarket (run w0 ops).mkt nowNs page = some res ∧ l ∈ res) ↔
      ∃ k, (k, l) ∈ (run w0 ops).mkt.listings ∧ purchasable nowNs l = true :=
  C16_market_precise_unbounded l (C12_reach h0 ops).lwf hnow

example : TWO_WEEKS ≤ C16CEx.w.nowNs / NS := C16CEx.w_now

/-- Asked at the block time of the reached world itself: it suffices that the initial world's
    block time is at least two weeks (the clock never goes back). -/
theorem C16_market_precise_now_reach (h0 : w0.mkt = instantiate t r) (ops : List Op) (l : Listing)
    (hnow0 : TWO_WEEKS ≤ w0.nowNs / NS) :
    (∃ page, 1 ≤ page ∧
      ∃ res, qMarket (run w0 ops).mkt (run w0 ops).nowNs page = some res ∧ l ∈ res) ↔
      ∃ k, (k, l) ∈ (run w0 ops).mkt.listings ∧ purchasable (run w0 ops).nowNs l = true :=
  C16_market_precise_unbounded_reach h0 ops l
    (Nat.le_trans hnow0 (Nat.div_le_div_right (closed_nowNs_mono w0 ops)))

example : TWO_WEEKS ≤ deployedEx.nowNs / NS := by decide

/-- "The … whitelist quer[y] return[s] precisely the listings that are finalized, unsold and
    unexpired (… those reserved for that buyer)", in every reachable state. -/
theorem C16_whitelist_precise_reach (h0 : w0.mkt = instantiate t r) (ops : List Op)
    {nowNs o : Nat} {res : List Listing} (l : Listing)
    (hq : qWhitelisted (run w0 ops).mkt nowNs (.valid o) = some res) :
    l ∈ res ↔ ∃ k, (k, l) ∈ (run w0 ops).mkt.listings ∧ l.whitelist = some o ∧
      purchasable nowNs l = true :=
  C16_whitelist_precise l (C12_reach h0 ops).lwf hq

/-- the theorem applied to the sample state: buyer 2's whitelist query lists listing 5 -/
example : ∃ res, qWhitelisted C16CEx.w.mkt C16CEx.w.nowNs (.valid 2) = some res ∧ C16CEx.lst ∈ res := by
  obtain ⟨res, hq⟩ := (C16_whitelist_total C16CEx.w.mkt C16CEx.w.nowNs 2).1
  exact ⟨res, hq, (C16_whitelist_precise_reach (w0 := deployedEx) rfl C16CEx.ops C16CEx.lst hq).2
    ⟨_, C16CEx.mem_listings, rfl, C16CEx.lst_purchasable⟩⟩

/-- "The fee query reports the denomination the next purchase will be charged in and a
    next-change time before which a cycle attempt is refused and after which it is accepted", in
    every reachable state of a chain whose block time is a `u64` number of nanoseconds.  `env` is
    the environment of the cycle attempt — any block time, e.g. a later one.  The no-saturation
    side condition of `C16_fee` is `C13_no_saturation_reach`. -/
theorem C16_fee_reach (h0 : w0.mkt = instantiate t r) (ht : t ≤ w0.nowNs) (ops : List Op)
    (hclk : w0.nowNs + closed_elapsed ops ≤ U64MAX) (env : Env) :
    let q := qFeeDenom (run w0 ops).mkt env
    q.denom = feeDenomOf env (run w0 ops).mkt.feeKind ∧ q.kind = (run w0 ops).mkt.feeKind ∧
    q.nextChange = (run w0 ops).mkt.feeSince + WEEK + 1 ∧
    ((∃ x, cycleFee (run w0 ops).mkt env = .ok x) ↔ env.nowNs / NS ≥ q.nextChange) :=
  C16_fee _ env (C13_no_saturation_reach h0 ht ops hclk)

/-- the hypotheses of `C16_fee_reach`, and the answer computed on the sample state -/
example : 1700000000123456789 ≤ deployedEx.nowNs ∧
    deployedEx.nowNs + closed_elapsed C16CEx.ops ≤ U64MAX ∧
    (qFeeDenom C16CEx.w.mkt C16CEx.w.env).kind = .juno ∧
    (qFeeDenom C16CEx.w.mkt C16CEx.w.env).denom = 0 ∧
    (qFeeDenom C16CEx.w.mkt C16CEx.w.env).nextChange = 1700604801 := by decide

/-- As transactions from the reached state: after waiting `dNs` nanoseconds (within the `u64`
    range), the cycle transaction of any account succeeds iff the block second has reached the
    reported next-change time. -/
theorem C16_fee_cycle_reach (h0 : w0.mkt = instantiate t r) (ht : t ≤ w0.nowNs) (ops : List Op)
    (dNs : Nat) (hclk : w0.nowNs + closed_elapsed ops + dNs ≤ U64MAX) (s : Nat) :
    (step (run w0 (ops ++ [.advance dNs 0])) (.exec s [] .feeCycle)).2.ok = true ↔
      (run w0 (ops ++ [.advance dNs 0])).nowNs / NS ≥
        (qFeeDenom (run w0 ops).mkt (run w0 ops).env).nextChange := by
  -- the reported time is `feeSince + WEEK + 1` (nothing saturates), `advance` leaves the record
  -- alone, and `≥ feeSince + WEEK + 1` is `> feeSince + WEEK`: the C13 equivalence, one operation on
  have hm : (run w0 (ops ++ [.advance dNs 0])).mkt = (run w0 ops).mkt := by rw [run_append]; rfl
  rw [(C16_fee_reach h0 ht ops (Nat.le_trans (Nat.le_add_right _ _) hclk) (run w0 ops).env).2.2.1, ← hm]
  exact C13_step_cycle_iff_reach w0 _ (by rw [closed_elapsed_append, ← Nat.add_assoc]; exact hclk) s

/-- waiting 604 801 s from the sample state stays within a `u64`; both sides occur -/
example : deployedEx.nowNs + closed_elapsed C16CEx.ops + 604801 * NS ≤ U64MAX ∧
    (step (run deployedEx (C16CEx.ops ++ [.advance (604801 * NS) 0])) (.exec 9 [] .feeCycle)).2.ok
      = true ∧
    (step (run deployedEx (C16CEx.ops ++ [.advance (604800 * NS) 0])) (.exec 9 [] .feeCycle)).2.ok
      = false := by decide +kernel

end

#print axioms C16_owner_exact_buckets_reach
#print axioms C16_owner_exact_listings_reach
#print axioms C16_buckets_paging_reach
#print axioms C16_listings_paging_reach
#print axioms C16_listed_purchasable_reach
#print axioms C16_market_sound_reach
#print axioms C16_whitelist_sound_reach
#print axioms C16_market_window_reach
#print axioms C16_market_complete_reach
#print axioms C16_market_precise_reach
#print axioms C16_market_precise_unbounded_reach
#print axioms C16_market_precise_now_reach
#print axioms C16_whitelist_precise_reach
#print axioms C16_fee_reach
#print axioms C16_fee_cycle_reach
#print axioms C16CEx.mem_listings
#print axioms C16CEx.mem_buckets
#print axioms C16CEx.w_now
#print axioms C16CEx.lst_purchasable

end Fuzion
