/-
  Fuzion.Props.Entitlement — an ABSTRACT SPECIFICATION of the marketplace, related to the model by an
  abstraction function and one refinement theorem per class of operation.

  The abstract state.  Forget ids, asks, timestamps, statuses: what matters to an account `a` is what
  the marketplace holds FOR it — the goods of every record `a` can cash out.  A record's cashing-out
  party is the field it is filed under: `Listing.creator` (the seller while unsold; `buy` overwrites it
  with the buyer and re-files the listing under the buyer's key, see `Ent_party`) and `Bucket.owner`
  (the depositor; after a sale the seller, who receives the payment as a bucket).

      entNative m a d   coins of denomination `d` held for `a`
      entCw20   m a t   amount of CW20 token `t` held for `a`
      entNfts   m a     NFTs held for `a`
      pendingFees m d   fees recorded at a sale and not yet paid to the community pool (C10)

  The abstract transitions (all relations between the abstract states of `m` and `m'`):

      EntEq   m m'            nothing changes
      EntGain m m' x X        `x` gains the assets `X`; nobody else, and no fee, changes
      EntLoss m m' x g fee    `x` loses the goods `g`, the pending fees lose `fee`; nobody else changes
      EntTrade …              a sale (see `Ent_buy`)

  Refinement: each class of message refines one transition — neutral ⟶ `EntEq`, deposit ⟶ `EntGain`,
  cash-out ⟶ `EntLoss` with exactly the messages "goods to `x`, fee to the pool", `buy` ⟶ the sale —
  about the model's real `execute` on states satisfying `IdsInv` / `WFInv`, about one `step`, and
  about `step` on every state reached from an instantiated marketplace (the invariants from
  `C09_reach` / `closed_wf`).  What an accepted deposit, neutral or cash-out message does is said
  once, about its `Effect` (`Effect.entGain`, `Effect.entEq`, `Effect.entLoss`, which name the
  account, the assets and the record); the purchase is read off `Effect.buy` (`Ent_buy`).  `EntStep`,
  whose accounts and assets are existential, comes from the five flows of records instead
  (`Flow.entStep`).  `Ent_backed` is C01 through the abstraction.

  From other property modules: `Deployed`, `C01_from_deployment` (Props/C01Closed.lean), `Op.unforged`
  (Props/C07.lean), `C06_buy_effect_reach` (Props/C06Closed.lean: the closed forms of
  `Ent_buy_closed_reach`); Props/C02World.lean only for the sample history `SummaryEx.ops` of the
  examples.  `actor` is in Lemmas/FrameLemmas.lean.
-/
import Fuzion.Lemmas.EntitlementLemmas
import Fuzion.Lemmas.FrameLemmas
import Fuzion.Props.C01Closed
import Fuzion.Props.C07
import Fuzion.Props.C06Closed
import Fuzion.Props.C02World
namespace Fuzion

/-! ## the abstraction function -/

/-- coins of denomination `d` the marketplace holds for account `a`: in the listings filed under `a`
    (its unsold listings and the listings it bought) and in the buckets owned by `a` -/
def entNative (m : Market) (a d : Nat) : Nat :=
  listingsSum (fun l => if a = l.creator then coinAmt l.forSale.native d else 0) m +
  bucketsSum (fun b => if a = b.owner then coinAmt b.funds.native d else 0) m

def entCw20 (m : Market) (a t : Nat) : Nat :=
  listingsSum (fun l => if a = l.creator then coinAmt l.forSale.cw20 t else 0) m +
  bucketsSum (fun b => if a = b.owner then coinAmt b.funds.cw20 t else 0) m

def entNfts (m : Market) (a : Nat) : List Nft :=
  m.listings.flatMap (fun p => if a = p.2.creator then p.2.forSale.nfts else []) ++
  m.buckets.flatMap (fun p => if a = p.2.owner then p.2.funds.nfts else [])

abbrev pendingFees (m : Market) (d : Nat) : Nat := pendingFee m d

/-- the accounts that have a record, each once (`owed_eq_ent` sums over a `Nodup` list) -/
def owners (m : Market) : List Nat :=
  (m.listings.map (·.2.creator) ++ m.buckets.map (·.2.owner)).eraseDups

/-- the party a listing is filed under IS its withdrawing party: on well-formed states a listing is
    stored under the key `(creator, id)`, and a claimant (buyer), if any, is the `creator` field —
    `buy` overwrites it.  So "creator for unsold, buyer for sold listings" = `Listing.creator`. -/
theorem Ent_party {j u : Nat} {m : Market} (hW : WFInv j u m) {k : Nat × Nat} {l : Listing}
    (h : (k, l) ∈ m.listings) :
    k = (l.creator, l.id) ∧ (∀ c, l.claimant = some c → c = l.creator) ∧
    (l.status = .closed → l.claimant = some l.creator) := by
  have hwf := hW.lwf (k, l) h
  exact ⟨(wfListing_iff.1 hwf).1, fun c hcl => (wfListing_claimant hwf hcl).2,
    fun hs => (wfListing_closed hwf hs).2.1⟩

/-! ### the abstraction in terms of valuations (bridge to Lemmas/EntitlementLemmas.lean) -/

theorem entNative_eq (m : Market) (a d : Nat) : entNative m a d = entV (natV d) m a := rfl
theorem entCw20_eq (m : Market) (a t : Nat) : entCw20 m a t = entV (cwV t) m a := rfl
theorem pendingFees_eq (m : Market) (d : Nat) : pendingFees m d = pendV (natV d) m := rfl

theorem count_entNfts (m : Market) (a : Nat) (n : Nft) :
    (entNfts m a).count n = entV (nftV n) m a := by
  unfold entNfts
  rw [List.count_append,
    count_flatMap_asum n (fun l : Listing => if a = l.creator then l.forSale.nfts else []),
    count_flatMap_asum n (fun b : Bucket => if a = b.owner then b.funds.nfts else [])]
  simp only [count_ite_nil]
  rfl

theorem entNfts_sub_recorded {m : Market} {a : Nat} {n : Nft} (h : n ∈ entNfts m a) :
    n ∈ recordedNfts m := by
  have := entV_add_pendV_le (nftV n) m a
  rw [owed_nftV, ← count_entNfts] at this
  exact List.count_pos_iff.1 (Nat.lt_of_lt_of_le (List.count_pos_iff.2 h) (Nat.le_of_add_right_le this))

/-- a valuation in which no fee counts has nothing pending (`cwV`, `nftV`: only native coins are
    charged a fee) -/
theorem pendV_zero {V : Val} (h : ∀ f, V.fee f = 0) (m : Market) : pendV V m = 0 := by
  simp only [pendV, wsum, h, asum_zero]

/-! ## the abstract transitions -/

structure EntEq (m m' : Market) : Prop where
  native : ∀ a d, entNative m' a d = entNative m a d
  cw20 : ∀ a t, entCw20 m' a t = entCw20 m a t
  nfts : ∀ a, (entNfts m' a).Perm (entNfts m a)
  fees : ∀ d, pendingFees m' d = pendingFees m d

structure EntGain (m m' : Market) (x : Nat) (X : GBal) : Prop where
  native : ∀ a d, entNative m' a d = entNative m a d + if a = x then coinAmt X.native d else 0
  cw20 : ∀ a t, entCw20 m' a t = entCw20 m a t + if a = x then coinAmt X.cw20 t else 0
  nfts : ∀ a, (entNfts m' a).Perm (entNfts m a ++ if a = x then X.nfts else [])
  fees : ∀ d, pendingFees m' d = pendingFees m d

structure EntLoss (m m' : Market) (x : Nat) (g : GBal) (fee : Option Coin) : Prop where
  native : ∀ a d, entNative m' a d + (if a = x then coinAmt g.native d else 0) = entNative m a d
  cw20 : ∀ a t, entCw20 m' a t + (if a = x then coinAmt g.cw20 t else 0) = entCw20 m a t
  nfts : ∀ a, (entNfts m' a ++ if a = x then g.nfts else []).Perm (entNfts m a)
  fees : ∀ d, pendingFees m' d + feeAmt fee d = pendingFees m d

theorem EntEq.refl (m : Market) : EntEq m m :=
  ⟨fun _ _ => rfl, fun _ _ => rfl, fun _ => List.Perm.refl _, fun _ => rfl⟩

/-! ### the abstract transitions from record sums

The three asset classes are the valuations `natV d`, `cwV t`, `nftV n`; an account's entitlement is
the record sum of `Val.own V a`, the pending fees that of the fee alone.  So an equation between the
record sums of `m'` and `m` that holds for every weight is read off for these. -/

section
variable {m m' : Market} {x : Nat} {g g' : GBal} {fee : Option Coin}

theorem EntEq.of_rsum (h : ∀ φ, rsum φ m' = rsum φ m) : EntEq m m' where
  native := fun a d => h ((natV d).own a)
  cw20 := fun a t => h ((cwV t).own a)
  nfts := fun a => List.perm_iff_count.2 fun n => by
    rw [count_entNfts, count_entNfts]
    exact h ((nftV n).own a)
  fees := fun d => h fun _ _ f => feeAmt f d

theorem EntGain.of_opened (h : ∀ φ, rsum φ m' = rsum φ m + φ x g none) : EntGain m m' x g where
  native := fun a d => h ((natV d).own a)
  cw20 := fun a t => h ((cwV t).own a)
  nfts := fun a => List.perm_iff_count.2 fun n => by
    rw [List.count_append, count_entNfts, count_entNfts, count_ite_nil]
    exact h ((nftV n).own a)
  fees := fun d => h fun _ _ f => feeAmt f d

theorem EntGain.of_toppedUp {a : Asset} (hg : a.addTo g = some g')
    (h : ∀ φ, rsum φ m' + φ x g fee = rsum φ m + φ x g' fee) : EntGain m m' x a.bal where
  native := fun y d => entV_toppedUp ((natV_ok d).bal_addTo hg) h y
  cw20 := fun y t => entV_toppedUp ((cwV_ok t).bal_addTo hg) h y
  nfts := fun y => List.perm_iff_count.2 fun n => by
    rw [List.count_append, count_entNfts, count_entNfts, count_ite_nil]
    exact entV_toppedUp ((nftV_ok n).bal_addTo hg) h y
  fees := fun d => Nat.add_right_cancel (h fun _ _ f => feeAmt f d)

theorem EntLoss.of_rsum (h : ∀ φ, rsum φ m' + φ x g fee = rsum φ m) : EntLoss m m' x g fee where
  native := fun a d => h ((natV d).own a)
  cw20 := fun a t => h ((cwV t).own a)
  nfts := fun a => List.perm_iff_count.2 fun n => by
    rw [List.count_append, count_entNfts, count_entNfts, count_ite_nil]
    exact h ((nftV n).own a)
  fees := fun d => h fun _ _ f => feeAmt f d

theorem EntLoss.self (h : EntLoss m m' x g fee) :
    (∀ d, entNative m' x d + coinAmt g.native d = entNative m x d) ∧
    (∀ t, entCw20 m' x t + coinAmt g.cw20 t = entCw20 m x t) ∧
    (entNfts m' x ++ g.nfts).Perm (entNfts m x) := by
  refine ⟨fun d => ?_, fun t => ?_, ?_⟩
  · have := h.native x d
    rwa [if_pos rfl] at this
  · have := h.cw20 x t
    rwa [if_pos rfl] at this
  · have := h.nfts x
    rwa [if_pos rfl] at this

theorem EntLoss.other (h : EntLoss m m' x g fee) {y : Nat} (hy : y ≠ x) :
    (∀ d, entNative m' y d = entNative m y d) ∧ (∀ t, entCw20 m' y t = entCw20 m y t) ∧
    (entNfts m' y).Perm (entNfts m y) := by
  refine ⟨fun d => ?_, fun t => ?_, ?_⟩
  · have := h.native y d
    rwa [if_neg hy, Nat.add_zero] at this
  · have := h.cw20 y t
    rwa [if_neg hy, Nat.add_zero] at this
  · have := h.nfts y
    rwa [if_neg hy, List.append_nil] at this

end

section
variable {m m' : Market} {env : Env} {out : List OutMsg} {j u : Nat}
  {s : Nat} {f : List Coin} {msg : ExecMsg}

/-! ## the classes of messages, and what an accepted message of each class does -/

/-- the messages that move no asset: finalize, re-price, switch the fee denomination -/
def ExecMsg.isNeutral : ExecMsg → Bool
  | .finalize .. | .changeAsk .. | .feeCycle => true
  | _ => false

/-- the three cash-out messages -/
def ExecMsg.isWithdraw : ExecMsg → Bool
  | .removeBucket .. | .deleteListing .. | .withdrawPurchased .. => true
  | _ => false

theorem exitMsg_isWithdraw (l : Listing) : l.exitMsg.isWithdraw = true := by
  unfold Listing.exitMsg
  cases l.status <;> rfl

/-- the record a cash-out message of `x` is about, its goods `g` and its pending fee `fee`: a bucket
    owned by `x`; an unsold listing of `x` (which never carries a fee); a listing `x` bought -/
def WdRecord (m : Market) (x : Nat) : ExecMsg → GBal → Option Coin → Prop
  | .removeBucket id, g, fee =>
    ∃ b, alookup (x, id) m.buckets = some b ∧ b.owner = x ∧ g = b.funds ∧ fee = b.fee
  | .deleteListing id, g, fee =>
    ∃ l, alookup (x, id) m.listings = some l ∧ l.creator = x ∧ l.claimant = none ∧
      g = l.forSale ∧ fee = l.fee ∧ fee = none
  | .withdrawPurchased id, g, fee =>
    ∃ l, alookup (x, id) m.listings = some l ∧ l.creator = x ∧ l.claimant = some x ∧
      l.status = .closed ∧ g = l.forSale ∧ fee = l.fee
  | _, _, _ => False

/-! What an accepted message does to entitlements, by the class of the message: deposit, neutral,
cash-out; with the purchase (`Ent_buy`) these are all (`ExecMsg.classes`, below). -/

/-- a deposit flow files a new record of `u` holding the asset or tops one of `u`'s records up
    with it -/
theorem Flow.entGain {u : Nat} {a : Asset} {sale : Option (Nat × Nat)}
    (f : Flow m env u m' (some a) sale out) : EntGain m m' u a.bal := by
  cases f with
  | opened hφ => exact .of_opened hφ
  | toppedUp hnf hφ => exact .of_toppedUp hnf hφ

theorem Effect.entGain {u : Nat} {a : Asset} {im : Inner} (hI : IdsInv m)
    (e : Effect m env u a im.toExec m' out) : out = [] ∧ EntGain m m' u a.bal :=
  let ⟨ho, f⟩ := e.depositFlow hI
  ⟨ho, f.entGain⟩

/-- an accepted neutral message rewrites fields that hold no asset -/
theorem Effect.entEq {u : Nat} {a : Asset} (hI : IdsInv m) (e : Effect m env u a msg m' out)
    (hn : msg.isNeutral = true) : out = [] ∧ EntEq m m' := by
  induction e with
  | changeAsk hl | finalize hl =>
    exact ⟨rfl, .of_rsum fun φ => Nat.add_right_cancel (rsum_setListing φ hI hl _)⟩
  | feeCycle => exact ⟨rfl, .of_rsum fun φ => rfl⟩
  | _ => cases hn

/-- an accepted cash-out message erases a record of `u` -/
theorem Effect.entLoss {u : Nat} {a : Asset} {j k : Nat} (hI : IdsInv m) (hW : WFInv j k m)
    (e : Effect m env u a msg m' out) (hw : msg.isWithdraw = true) :
    ∃ g fee, WdRecord m u msg g fee ∧ out = withdrawMsgs env.self u g fee ∧ EntLoss m m' u g fee := by
  induction e with
  | @removeBucket id b hb ho =>
    subst ho
    exact ⟨_, _, ⟨b, hb, rfl, rfl, rfl⟩, rfl, .of_rsum fun φ => rsum_eraseBucket φ hI hb⟩
  | @deleteListing id l hl ho hcl =>
    subst ho
    have hfee := wfListing_fee_none (hW.listing hl) hcl
    refine ⟨_, _, ⟨l, hl, rfl, hcl, rfl, rfl, hfee⟩, ?_, .of_rsum fun φ => rsum_eraseListing φ hI hl⟩
    rw [hfee]
    exact (List.append_nil _).symm
  | @withdrawPurchased lid k l hl hcl hst =>
    obtain ⟨rfl, _, hlk⟩ := hI.findById_key hl
    obtain rfl := (wfListing_claimant (hW.listing hlk) hcl).2
    exact ⟨_, _, ⟨l, hlk, rfl, hcl, hst, rfl, rfl⟩, rfl, .of_rsum fun φ => rsum_eraseListing φ hI hlk⟩
  | _ => cases hw

/-- an operation that is no marketplace call (registry message, admin change, clock) or carries a
    neutral message -/
def Op.isNeutral (op : Op) : Bool :=
  match op.asExec with
  | none => true
  | some (_, _, msg) => msg.isNeutral

/-- an accepted `finalize`, `changeAsk` or `feeCycle` emits no message and leaves every account's
    entitlement and the pending fees unchanged -/
theorem Ent_neutral (hI : IdsInv m) (hn : msg.isNeutral = true)
    (h : execute m env s f msg = .ok (m', out)) : out = [] ∧ EntEq m m' := by
  rcases execute_effect_cases h with ⟨_, _, _, rfl, _⟩ | ⟨_, _, _, rfl, _⟩ | e
  · cases hn
  · cases hn
  · exact e.entEq hI hn

/-- non-vacuity: the owner (account 7) of the preparing listing 5 of the sample market of Props/C12.lean
    re-prices it -/
example : IdsInv C12Ex.mkt ∧ ExecMsg.isNeutral (.changeAsk 5 ⟨[⟨2, 1⟩], [], []⟩) = true ∧
    ∃ r, execute C12Ex.mkt C12Ex.env 7 [] (.changeAsk 5 ⟨[⟨2, 1⟩], [], []⟩) = .ok r := by
  refine ⟨by constructor <;> decide, rfl, _, rfl⟩

/-- a transaction that is no marketplace call, or carries a neutral message, or fails (any operation
    whatsoever), leaves every entitlement and the pending fees unchanged -/
theorem Ent_neutral_step {w : World} (hI : IdsInv w.mkt) (op : Op)
    (hn : op.isNeutral = true ∨ (step w op).2.ok = false) : EntEq w.mkt (step w op).1.mkt := by
  unfold step at hn ⊢
  rcases stepF_mkt_cases noFault w op with ⟨hm, _⟩ | ⟨c, fu, mg, ho, hok, hx, _⟩
  · rw [hm]; exact .refl _
  · rcases hn with hn | hn
    · simp only [Op.isNeutral, ho] at hn
      exact (Ent_neutral hI hn hx).2
    · cases hok.symm.trans hn

/-- = `Ent_neutral_step` at every reached state; `IdsInv` from `C09_reach` -/
theorem Ent_neutral_reach {w0 : World} {t : Nat} {r : Option Nat} (h0 : w0.mkt = instantiate t r)
    (ops : List Op) (op : Op)
    (hn : op.isNeutral = true ∨ (step (run w0 ops) op).2.ok = false) :
    EntEq (run w0 ops).mkt (step (run w0 ops) op).1.mkt :=
  Ent_neutral_step (C09_reach h0 ops) op hn

/-- non-vacuity: after the first three operations of the sample history the finalization is a neutral
    operation and is accepted; a registry update is neutral; a second finalization fails -/
example : AcctEx.w0.mkt = instantiate 0 (some 102) ∧
    Op.isNeutral (.exec 1 [] (.finalize 3 600)) = true ∧
    (step (run AcctEx.w0 (AcctEx.ops.take 3)) (.exec 1 [] (.finalize 3 600))).2.ok = true ∧
    Op.isNeutral (.royalty 4 (.update (.valid 60) (some (.valid 6)) none)) = true ∧
    (step (run AcctEx.w0 (AcctEx.ops.take 4)) (.exec 1 [] (.finalize 3 600))).2.ok = false :=
  ⟨rfl, by decide +kernel⟩

/-- the assets a marketplace call brings in: the attached coins of a direct deposit message, the
    calling token contract's own token for a `Receive` hook, the calling collection's NFT for a
    `ReceiveNft` hook -/
def msgAssets (caller : Nat) (funds : List Coin) : ExecMsg → GBal
  | .receive _ amount _ => ⟨[], [⟨caller, amount⟩], []⟩
  | .receiveNft _ tid _ => ⟨[], [], [⟨caller, tid⟩]⟩
  | _ => ⟨funds, [], []⟩

/-- an accepted deposit message — create / add to a listing or bucket, with attached coins, through
    a CW20 `Receive` hook or a CW721 `ReceiveNft` hook — emits no message, raises the entitlement of
    the account it acts for (`actor`: the sender of a direct message, the wallet the hook names) by
    exactly the assets it carries, and changes nobody else's entitlement and no pending fee -/
theorem Ent_deposit (hI : IdsInv m) (hk : msg.takesCoins = true)
    (h : execute m env s f msg = .ok (m', out)) :
    out = [] ∧ EntGain m m' (actor msg s) (msgAssets s f msg) := by
  rcases execute_effect_cases h with ⟨u, _, im, rfl, e⟩ | ⟨u, _, im, rfl, e⟩ | e
  -- in each case `actor` and `msgAssets` compute to the wallet and the asset of the effect (`rfl`)
  · exact e.entGain hI
  · exact e.entGain hI
  · cases msg with
    | createListing id c => exact Effect.entGain (im := .createListing id c) hI e
    | addToListing id => exact Effect.entGain (im := .addToListing id) hI e
    | createBucket id => exact Effect.entGain (im := .createBucket id) hI e
    | addToBucket id => exact Effect.entGain (im := .addToBucket id) hI e
    | receive | receiveNft => cases e
    | _ => cases hk

/-- non-vacuity: the sample deposits of Props/C01.lean (coins, CW20 hook, NFT hook) -/
example : IdsInv AcctEx.mkt ∧
    (∃ r, execute AcctEx.mkt AcctEx.env0 5 [⟨1, 30⟩, ⟨2, 1⟩] (.createBucket 9) = .ok r) ∧
    (∃ r, execute AcctEx.mkt AcctEx.env0 50 [] (.receive (.valid 5) 77 (some (.createBucket 9))) = .ok r) ∧
    (∃ r, execute AcctEx.mkt AcctEx.env0 60 [] (.receiveNft (.valid 2) 11 (some (.addToBucket 8))) = .ok r) :=
  ⟨AcctEx.ids, ⟨_, rfl⟩, ⟨_, rfl⟩, ⟨_, rfl⟩⟩

/-- a deposit operation: a marketplace call whose message may carry assets -/
def Op.isDeposit (op : Op) : Bool :=
  match op.asExec with
  | none => false
  | some (_, _, msg) => msg.takesCoins

/-- the assets a deposit operation carries: the attached coins, the amount of a CW20 `Send`, the NFT
    of a `SendNft` -/
def Op.carried (op : Op) : GBal :=
  match op.asExec with
  | none => GBal.empty
  | some (c, fu, msg) => msgAssets c fu msg

example (i : Option Inner) : (Op.send20 50 2 400 i).carried = ⟨[], [⟨50, 400⟩], []⟩ ∧
    (Op.send721 60 2 7 i).carried = ⟨[], [], [⟨60, 7⟩]⟩ ∧
    (Op.exec 2 [⟨1, 5⟩] (.createBucket 8)).carried = ⟨[⟨1, 5⟩], [], []⟩ := ⟨rfl, rfl, rfl⟩

theorem actor_unforged {op : Op} {c : Nat} {fu : List Coin} {mg : ExecMsg}
    (ho : op.asExec = some (c, fu, mg)) (hu : op.unforged) : actor mg c = op.sender := by
  cases op with
  | exec s f m =>
    cases ho
    cases mg with
    | receive | receiveNft => exact hu.elim
    | _ => rfl
  | send20 | send721 => cases ho; rfl
  | _ => cases ho

/-- a successful, un-forged deposit transaction signed by `x` — direct message with coins, CW20
    `Send`, CW721 `SendNft` — raises `x`'s entitlement by exactly the assets the operation carries
    and changes nobody else's entitlement and no pending fee -/
theorem Ent_deposit_step {w : World} (hI : IdsInv w.mkt) {op : Op} (hd : op.isDeposit = true)
    (hu : op.unforged) (hok : (step w op).2.ok = true) :
    (step w op).2.msgs = [] ∧ EntGain w.mkt (step w op).1.mkt op.sender op.carried := by
  cases ho : op.asExec with
  | none => rw [Op.isDeposit, ho] at hd; cases hd
  | some tr =>
    obtain ⟨c, fu, mg⟩ := tr
    simp only [Op.isDeposit, ho] at hd
    have h := Ent_deposit hI hd (stepF_ok_execute ho hok).1
    rw [actor_unforged ho hu] at h
    simpa only [step, Op.carried, ho] using h

/-- = `Ent_deposit_step` at every reached state; `IdsInv` from `C09_reach` -/
theorem Ent_deposit_reach {w0 : World} {t : Nat} {r : Option Nat} (h0 : w0.mkt = instantiate t r)
    (ops : List Op) {op : Op} (hd : op.isDeposit = true) (hu : op.unforged)
    (hok : (step (run w0 ops) op).2.ok = true) :
    (step (run w0 ops) op).2.msgs = [] ∧
    EntGain (run w0 ops).mkt (step (run w0 ops) op).1.mkt op.sender op.carried :=
  Ent_deposit_step (C09_reach h0 ops) hd hu hok

/-- non-vacuity: the three deposit paths of the sample history (coins, CW20 `Send`, `SendNft`) are
    un-forged deposit operations and are accepted in the states in which they occur -/
example : AcctEx.w0.mkt = instantiate 0 (some 102) ∧
    (∀ k ∈ [0, 1, 2, 4], (AcctEx.ops[k]!).isDeposit = true ∧ (AcctEx.ops[k]!).unforged ∧
      (step (run AcctEx.w0 (AcctEx.ops.take k)) AcctEx.ops[k]!).2.ok = true) :=
  ⟨rfl, by decide +kernel⟩

/-- what the message list "goods `g` to `x`, then `fee` to the pool" pays, per asset class -/
theorem Ent_withdraw_msgs (self x : Nat) (g : GBal) (fee : Option Coin) :
    withdrawMsgs self x g fee =
      sendTokens x g ++ (match fee with | none => [] | some c => [OutMsg.fundPool self c]) ∧
    (∀ d, paidNative (withdrawMsgs self x g fee) d = coinAmt g.native d + feeAmt fee d) ∧
    (∀ d, poolPaid (withdrawMsgs self x g fee) d = feeAmt fee d) ∧
    (∀ t, paidCw20 (withdrawMsgs self x g fee) t = coinAmt g.cw20 t) ∧
    sentNfts (withdrawMsgs self x g fee) = g.nfts :=
  ⟨rfl, paidNative_withdrawMsgs self x g fee, poolPaid_withdrawMsgs self x g fee,
   paidCw20_withdrawMsgs self x g fee, sentNfts_withdrawMsgs self x g fee⟩

/-- an accepted `removeBucket` / `deleteListing` / `withdrawPurchased` of `x` is about a record
    filed under `x` (`WdRecord`), emits exactly the messages "the record's goods to `x`, its pending
    fee to the pool" (`withdrawMsgs`, itemised by `Ent_withdraw_msgs`), lowers `x`'s entitlement by
    exactly those goods and the pending fees by exactly that fee, and changes nobody else's
    entitlement -/
theorem Ent_withdraw (hI : IdsInv m) (hW : WFInv j u m) (hw : msg.isWithdraw = true)
    (h : execute m env s f msg = .ok (m', out)) :
    ∃ g fee, WdRecord m s msg g fee ∧ out = withdrawMsgs env.self s g fee ∧ EntLoss m m' s g fee := by
  rcases execute_effect_cases h with ⟨_, _, _, rfl, _⟩ | ⟨_, _, _, rfl, _⟩ | e
  · cases hw
  · cases hw
  · exact e.entLoss hI hW hw

/-- non-vacuity: in the sample market of Props/C01.lean account 2 can remove its bucket 8 -/
example : IdsInv AcctEx.mkt ∧ WFInv 1 2 AcctEx.mkt ∧
    ∃ r, execute AcctEx.mkt AcctEx.env0 2 [] (.removeBucket 8) = .ok r :=
  ⟨AcctEx.ids, AcctEx.wf, _, rfl⟩

/-- = `Ent_withdraw` for an accepted transaction of `x` -/
theorem Ent_withdraw_step {w : World} (hI : IdsInv w.mkt) (hW : WFInv w.junoD w.usdcD w.mkt)
    {x : Nat} {fu : List Coin} {mg : ExecMsg} (hw : mg.isWithdraw = true)
    (hok : (step w (.exec x fu mg)).2.ok = true) :
    ∃ g fee, WdRecord w.mkt x mg g fee ∧
      (step w (.exec x fu mg)).2.msgs = withdrawMsgs w.self x g fee ∧
      EntLoss w.mkt (step w (.exec x fu mg)).1.mkt x g fee :=
  Ent_withdraw hI hW hw (stepF_ok_execute (op := .exec x fu mg) rfl hok).1

/-- = `Ent_withdraw_step` at every reached state; `IdsInv` from `C09_reach`, `WFInv` from `closed_wf` -/
theorem Ent_withdraw_reach {w0 : World} {t : Nat} {r : Option Nat} (h0 : w0.mkt = instantiate t r)
    (ops : List Op) {x : Nat} {fu : List Coin} {mg : ExecMsg} (hw : mg.isWithdraw = true)
    (hok : (step (run w0 ops) (.exec x fu mg)).2.ok = true) :
    ∃ g fee, WdRecord (run w0 ops).mkt x mg g fee ∧
      (step (run w0 ops) (.exec x fu mg)).2.msgs = withdrawMsgs (run w0 ops).self x g fee ∧
      EntLoss (run w0 ops).mkt (step (run w0 ops) (.exec x fu mg)).1.mkt x g fee :=
  Ent_withdraw_step (C09_reach h0 ops) (closed_wf h0 ops) hw hok

/-- non-vacuity: the two withdrawals of the sample history (the buyer withdraws the purchased goods
    with their pending fee, the seller removes the bucket holding the payment) are accepted -/
example : AcctEx.w0.mkt = instantiate 0 (some 102) ∧
    (step (run AcctEx.w0 (AcctEx.ops.take 8)) (.exec 2 [] (.withdrawPurchased 3))).2.ok = true ∧
    (step (run AcctEx.w0 (AcctEx.ops.take 9)) (.exec 1 [] (.removeBucket 8))).2.ok = true ∧
    (step (run AcctEx.w0 (AcctEx.ops.take 8)) (.exec 2 [] (.withdrawPurchased 3))).2.msgs =
      withdrawMsgs 100 2 ⟨[⟨1, 995⟩], [⟨50, 400⟩], [⟨60, 7⟩]⟩ (some ⟨1, 5⟩) :=
  ⟨rfl, by decide +kernel⟩

end

/-! ## C01 through the abstraction -/

def totalNative (m : Market) (d : Nat) : Nat := ((owners m).map (fun a => entNative m a d)).sum
def totalCw20 (m : Market) (t : Nat) : Nat := ((owners m).map (fun a => entCw20 m a t)).sum
def allEntNfts (m : Market) : List Nft := (owners m).flatMap (entNfts m)

theorem owners_nodup (m : Market) : (owners m).Nodup := nodup_eraseDups _

theorem mem_owners {m : Market} {a : Nat} :
    a ∈ owners m ↔ (∃ p ∈ m.listings, p.2.creator = a) ∨ ∃ p ∈ m.buckets, p.2.owner = a := by
  unfold owners
  rw [List.mem_eraseDups, List.mem_append, List.mem_map, List.mem_map]

/-- the obligations of C01 (`owedNative`, `owedCw20`, `recordedNfts`: everything the records promise)
    are the sum over accounts of their entitlements, plus the pending fees — on EVERY state, no
    invariant needed -/
theorem Ent_owed (m : Market) :
    (∀ d, owedNative m d = totalNative m d + pendingFees m d) ∧
    (∀ t, owedCw20 m t = totalCw20 m t) ∧
    (recordedNfts m).Perm (allEntNfts m) := by
  have key := fun V : Val => owed_eq_ent V m (owners_nodup m) (fun p h => mem_owners.2 (.inl ⟨p, h, rfl⟩))
    (fun p h => mem_owners.2 (.inr ⟨p, h, rfl⟩))
  refine ⟨fun d => ?_, fun t => ?_, List.perm_iff_count.2 fun n => ?_⟩
  · rw [← owed_natV]; exact key (natV d)
  · have := key (cwV t)
    rw [pendV_zero (fun _ => rfl), Nat.add_zero, owed_cwV] at this
    exact this
  · have := key (nftV n)
    rw [pendV_zero (fun _ => rfl), Nat.add_zero, owed_nftV] at this
    rw [this]
    unfold allEntNfts
    rw [List.count_flatMap]
    exact congrArg (fun f => ((owners m).map f).sum) (funext fun a => (count_entNfts m a n).symm)

/-- `Backed w` (C01: holdings = obligations) says exactly: for every denomination the marketplace's
    bank balance is Σ over accounts of their native entitlements + the pending fees; for every honest
    CW20 token its token balance is Σ over accounts of their entitlements; and the honest NFTs it owns
    are exactly the NFTs held for some account, each held once -/
theorem Ent_backed_iff (w : World) :
    Backed w ↔
      (∀ d, lget w.bank (w.self, d) = totalNative w.mkt d + pendingFees w.mkt d) ∧
      (∀ t, w.isHonest20 t = true → lget w.cw20 (t, w.self) = totalCw20 w.mkt t) ∧
      ((allEntNfts w.mkt).filter (fun n => w.isHonest721 n.coll)).Nodup ∧
      (∀ n : Nft, w.isHonest721 n.coll = true →
        ((∃ a ∈ owners w.mkt, n ∈ entNfts w.mkt a) ↔ alookup (n.coll, n.tid) w.nft = some w.self)) := by
  obtain ⟨e1, e2, e3⟩ := Ent_owed w.mkt
  have hmem : ∀ n, (∃ a ∈ owners w.mkt, n ∈ entNfts w.mkt a) ↔ n ∈ recordedNfts w.mkt := by
    intro n
    rw [e3.mem_iff]
    unfold allEntNfts
    rw [List.mem_flatMap]
  have hnd := (e3.filter (fun n => w.isHonest721 n.coll)).nodup_iff
  constructor
  · rintro ⟨h1, h2, h3, h4⟩
    exact ⟨fun d => by rw [h1 d, e1], fun t ht => by rw [h2 t ht, e2], hnd.1 h3,
      fun n hn => (hmem n).trans (h4 n hn)⟩
  · rintro ⟨h1, h2, h3, h4⟩
    exact ⟨fun d => by rw [h1 d, e1], fun t ht => by rw [h2 t ht, e2], hnd.2 h3,
      fun n hn => (hmem n).symm.trans (h4 n hn)⟩

/-- **C01 through the abstraction, for every history from a deployment**: after any list of
    operations not signed by the marketplace in which no honest token forges a hook call, the
    marketplace's holdings are the sum over accounts of their entitlements plus the pending fees -/
theorem Ent_backed {w0 : World} (hd : Deployed w0) (ops : List Op)
    (hops : ∀ op ∈ ops, op.avoids w0.self ∧ op.honest w0) :
    (∀ d, lget (run w0 ops).bank ((run w0 ops).self, d) =
      totalNative (run w0 ops).mkt d + pendingFees (run w0 ops).mkt d) ∧
    (∀ t, (run w0 ops).isHonest20 t = true →
      lget (run w0 ops).cw20 (t, (run w0 ops).self) = totalCw20 (run w0 ops).mkt t) ∧
    ((allEntNfts (run w0 ops).mkt).filter (fun n => (run w0 ops).isHonest721 n.coll)).Nodup ∧
    (∀ n : Nft, (run w0 ops).isHonest721 n.coll = true →
      ((∃ a ∈ owners (run w0 ops).mkt, n ∈ entNfts (run w0 ops).mkt a) ↔
        alookup (n.coll, n.tid) (run w0 ops).nft = some (run w0 ops).self)) :=
  (Ent_backed_iff _).1 (C01_from_deployment hd ops hops)

/-- non-vacuity: the history of Props/Summary.lean from the concrete deployment; before its last
    operation account 1 is entitled to the goods it bought from itself (10 − fee 0 of denom 0) and to
    the payment (10 of denom 2) -/
example : Deployed deployedEx ∧
    (∀ op ∈ SummaryEx.ops, op.avoids deployedEx.self ∧ op.honest deployedEx) ∧
    owners (run deployedEx (SummaryEx.ops.take 6)).mkt = [1] ∧
    entNative (run deployedEx (SummaryEx.ops.take 6)).mkt 1 0 = 10 ∧
    entNative (run deployedEx (SummaryEx.ops.take 6)).mkt 1 2 = 10 :=
  ⟨C02WEx.deployedEx_ok, by decide +kernel⟩

/-- … and in the richer sample history of Props/C01.lean, right after the purchase: the buyer (2) is
    entitled to the goods minus the fee (995 of denom 1, 400 of token 50, the NFT), the seller (1) to
    the payment minus the royalty (1950 of denom 2), and 5 of denom 1 are pending for the pool -/
example : owners (run AcctEx.w0 (AcctEx.ops.take 7)).mkt = [2, 1] ∧
    entNative (run AcctEx.w0 (AcctEx.ops.take 7)).mkt 2 1 = 995 ∧
    entCw20 (run AcctEx.w0 (AcctEx.ops.take 7)).mkt 2 50 = 400 ∧
    entNfts (run AcctEx.w0 (AcctEx.ops.take 7)).mkt 2 = [⟨60, 7⟩] ∧
    entNative (run AcctEx.w0 (AcctEx.ops.take 7)).mkt 1 2 = 1950 ∧
    pendingFees (run AcctEx.w0 (AcctEx.ops.take 7)).mkt 1 = 5 ∧
    totalNative (run AcctEx.w0 (AcctEx.ops.take 7)).mkt 1 = 995 := by decide +kernel

/-- the abstract sale: the seller's entitlement loses the goods and gains the (reduced) payment
    `pay'`; the buyer's loses the payment `pay` and gains the (reduced) goods `goods'`; third parties
    are unchanged; of the pending fees the paying bucket's old fee `oldFee` leaves (it is paid out by
    the purchase) and the two new fees `lfee`, `bfee` enter -/
structure EntTrade (m m' : Market) (seller buyer : Nat) (goods pay goods' pay' : GBal)
    (oldFee lfee bfee : Option Coin) : Prop where
  native : ∀ a d, entNative m' a d + (if a = seller then coinAmt goods.native d else 0) +
      (if a = buyer then coinAmt pay.native d else 0) =
    entNative m a d + (if a = buyer then coinAmt goods'.native d else 0) +
      (if a = seller then coinAmt pay'.native d else 0)
  cw20 : ∀ a t, entCw20 m' a t + (if a = seller then coinAmt goods.cw20 t else 0) +
      (if a = buyer then coinAmt pay.cw20 t else 0) =
    entCw20 m a t + (if a = buyer then coinAmt goods'.cw20 t else 0) +
      (if a = seller then coinAmt pay'.cw20 t else 0)
  nfts : ∀ a, (entNfts m' a ++ (if a = seller then goods.nfts else []) ++
      (if a = buyer then pay.nfts else [])).Perm
    (entNfts m a ++ (if a = buyer then goods'.nfts else []) ++ (if a = seller then pay'.nfts else []))
  fees : ∀ d, pendingFees m' d + feeAmt oldFee d = pendingFees m d + feeAmt lfee d + feeAmt bfee d

theorem EntTrade.of_rsum {m m' : Market} {seller buyer : Nat} {goods pay goods' pay' : GBal}
    {oldFee lfee bfee : Option Coin}
    (h : ∀ φ, rsum φ m' + φ seller goods none + φ buyer pay oldFee =
      rsum φ m + φ buyer goods' lfee + φ seller pay' bfee) :
    EntTrade m m' seller buyer goods pay goods' pay' oldFee lfee bfee where
  native := fun a d => h ((natV d).own a)
  cw20 := fun a t => h ((cwV t).own a)
  nfts := fun a => List.perm_iff_count.2 fun n => by
    simp only [List.count_append, count_entNfts, count_ite_nil]
    exact h ((nftV n).own a)
  fees := fun d => h fun _ _ f => feeAmt f d

/-- an accepted `buy` of listing `lid` with bucket `bid` takes the finalized listing `l` (goods
    `l.forSale`, seller `l.creator`) and the buyer's bucket `b`, re-files the goods under the buyer
    as `l'` and the payment under the seller as `b'`, and
    * what the buyer gets + the fee recorded on the goods + the royalties `roy2` paid from the goods
      = the goods, per denomination and token; the NFTs are all passed on; likewise for the payment
      with `roy1` — so each party gains "the other side − fee − royalties";
    * entitlements move as `EntTrade`: third parties unchanged, pending fees grow by exactly the two
      new fees (and lose the old fee of the paying bucket, which is the first emitted message);
    * the emitted messages are that old fee, then `roy1`, then `roy2`.
    The closed forms of the fees (`feeOf`) and royalties (`royaltyOn`) are `C06_buy_effect`; see
    `Ent_buy_closed_reach`. -/
theorem Ent_buy {m m' : Market} {env : Env} {out : List OutMsg} {j u buyer lid bid : Nat}
    (hI : IdsInv m) (hW : WFInv j u m) (h : buy m env buyer lid bid = .ok (m', out)) :
    ∃ l b l' b' roy1 roy2,
      alookup (l.creator, lid) m.listings = some l ∧ alookup (buyer, bid) m.buckets = some b ∧
      b.owner = buyer ∧ l.status = .finalized ∧
      alookup (buyer, lid) m'.listings = some l' ∧ alookup (l.creator, bid) m'.buckets = some b' ∧
      l'.creator = buyer ∧ l'.claimant = some buyer ∧ l'.status = .closed ∧ b'.owner = l.creator ∧
      out = feeMsg env.self b.fee ++ roy1 ++ roy2 ∧
      (∀ d, coinAmt l'.forSale.native d + feeAmt l'.fee d + paidNative roy2 d =
        coinAmt l.forSale.native d) ∧
      (∀ t, coinAmt l'.forSale.cw20 t + paidCw20 roy2 t = coinAmt l.forSale.cw20 t) ∧
      l'.forSale.nfts = l.forSale.nfts ∧
      (∀ d, coinAmt b'.funds.native d + feeAmt b'.fee d + paidNative roy1 d =
        coinAmt b.funds.native d) ∧
      (∀ t, coinAmt b'.funds.cw20 t + paidCw20 roy1 t = coinAmt b.funds.cw20 t) ∧
      b'.funds.nfts = b.funds.nfts ∧
      EntTrade m m' l.creator buyer l.forSale b.funds l'.forSale b'.funds b.fee l'.fee b'.fee := by
  cases buy_effect (a := .funds (.native [])) h with
  | @buy _ _ k l b lfee bfee lbal bbal fb fl ra s1 s2 msgs1 msgs2 hb hl ho hcmp hst hwl hcl hexp hlfee
      hbfee hra hr1 hr2 =>
  obtain ⟨rfl, _, hlk⟩ := hI.findById_key hl
  have nl := (wfBal_keys (wfListing_iff.1 (hW.listing hlk)).2.1).1
  have nb := (wfBal_keys (wfBucket_iff.1 (hW.bucket hb)).2.1).1
  obtain ⟨gn, gc, gf⟩ := tradeSide_acct nl hlfee hr2
  obtain ⟨pn, pc, pf⟩ := tradeSide_acct nb hbfee hr1
  exact ⟨l, b, _, _, msgs1, msgs2, hlk, hb, ho, hst, alookup_ainsert_self _ _ _,
    alookup_ainsert_self _ _ _, rfl, rfl, rfl, rfl, by rw [feeMsg_eq_pendingFeeMsgs],
    gn, gc, gf, pn, pc, pf, .of_rsum fun φ => rsum_sold φ hI hW hlk hb ho hst fl fb lfee bfee⟩

/-- non-vacuity: the sample purchase of Props/C01.lean -/
example : IdsInv AcctEx.mkt ∧ WFInv 1 2 AcctEx.mkt ∧ ∃ r, buy AcctEx.mkt AcctEx.env0 2 3 8 = .ok r :=
  ⟨AcctEx.ids, AcctEx.wf, _, rfl⟩

/-- = `Ent_buy` for an accepted `buy` transaction at every reached state; `IdsInv` from `C09_reach`,
    `WFInv` from `closed_wf` -/
theorem Ent_buy_reach {w0 : World} {t : Nat} {r : Option Nat} (h0 : w0.mkt = instantiate t r)
    (ops : List Op) {buyer lid bid : Nat} {fu : List Coin}
    (hok : (step (run w0 ops) (.exec buyer fu (.buy lid bid))).2.ok = true) :
    ∃ l b l' b' roy1 roy2,
      alookup (l.creator, lid) (run w0 ops).mkt.listings = some l ∧
      alookup (buyer, bid) (run w0 ops).mkt.buckets = some b ∧
      alookup (buyer, lid) (step (run w0 ops) (.exec buyer fu (.buy lid bid))).1.mkt.listings = some l' ∧
      alookup (l.creator, bid) (step (run w0 ops) (.exec buyer fu (.buy lid bid))).1.mkt.buckets
        = some b' ∧
      (step (run w0 ops) (.exec buyer fu (.buy lid bid))).2.msgs =
        feeMsg (run w0 ops).self b.fee ++ roy1 ++ roy2 ∧
      (∀ d, coinAmt l'.forSale.native d + feeAmt l'.fee d + paidNative roy2 d =
        coinAmt l.forSale.native d) ∧
      (∀ t, coinAmt l'.forSale.cw20 t + paidCw20 roy2 t = coinAmt l.forSale.cw20 t) ∧
      l'.forSale.nfts = l.forSale.nfts ∧
      (∀ d, coinAmt b'.funds.native d + feeAmt b'.fee d + paidNative roy1 d =
        coinAmt b.funds.native d) ∧
      (∀ t, coinAmt b'.funds.cw20 t + paidCw20 roy1 t = coinAmt b.funds.cw20 t) ∧
      b'.funds.nfts = b.funds.nfts ∧
      EntTrade (run w0 ops).mkt (step (run w0 ops) (.exec buyer fu (.buy lid bid))).1.mkt
        l.creator buyer l.forSale b.funds l'.forSale b'.funds b.fee l'.fee b'.fee := by
  -- of `Ent_buy`: the four lookups and everything from the messages on; the owner, status, creator and
  -- claimant fields in between are dropped
  obtain ⟨l, b, l', b', roy1, roy2, h1, h2, _, _, h3, h4, _, _, _, _, h5⟩ :=
    Ent_buy (C09_reach h0 ops) (closed_wf h0 ops) (step_buy_ok hok).1
  exact ⟨l, b, l', b', roy1, roy2, h1, h2, h3, h4, h5⟩

/-- non-vacuity: the purchase of the sample history is accepted in the state in which it occurs -/
example : AcctEx.w0.mkt = instantiate 0 (some 102) ∧
    (step (run AcctEx.w0 (AcctEx.ops.take 6)) (.exec 2 [] (.buy 3 8))).2.ok = true := ⟨rfl, by decide +kernel⟩

/-- the purchase in closed form (from deployment; the operations of the history carry `Uint128`
    amounts, `Op.fits128`): with `fd` the fee denomination in force, `feeOf` the 0.5 % fee,
    `afterFeeAmt` the amount after the fee and `royaltyOn … x` the royalty total on `x` (the
    declarative trade cost of C06, Lemmas/TradeLemmas.lean),
    * the seller's entitlement loses the goods and gains payment − fee − royalties of the seller's
      collections; the buyer's loses the payment and gains goods − fee − royalties of the buyer's
      collections; CW20 amounts carry no fee; third parties are unchanged;
    * the pending fees lose the paying bucket's old fee and gain exactly the two new fees. -/
theorem Ent_buy_closed_reach {w0 : World} {t : Nat} {r : Option Nat} (h0 : w0.mkt = instantiate t r)
    (ops : List Op) (hfit : ∀ op ∈ ops, op.fits128) {buyer lid bid fd : Nat} {fu : List Coin}
    (hfd : fd = feeDenomOf (run w0 ops).env (run w0 ops).mkt.feeKind)
    (hok : (step (run w0 ops) (.exec buyer fu (.buy lid bid))).2.ok = true) :
    ∃ l b,
      alookup (l.creator, lid) (run w0 ops).mkt.listings = some l ∧
      alookup (buyer, bid) (run w0 ops).mkt.buckets = some b ∧
      (∀ a d, entNative (step (run w0 ops) (.exec buyer fu (.buy lid bid))).1.mkt a d +
          (if a = l.creator then coinAmt l.forSale.native d else 0) +
          (if a = buyer then coinAmt b.funds.native d else 0) =
        entNative (run w0 ops).mkt a d +
          (if a = buyer then afterFeeAmt fd l.forSale d -
            royaltyOn (sideEntries (run w0 ops).env b.funds) (afterFeeAmt fd l.forSale d) else 0) +
          (if a = l.creator then afterFeeAmt fd b.funds d -
            royaltyOn (sideEntries (run w0 ops).env l.forSale) (afterFeeAmt fd b.funds d) else 0)) ∧
      (∀ a k, entCw20 (step (run w0 ops) (.exec buyer fu (.buy lid bid))).1.mkt a k +
          (if a = l.creator then coinAmt l.forSale.cw20 k else 0) +
          (if a = buyer then coinAmt b.funds.cw20 k else 0) =
        entCw20 (run w0 ops).mkt a k +
          (if a = buyer then coinAmt l.forSale.cw20 k -
            royaltyOn (sideEntries (run w0 ops).env b.funds) (coinAmt l.forSale.cw20 k) else 0) +
          (if a = l.creator then coinAmt b.funds.cw20 k -
            royaltyOn (sideEntries (run w0 ops).env l.forSale) (coinAmt b.funds.cw20 k) else 0)) ∧
      (∀ a, (entNfts (step (run w0 ops) (.exec buyer fu (.buy lid bid))).1.mkt a ++
          (if a = l.creator then l.forSale.nfts else []) ++ (if a = buyer then b.funds.nfts else [])).Perm
        (entNfts (run w0 ops).mkt a ++ (if a = buyer then l.forSale.nfts else []) ++
          (if a = l.creator then b.funds.nfts else []))) ∧
      (∀ d, pendingFees (step (run w0 ops) (.exec buyer fu (.buy lid bid))).1.mkt d + feeAmt b.fee d =
        pendingFees (run w0 ops).mkt d + feeAmt (feeOf fd l.forSale) d + feeAmt (feeOf fd b.funds) d) := by
  have hb := (step_buy_ok hok).1
  have hI := C09_reach h0 ops
  -- of `Ent_buy`: the four lookups, that both sides pass their NFTs on (`n1`, `n2`), and `EntTrade`
  obtain ⟨l, b, l', b', _, _, h1, h2, -, -, h3, h4, -, -, -, -, -, -, -, n1, -, -, n2, hT⟩ :=
    Ent_buy hI (closed_wf h0 ops) hb
  -- of `C06_buy_effect_reach`: its four lookups, (a) the fees `fb`, `fl`, (b) the amounts in closed form
  obtain ⟨l2, b2, l2', b2', g1, g2, g3, g4, fb, fl, cb, cbc, cl, clc, -⟩ :=
    C06_buy_effect_reach h0 ops hfit hfd hb
  -- both name their records by lookup: ids are unique, so the two listings, hence all four, coincide
  obtain rfl := (Prod.mk.inj (Option.some.inj
    ((hI.findById_of_alookup g1).1.symm.trans (hI.findById_of_alookup h1).1))).2
  cases g2.symm.trans h2
  cases g3.symm.trans h3
  cases g4.symm.trans h4
  refine ⟨_, _, h1, h2, fun a d => ?_, fun a k => ?_, fun a => ?_, fun d => ?_⟩
  · rw [← cl d, ← cb d]; exact hT.native a d
  · rw [← clc k, ← cbc k]; exact hT.cw20 a k
  · have := hT.nfts a
    rw [n1, n2] at this
    exact this
  · rw [← fl, ← fb]; exact hT.fees d

/-- non-vacuity: the history before the sample purchase carries 128-bit amounts -/
example : AcctEx.w0.mkt = instantiate 0 (some 102) ∧ (∀ op ∈ AcctEx.ops.take 6, op.fits128) ∧
    1 = feeDenomOf (run AcctEx.w0 (AcctEx.ops.take 6)).env (run AcctEx.w0 (AcctEx.ops.take 6)).mkt.feeKind ∧
    (step (run AcctEx.w0 (AcctEx.ops.take 6)) (.exec 2 [] (.buy 3 8))).2.ok = true :=
  ⟨rfl, by decide +kernel, by decide +kernel, by decide +kernel⟩

/-! ## the refinement, in one statement -/

inductive EntStep (m m' : Market) : Prop
  | stutter (h : EntEq m m')
  | gain (x : Nat) (X : GBal) (h : EntGain m m' x X)
  | loss (x : Nat) (g : GBal) (fee : Option Coin) (h : EntLoss m m' x g fee)
  | trade (seller buyer : Nat) (goods pay goods' pay' : GBal) (oldFee lfee bfee : Option Coin)
      (h : EntTrade m m' seller buyer goods pay goods' pay' oldFee lfee bfee)

theorem ExecMsg.classes (msg : ExecMsg) :
    msg.isNeutral = true ∨ msg.takesCoins = true ∨ msg.isWithdraw = true ∨ ∃ lid bid, msg = .buy lid bid := by
  cases msg with
  | finalize | changeAsk | feeCycle => exact .inl rfl
  | removeBucket | deleteListing | withdrawPurchased => exact .inr (.inr (.inl rfl))
  | buy lid bid => exact .inr (.inr (.inr ⟨lid, bid, rfl⟩))
  | _ => exact .inr (.inl rfl)

/-- every flow of records (Lemmas/AcctLemmas.lean §4) is one abstract step: `EntStep` does not ask
    which message it was -/
theorem Flow.entStep {m m' : Market} {env : Env} {out : List OutMsg} {u : Nat} {inc : Option Asset}
    {sale : Option (Nat × Nat)} (f : Flow m env u m' inc sale out) : EntStep m m' := by
  induction f with
  | opened hφ => exact .gain u _ (.of_opened hφ)
  | toppedUp hnf hφ => exact .gain u _ (.of_toppedUp hnf hφ)
  | idle hφ => exact .stutter (.of_rsum hφ)
  | closed hφ => exact .loss u _ _ (.of_rsum hφ)
  | traded hb hl hnl hnb hlfee hbfee hr1 hr2 hφ => exact .trade _ _ _ _ _ _ _ _ _ (.of_rsum hφ)

/-- one transaction, with or without injected faults, from any state that satisfies the two
    invariants is one abstract step -/
theorem Ent_refinement_step {w : World} (hI : IdsInv w.mkt) (hW : WFInv w.junoD w.usdcD w.mkt)
    (fail : Nat → Bool) (op : Op) : EntStep w.mkt (stepF fail w op).1.mkt := by
  rcases stepF_mkt_cases fail w op with ⟨hm, _⟩ | ⟨c, fu, mg, _, _, hx, _⟩
  · rw [hm]
    exact .stutter (.refl _)
  · obtain ⟨_, _, _, _, _, e⟩ := execute_effect hx
    exact (e.flow hI (.inr ⟨_, _, hW⟩)).entStep

/-- **refinement**: every transaction — any operation, accepted or not, forged hook calls included —
    from any state reached from an instantiated marketplace is one abstract step: nothing, a gain of
    one account, a loss of one account, or a sale -/
theorem Ent_refinement_reach {w0 : World} {t : Nat} {r : Option Nat} (h0 : w0.mkt = instantiate t r)
    (ops : List Op) (op : Op) : EntStep (run w0 ops).mkt (step (run w0 ops) op).1.mkt :=
  Ent_refinement_step (C09_reach h0 ops) (closed_wf h0 ops) noFault op

/-- non-vacuity: the sample history has accepted steps of all four kinds (see the examples above);
    its operations are all accepted -/
example : AcctEx.w0.mkt = instantiate 0 (some 102) ∧
    (AcctEx.ops.zipIdx.all fun p => (step (run AcctEx.w0 (AcctEx.ops.take p.2)) p.1).2.ok) = true :=
  ⟨rfl, by decide +kernel⟩

#print axioms Ent_party
#print axioms Ent_neutral
#print axioms Ent_neutral_step
#print axioms Ent_neutral_reach
#print axioms Ent_deposit
#print axioms Ent_deposit_step
#print axioms Ent_deposit_reach
#print axioms Ent_withdraw_msgs
#print axioms Ent_withdraw
#print axioms Ent_withdraw_step
#print axioms Ent_withdraw_reach
#print axioms Ent_owed
#print axioms Ent_backed_iff
#print axioms Ent_backed
#print axioms Ent_buy
#print axioms Ent_buy_reach
#print axioms Ent_buy_closed_reach
#print axioms Ent_refinement_reach
#print axioms entNfts_sub_recorded
#print axioms pendV_zero
#print axioms EntEq.of_rsum
#print axioms EntGain.of_opened
#print axioms EntGain.of_toppedUp
#print axioms EntLoss.of_rsum
#print axioms EntLoss.self
#print axioms EntLoss.other
#print axioms exitMsg_isWithdraw
#print axioms Flow.entGain
#print axioms Effect.entGain
#print axioms Effect.entEq
#print axioms Effect.entLoss
#print axioms mem_owners
#print axioms EntTrade.of_rsum
#print axioms Flow.entStep
#print axioms Ent_refinement_step

end Fuzion
