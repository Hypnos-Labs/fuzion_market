/-
  Fuzion.Props.OracleSoundFault — the two fault-injection oracles never raise a false alarm on
  the model.

  On a `STEPF` line the harness forces the `k`-th dispatched message of the response to fail; the
  driver then evaluates `oracle15` (C15) and `oracle10f` (C10) of `Fuzion/Driver/Oracles.lean`.
  Here: on the model's own faulted step `stepF (fun i => i == k)` both answer `true`, with no
  hypothesis on the world at all.  `World` has no `DecidableEq`, so `sound_o15` quantifies over
  the Boolean the harness reports for "the world is unchanged" and only asks that it be `true`
  whenever the faulted step really returns the world it started from.
-/
import Fuzion.Props.OracleSound
namespace Fuzion
open Fuzion.Orc

namespace OrcFaultEx

/-- the sample history of C01 just before the buyer withdraws the purchased listing: the goods
    (995 of denom 1, 400 of token 50, NFT (60, 7)) go to account 2 and the pending fee of 5 of
    denom 1 to the community pool -/
def w : World := OrcEx.wWd
def op : Op := OrcEx.opWd

/-- the fault predicate of a `STEPF` line; the theorems write it out, `fun i => i == k`, as
    `processStep` (Driver/Run.lean) does -/
def failAt (k : Nat) : Nat → Bool := fun i => i == k

end OrcFaultEx

/-- "All or nothing" under the harness' fault: if the unfaulted step emits a `k`-th message (so it
    is accepted), then the step in which exactly that message is made to fail is refused and
    returns the world it started from (`stepF_fault_hit`). -/
theorem sound_fault_aborts (w : World) (op : Op) (k : Nat)
    (hk : k < (stepF noFault w op).2.msgs.length) :
    (stepF (fun i => i == k) w op).2.ok = false ∧ (stepF (fun i => i == k) w op).1 = w := by
  rw [stepF_fault_hit hk (by simp)]
  exact ⟨rfl, rfl⟩

-- non-vacuity: the unfaulted withdrawal is accepted and emits four messages, the pool deposit
-- last; with the fault on any of them the step is refused
example : (stepF noFault OrcFaultEx.w OrcFaultEx.op).2.ok = true ∧
    (stepF noFault OrcFaultEx.w OrcFaultEx.op).2.msgs =
      [.bankSend 2 [⟨1, 995⟩], .cw20Transfer 50 2 400, .nftTransfer 60 7 2, .fundPool 100 ⟨1, 5⟩] ∧
    (3 < (stepF noFault OrcFaultEx.w OrcFaultEx.op).2.msgs.length) ∧
    ((List.range 4).all fun k =>
      !(stepF (OrcFaultEx.failAt k) OrcFaultEx.w OrcFaultEx.op).2.ok) = true ∧
    -- a fault beyond the response is invisible
    (stepF (OrcFaultEx.failAt 4) OrcFaultEx.w OrcFaultEx.op).2.ok = true := by decide +kernel

theorem sound_o15 (w : World) (op : Op) (k : Nat) (unchanged : Bool)
    (hu : (stepF (fun i => i == k) w op).1 = w → unchanged = true) :
    oracle15 w op k (stepF (fun i => i == k) w op).2.ok unchanged = true := by
  unfold oracle15
  dsimp only
  by_cases hk : k < (stepF noFault w op).2.msgs.length
  · obtain ⟨e1, e2⟩ := sound_fault_aborts w op k hk
    rw [e1, hu e2]
    simp
  · simp [hk]

theorem sound_o15_facts (w : World) (op : Op) (k : Nat) :
    oracle15 w op k false true = true ∧
    ((stepF noFault w op).2.ok = true → k < (stepF noFault w op).2.msgs.length →
      (stepF (fun i => i == k) w op).2.ok = false ∧ (stepF (fun i => i == k) w op).1 = w) :=
  ⟨by simp [oracle15], fun _ => sound_fault_aborts w op k⟩

-- the oracle is not trivially true: it flags an accepted or a dirty faulted withdrawal, for the
-- fault on the first message as well as on the pool deposit …
example : oracle15 OrcFaultEx.w OrcFaultEx.op 0 true true = false ∧
    oracle15 OrcFaultEx.w OrcFaultEx.op 3 false false = false ∧
    oracle15 OrcFaultEx.w OrcFaultEx.op 3 true false = false ∧
    -- … is satisfied by the model's answers …
    oracle15 OrcFaultEx.w OrcFaultEx.op 3
      (stepF (OrcFaultEx.failAt 3) OrcFaultEx.w OrcFaultEx.op).2.ok true = true ∧
    -- … and says nothing when the fault lies beyond the response
    oracle15 OrcFaultEx.w OrcFaultEx.op 4 true false = true := by decide +kernel

/-- `o10f` never fires on the model's own faulted step: when the community-pool deposit is the
    message made to fail, the operation is refused, so the proceeds do not leave. -/
theorem sound_o10f (w : World) (op : Op) (k : Nat) :
    oracle10f w op k (stepF (fun i => i == k) w op).2.ok = true := by
  unfold oracle10f
  dsimp only
  by_cases hk : k < (stepF noFault w op).2.msgs.length
  · rw [(sound_fault_aborts w op k hk).1]
    simp
  · simp [hk]

-- the oracle is not trivially true: an accepted withdrawal whose pool deposit (message 3) failed
-- is flagged; a fault on another message is C15's business, not this oracle's
example : (stepF noFault OrcFaultEx.w OrcFaultEx.op).2.msgs[3]? = some (.fundPool 100 ⟨1, 5⟩) ∧
    oracle10f OrcFaultEx.w OrcFaultEx.op 3 true = false ∧
    oracle10f OrcFaultEx.w OrcFaultEx.op 0 true = true ∧
    oracle10f OrcFaultEx.w OrcFaultEx.op 3
      (stepF (OrcFaultEx.failAt 3) OrcFaultEx.w OrcFaultEx.op).2.ok = true := by decide +kernel

#print axioms sound_fault_aborts
#print axioms sound_o15
#print axioms sound_o15_facts
#print axioms sound_o10f

end Fuzion
