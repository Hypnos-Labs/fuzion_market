/-
  Fuzion.Props.C05 — "Deposits and payouts move exactly the stated assets to the right party".

  Property text:  Every successful creation or top-up moves exactly the attached coins, tokens or
  NFT from the depositor into the named record of that depositor and nothing else.  Every
  successful bucket removal, listing deletion or purchased-listing withdrawal removes the record
  and delivers exactly its recorded assets to its owner plus exactly its recorded fee to the
  community pool.  Refunds of records that never traded carry no fee, and no other account's
  balance or NFT changes.

  Everything is stated at the level of one transaction `step w op = (w', o)` with `o.ok = true`,
  as explicit deltas on the three ledgers (`lget w.bank (account, denom)`,
  `lget w.cw20 (token, holder)`, `alookup (collection, token id) w.nft`) and on the two record
  tables (`PaidOut`, `DepositRecords`: Lemmas/ExitLemmas.lean).  A deposit message `i : Inner` is
  sent directly with native coins attached (`i.toExec`) or through a CW20 `Send` / CW721
  `SendNft` (`.send20 token x amount (some i)`, `.send721 coll x tid (some i)`).

  Side condition on foreign assets (finding C18, known): a record may hold an entry of a contract
  that is not an honest token / collection (recorded through a forged hook call).  The model's
  hostile contract either rejects the transfer (then the payout fails and nothing moves) or
  accepts it as a no-op.  The CW20 / NFT delivery clauses are therefore stated for honest tokens
  and collections; for all other contracts the ledgers are shown to be *unchanged*.

  The payout theorems take the payee, the pool and the marketplace to be three different addresses
  (the clauses of `PaidOut` would overlap otherwise): a payout to the pool address itself is not
  covered.
-/
import Fuzion.Lemmas.ExitLemmas
import Fuzion.Lemmas.RegistryLemmas
import Fuzion.Props.C01Closed
import Fuzion.Props.C10
namespace Fuzion

/-! ## sample worlds for the non-vacuity examples: reached states of the sample history of C01 -/

namespace C05Ex

/-- the state after the first `k` operations of `AcctEx.ops` -/
def at_ (k : Nat) : World := run AcctEx.w0 (AcctEx.ops.take k)

theorem at_inv (k : Nat) : C01Inv (at_ k) :=
  C01_backed_closed _ C01Ex.w0_inv (fun op hop => by
    have : ∀ op ∈ AcctEx.ops, op.avoids AcctEx.w0.self ∧ op.honest AcctEx.w0 := by decide
    exact this op (List.mem_of_mem_take hop))

end C05Ex

/-! ## deposits -/

/-- the bank side of an accepted native deposit of `funds` by `x` -/
structure NativeMoved (w w' : World) (x : Nat) (funds : List Coin) : Prop where
  normalized : funds ≠ [] ∧ (∀ c ∈ funds, c.amount ≠ 0) ∧ (keys funds).Nodup
  sender : ∀ d, lget w'.bank (x, d) + coinAmt funds d = lget w.bank (x, d)
  self : ∀ d, lget w'.bank (w.self, d) = lget w.bank (w.self, d) + coinAmt funds d
  others : ∀ a d, a ≠ x → a ≠ w.self → lget w'.bank (a, d) = lget w.bank (a, d)
  cw20 : w'.cw20 = w.cw20
  nft : w'.nft = w.nft
  core : CoreEq w w'

def AddedNative (funds : List Coin) (g nf : GBal) : Prop :=
  (∀ d, coinAmt nf.native d = coinAmt g.native d + coinAmt funds d) ∧ nf.cw20 = g.cw20 ∧
  nf.nfts = g.nfts

def AddedCw20 (t amount : Nat) (g nf : GBal) : Prop :=
  nf.native = g.native ∧
  (∀ t', coinAmt nf.cw20 t' = coinAmt g.cw20 t' + (if t = t' then amount else 0)) ∧
  nf.nfts = g.nfts

def AddedNft (n : Nft) (g nf : GBal) : Prop := nf = { g with nfts := g.nfts ++ [n] }

/-- "Every successful creation or top-up moves exactly the attached coins … from the depositor into
    the named record of that depositor and nothing else" — native coins attached to a direct
    message.  (a) no message is emitted; (b) `NativeMoved`; (c) `DepositRecords` with the attached
    coins as the new record's whole balance `⟨funds, [], []⟩`, resp. `AddedNative` for a top-up.
    `x ≠ w.self` (here and for CW20) because the ledger deltas are those of a transfer between two
    different accounts (`transfer_cases`); `C05_deposit_nft` needs none: the owner entry is
    overwritten. -/
theorem C05_deposit_native {w w' : World} {o : Outcome} {x : Nat} {funds : List Coin} (i : Inner)
    (hs : step w (.exec x funds i.toExec) = (w', o)) (hok : o.ok = true) (hx : x ≠ w.self) :
    o.msgs = [] ∧ NativeMoved w w' x funds ∧
    DepositRecords w.mkt w'.mkt x ⟨funds, [], []⟩ (AddedNative funds) i := by
  obtain ⟨w1, m', msgs, u, a, msg', hD, hu, e, hd, hmsgs⟩ :=
    step_effect (op := .exec x funds i.toExec) rfl hs hok
  rw [i.unwrap_toExec] at hu
  cases hu
  obtain ⟨rfl, hn, hrec⟩ := e.depositRecords
  cases hd
  have hnz := normalizedCheck_native hn
  obtain ⟨b, hb, rfl⟩ := (deposit_exec.1 hD).resolve_left fun h => hnz.1 h.1
  have hbank := fun d => transfer_cases (fun a => bankSend_lget hb a d) hx
  refine ⟨hmsgs, ⟨hnz, fun d => (hbank d).1, fun d => (hbank d).2.1, fun a d => (hbank d).2.2 a, rfl, rfl,
    (deposit_core hD).1.trans (CoreEq.setMkt _ _)⟩, hrec.mono fun g nf h => ?_⟩
  obtain ⟨n, hn, rfl⟩ := addTokens_native_iff.1 h
  exact ⟨addCoins_coinAmt hn, rfl, rfl⟩

/-- create listing 3 with 1000 of denom 1 attached (first operation of the sample history) -/
example : (step AcctEx.w0 (.exec 1 [⟨1, 1000⟩]
      (Inner.createListing 3 ⟨⟨[⟨2, 2000⟩], [], []⟩, none⟩).toExec)).2.ok = true ∧
    (1 : Nat) ≠ AcctEx.w0.self := by decide
/-- … and the theorem applied to it: 1000 of denom 1 moved from account 1 to the marketplace -/
example : NativeMoved AcctEx.w0 (step AcctEx.w0 (.exec 1 [⟨1, 1000⟩]
      (Inner.createListing 3 ⟨⟨[⟨2, 2000⟩], [], []⟩, none⟩).toExec)).1 1 [⟨1, 1000⟩] :=
  (C05_deposit_native (w := AcctEx.w0) (x := 1) (funds := [⟨1, 1000⟩])
    (.createListing 3 ⟨⟨[⟨2, 2000⟩], [], []⟩, none⟩) rfl (by decide) (by decide)).2.1
/-- top up bucket 8 of account 2 with 7 of denom 2 (state after five operations) -/
example : (step (C05Ex.at_ 5) (.exec 2 [⟨2, 7⟩] (Inner.addToBucket 8).toExec)).2.ok = true ∧
    (2 : Nat) ≠ (C05Ex.at_ 5).self := by decide +kernel

/-- the token side of an accepted CW20 deposit -/
structure Cw20Moved (w w' : World) (t x amount : Nat) : Prop where
  honest : w.isHonest20 t = true
  nonzero : amount ≠ 0
  sender : lget w'.cw20 (t, x) + amount = lget w.cw20 (t, x)
  self : lget w'.cw20 (t, w.self) = lget w.cw20 (t, w.self) + amount
  others : ∀ k, k ≠ (t, x) → k ≠ (t, w.self) → lget w'.cw20 k = lget w.cw20 k
  bank : w'.bank = w.bank
  nft : w'.nft = w.nft
  core : CoreEq w w'

/-- "… tokens …": a deposit through a CW20 `Send` -/
theorem C05_deposit_cw20 {w w' : World} {o : Outcome} {t x amount : Nat} {inner : Option Inner}
    (hs : step w (.send20 t x amount inner) = (w', o)) (hok : o.ok = true) (hx : x ≠ w.self) :
    o.msgs = [] ∧ Cw20Moved w w' t x amount ∧
    ∃ i, inner = some i ∧
      DepositRecords w.mkt w'.mkt x ⟨[], [⟨t, amount⟩], []⟩ (AddedCw20 t amount) i := by
  obtain ⟨w1, m', msgs, u, a, msg', hD, hu, e, hd, hmsgs⟩ :=
    step_effect (op := .send20 t x amount inner) rfl hs hok
  cases inner with
  | none => cases hu
  | some i =>
    cases hu
    obtain ⟨rfl, _, hrec⟩ := e.depositRecords
    cases hd
    obtain ⟨hh, hz, l, hl, rfl⟩ := deposit_send20.1 hD
    have hmove := transfer_cases (ledgerMove_lget hl) fun e => hx (Prod.mk.inj e).2
    refine ⟨hmsgs, ⟨hh, hz, hmove.1, hmove.2.1, hmove.2.2, rfl, rfl,
      (deposit_core hD).1.trans (CoreEq.setMkt _ _)⟩, i, rfl,
      hrec.mono fun _ _ => addTokens_cw20_spec⟩

/-- second operation of the sample history: 400 of token 50 added to listing 3 -/
example : (step (C05Ex.at_ 1) (.send20 50 1 400 (some (.addToListing 3)))).2.ok = true ∧
    (1 : Nat) ≠ (C05Ex.at_ 1).self := by decide

/-- the NFT side of an accepted CW721 deposit -/
structure NftMoved (w w' : World) (c x tid : Nat) : Prop where
  honest : w.isHonest721 c = true
  before : alookup (c, tid) w.nft = some x
  after : alookup (c, tid) w'.nft = some w.self
  others : ∀ k, k ≠ (c, tid) → alookup k w'.nft = alookup k w.nft
  bank : w'.bank = w.bank
  cw20 : w'.cw20 = w.cw20
  core : CoreEq w w'

/-- "… or NFT": a deposit through a CW721 `SendNft` -/
theorem C05_deposit_nft {w w' : World} {o : Outcome} {c x tid : Nat} {inner : Option Inner}
    (hs : step w (.send721 c x tid inner) = (w', o)) (hok : o.ok = true) :
    o.msgs = [] ∧ NftMoved w w' c x tid ∧
    ∃ i, inner = some i ∧ DepositRecords w.mkt w'.mkt x ⟨[], [], [⟨c, tid⟩]⟩ (AddedNft ⟨c, tid⟩) i := by
  obtain ⟨w1, m', msgs, u, a, msg', hD, hu, e, hd, hmsgs⟩ :=
    step_effect (op := .send721 c x tid inner) rfl hs hok
  cases inner with
  | none => cases hu
  | some i =>
    cases hu
    obtain ⟨rfl, _, hrec⟩ := e.depositRecords
    cases hd
    obtain ⟨hh, hown, rfl⟩ := deposit_send721.1 hD
    refine ⟨hmsgs, ⟨hh, hown, ?_, fun k hk => ?_, rfl, rfl, (deposit_core hD).1.trans (CoreEq.setMkt _ _)⟩, i, rfl,
      hrec.mono fun g nf h => (Option.some.inj h).symm⟩
    · show alookup (c, tid) (lset w.nft (c, tid) w.self) = some w.self
      rw [alookup_lset, if_pos rfl]
    · show alookup k (lset w.nft (c, tid) w.self) = alookup k w.nft
      rw [alookup_lset, if_neg hk]

/-- third operation of the sample history: NFT (60, 7) added to listing 3 -/
example : (step (C05Ex.at_ 2) (.send721 60 1 7 (some (.addToListing 3)))).2.ok = true := by decide

/-- "into the named record of that depositor and nothing else", read off `DepositRecords` -/
theorem C05_deposit_other_keys {m m' : Market} {x : Nat} {g0 : GBal} {P : GBal → GBal → Prop}
    {i : Inner} (h : DepositRecords m m' x g0 P i) :
    (∀ k, k ≠ (x, i.id) → alookup k m'.listings = alookup k m.listings ∧
      alookup k m'.buckets = alookup k m.buckets) ∧ FeeCfgEq m m' := by
  cases i with
  | createBucket id =>
    obtain ⟨_, _, rfl⟩ := h
    exact ⟨fun k hk => ⟨rfl, alookup_ainsert_ne hk _ _⟩, rfl, rfl, rfl⟩
  | addToBucket id =>
    obtain ⟨r, nf, _, _, _, rfl⟩ := h
    exact ⟨fun k hk => ⟨rfl, alookup_ainsert_ne hk _ _⟩, rfl, rfl, rfl⟩
  | createListing id c =>
    obtain ⟨wl, ask, _, _, _, _, rfl⟩ := h
    exact ⟨fun k hk => ⟨alookup_ainsert_ne hk _ _, rfl⟩, rfl, rfl, rfl⟩
  | addToListing id =>
    obtain ⟨l, nf, _, _, _, _, _, rfl⟩ := h
    exact ⟨fun k hk => ⟨alookup_ainsert_ne hk _ _, rfl⟩, rfl, rfl, rfl⟩

/-- … and what is filed under `(x, id)` afterwards -/
theorem C05_deposit_own_key {m m' : Market} {x : Nat} {g0 : GBal} {P : GBal → GBal → Prop}
    {i : Inner} (h : DepositRecords m m' x g0 P i) :
    match i with
    | .createBucket id => alookup (x, id) m'.buckets = some ⟨x, g0, none⟩
    | .addToBucket id => ∃ r nf, alookup (x, id) m.buckets = some r ∧ P r.funds nf ∧
        alookup (x, id) m'.buckets = some { r with funds := nf }
    | .createListing id c => ∃ wl ask, checkWhitelist x c.whitelist = some wl ∧
        validateAsk c.ask = some ask ∧
        alookup (x, id) m'.listings = some (newListing x id wl g0 ask)
    | .addToListing id => ∃ l nf, alookup (x, id) m.listings = some l ∧ P l.forSale nf ∧
        alookup (x, id) m'.listings = some { l with forSale := nf } := by
  cases i with
  | createBucket id =>
    obtain ⟨_, _, rfl⟩ := h
    exact alookup_ainsert_self _ _ _
  | addToBucket id =>
    obtain ⟨r, nf, h1, _, h3, rfl⟩ := h
    exact ⟨r, nf, h1, h3, alookup_ainsert_self _ _ _⟩
  | createListing id c =>
    obtain ⟨wl, ask, _, _, h3, h4, rfl⟩ := h
    exact ⟨wl, ask, h3, h4, alookup_ainsert_self _ _ _⟩
  | addToListing id =>
    obtain ⟨l, nf, h1, _, _, _, h5, rfl⟩ := h
    exact ⟨l, nf, h1, h5, alookup_ainsert_self _ _ _⟩

example : ∃ m', DepositRecords AcctEx.w0.mkt m' 1 ⟨[⟨1, 1000⟩], [], []⟩ (AddedNative [⟨1, 1000⟩])
    (.createListing 3 ⟨⟨[⟨2, 2000⟩], [], []⟩, none⟩) :=
  ⟨_, _, _, by decide, by decide, rfl, rfl, rfl⟩

/-! ## payouts

The record found, the new table and the exact message list are read off the handler's `_ok_iff`;
`step_exec_nil_inv` hands back the dispatch of those messages, for `paidOut_of_dispatch`. -/

section payout
variable {w w' : World} {o : Outcome} {x id : Nat}

/-- "Every successful bucket removal … removes the record and delivers exactly its recorded assets
    to its owner plus exactly its recorded fee to the community pool." -/
theorem C05_payout_bucket (hs : step w (.exec x [] (.removeBucket id)) = (w', o)) (hok : o.ok = true)
    (hx : x ≠ w.self) (hxp : x ≠ w.pool) (hp : w.pool ≠ w.self) :
    ∃ r, alookup (x, id) w.mkt.buckets = some r ∧ r.owner = x ∧
      o.msgs = withdrawMsgs w.self x r.funds r.fee ∧
      w'.mkt = { w.mkt with buckets := aerase (x, id) w.mkt.buckets } ∧
      alookup (x, id) w'.mkt.buckets = none ∧
      (∀ k, k ≠ (x, id) → alookup k w'.mkt.buckets = alookup k w.mkt.buckets) ∧
      PaidOut w w' x r.funds r.fee := by
  obtain ⟨hx', hd⟩ := step_exec_nil_inv hs hok
  rw [execute_nil_removeBucket] at hx'
  obtain ⟨r, hr, ho, hm, hmsgs⟩ := withdrawBucket_ok_iff.1 hx'
  rw [ho] at hmsgs
  exact ⟨r, hr, ho, hmsgs, hm, hm ▸ alookup_aerase_self _ _, fun k hk => hm ▸ alookup_aerase_ne hk _,
    paidOut_of_dispatch (hmsgs ▸ hd) hx hxp hp⟩

/-- "… listing deletion …": the refund of a listing that never traded; nothing goes to the pool.
    `IdsInv` and `WFInv` (not needed for a bucket) give `fee = none` and `findById` after the erase. -/
theorem C05_payout_delete (hI : IdsInv w.mkt) (hW : WFInv w.junoD w.usdcD w.mkt)
    (hs : step w (.exec x [] (.deleteListing id)) = (w', o)) (hok : o.ok = true)
    (hx : x ≠ w.self) (hxp : x ≠ w.pool) (hp : w.pool ≠ w.self) :
    ∃ l, alookup (x, id) w.mkt.listings = some l ∧ l.creator = x ∧ l.claimant = none ∧
      l.status ≠ .closed ∧ l.fee = none ∧
      o.msgs = sendTokens x l.forSale ∧
      w'.mkt = { w.mkt with listings := aerase (x, id) w.mkt.listings } ∧
      alookup (x, id) w'.mkt.listings = none ∧ findById id w'.mkt.listings = none ∧
      (∀ k, k ≠ (x, id) → alookup k w'.mkt.listings = alookup k w.mkt.listings) ∧
      PaidOut w w' x l.forSale none := by
  obtain ⟨hx', hd⟩ := step_exec_nil_inv hs hok
  rw [execute_nil_deleteListing] at hx'
  obtain ⟨l, hl, ho, hc, _, hm, hmsgs⟩ := deleteListing_ok_iff.1 hx'
  rw [← ho] at hmsgs
  have hst : l.status ≠ .closed := fun e =>
    nomatch hc.symm.trans (wfListing_closed (hW.listing hl) e).2.1
  obtain ⟨hf, _, _⟩ := hI.findById_of_alookup hl
  exact ⟨l, hl, ho.symm, hc, hst, wfListing_fee_none (hW.listing hl) hc, hmsgs, hm,
    hm ▸ alookup_aerase_self _ _, hm ▸ (hI.lids.findById_aerase hf _).trans (if_pos rfl),
    fun k hk => hm ▸ alookup_aerase_ne hk _,
    paidOut_of_dispatch (withdrawMsgs_none w.self .. ▸ hmsgs ▸ hd) hx hxp hp⟩

/-- "… or purchased-listing withdrawal …": `x` is the buyer (claimant and, since the purchase
    re-filed the record, creator: this is where `WFInv` is used) -/
theorem C05_payout_purchased (hI : IdsInv w.mkt) (hW : WFInv w.junoD w.usdcD w.mkt)
    (hs : step w (.exec x [] (.withdrawPurchased id)) = (w', o)) (hok : o.ok = true)
    (hx : x ≠ w.self) (hxp : x ≠ w.pool) (hp : w.pool ≠ w.self) :
    ∃ l, alookup (x, id) w.mkt.listings = some l ∧ l.creator = x ∧ l.claimant = some x ∧
      l.status = .closed ∧
      o.msgs = withdrawMsgs w.self x l.forSale l.fee ∧
      w'.mkt = { w.mkt with listings := aerase (x, id) w.mkt.listings } ∧
      alookup (x, id) w'.mkt.listings = none ∧ findById id w'.mkt.listings = none ∧
      (∀ k, k ≠ (x, id) → alookup k w'.mkt.listings = alookup k w.mkt.listings) ∧
      PaidOut w w' x l.forSale l.fee := by
  obtain ⟨hx', hd⟩ := step_exec_nil_inv hs hok
  rw [execute_nil_withdrawPurchased] at hx'
  obtain ⟨k, l, hf, hc, hst, hm, hmsgs⟩ := withdrawPurchased_ok_iff.1 hx'
  obtain ⟨hk, _, hl⟩ := hI.findById_key hf
  have hcr : l.creator = x := (wfListing_claimant (hW.listing hl) hc).2.symm
  rw [hk, hcr] at hl hf
  exact ⟨l, hl, hcr, hc, hst, hmsgs, hm, hm ▸ alookup_aerase_self _ _,
    hm ▸ (hI.lids.findById_aerase hf _).trans (if_pos rfl), fun k hk => hm ▸ alookup_aerase_ne hk _,
    paidOut_of_dispatch (hmsgs ▸ hd) hx hxp hp⟩

end payout

/-- last two operations of the sample history, and the deletion of the preparing listing of the
    state after three operations: accepted, under the hypotheses of the three theorems -/
example : IdsInv (C05Ex.at_ 8).mkt ∧ WFInv (C05Ex.at_ 8).junoD (C05Ex.at_ 8).usdcD (C05Ex.at_ 8).mkt ∧
    (step (C05Ex.at_ 8) (.exec 2 [] (.withdrawPurchased 3))).2.ok = true ∧
    (2 : Nat) ≠ (C05Ex.at_ 8).self ∧ (2 : Nat) ≠ (C05Ex.at_ 8).pool ∧
    (C05Ex.at_ 8).pool ≠ (C05Ex.at_ 8).self :=
  ⟨(C05Ex.at_inv 8).ids, (C05Ex.at_inv 8).wf, by decide +kernel⟩
example : (step (C05Ex.at_ 9) (.exec 1 [] (.removeBucket 8))).2.ok = true ∧
    (1 : Nat) ≠ (C05Ex.at_ 9).self ∧ (1 : Nat) ≠ (C05Ex.at_ 9).pool ∧
    (C05Ex.at_ 9).pool ≠ (C05Ex.at_ 9).self := by decide +kernel
example : IdsInv (C05Ex.at_ 3).mkt ∧ WFInv (C05Ex.at_ 3).junoD (C05Ex.at_ 3).usdcD (C05Ex.at_ 3).mkt ∧
    (step (C05Ex.at_ 3) (.exec 1 [] (.deleteListing 3))).2.ok = true ∧
    (1 : Nat) ≠ (C05Ex.at_ 3).self ∧ (1 : Nat) ≠ (C05Ex.at_ 3).pool ∧
    (C05Ex.at_ 3).pool ≠ (C05Ex.at_ 3).self :=
  ⟨(C05Ex.at_inv 3).ids, (C05Ex.at_inv 3).wf, by decide +kernel⟩

/-- "Every successful bucket removal, listing deletion or purchased-listing withdrawal …": the three
    payout theorems in one statement. -/
theorem C05_payout {w w' : World} {o : Outcome} {x id : Nat} (hI : IdsInv w.mkt)
    (hW : WFInv w.junoD w.usdcD w.mkt) (hok : o.ok = true)
    (hx : x ≠ w.self) (hxp : x ≠ w.pool) (hp : w.pool ≠ w.self) :
    (step w (.exec x [] (.removeBucket id)) = (w', o) →
      ∃ r, alookup (x, id) w.mkt.buckets = some r ∧ r.owner = x ∧
        alookup (x, id) w'.mkt.buckets = none ∧ PaidOut w w' x r.funds r.fee) ∧
    (step w (.exec x [] (.deleteListing id)) = (w', o) →
      ∃ l, alookup (x, id) w.mkt.listings = some l ∧ l.creator = x ∧
        alookup (x, id) w'.mkt.listings = none ∧ findById id w'.mkt.listings = none ∧
        PaidOut w w' x l.forSale none) ∧
    (step w (.exec x [] (.withdrawPurchased id)) = (w', o) →
      ∃ l, alookup (x, id) w.mkt.listings = some l ∧ l.claimant = some x ∧
        alookup (x, id) w'.mkt.listings = none ∧ findById id w'.mkt.listings = none ∧
        PaidOut w w' x l.forSale l.fee) := by
  -- kept of each: the record found, its owner / buyer, that its key(s) are empty afterwards, `PaidOut`
  refine ⟨fun hs => ?_, fun hs => ?_, fun hs => ?_⟩
  · obtain ⟨r, h1, h2, _, _, h5, _, h7⟩ := C05_payout_bucket hs hok hx hxp hp
    exact ⟨r, h1, h2, h5, h7⟩
  · obtain ⟨l, h1, h2, _, _, _, _, _, h8, h9, _, h11⟩ := C05_payout_delete hI hW hs hok hx hxp hp
    exact ⟨l, h1, h2, h8, h9, h11⟩
  · obtain ⟨l, h1, _, h3, _, _, _, h7, h8, _, h10⟩ := C05_payout_purchased hI hW hs hok hx hxp hp
    exact ⟨l, h1, h3, h7, h8, h10⟩

example : IdsInv (C05Ex.at_ 8).mkt ∧ WFInv (C05Ex.at_ 8).junoD (C05Ex.at_ 8).usdcD (C05Ex.at_ 8).mkt ∧
    (step (C05Ex.at_ 8) (.exec 2 [] (.withdrawPurchased 3))).2.ok = true :=
  ⟨(C05Ex.at_inv 8).ids, (C05Ex.at_inv 8).wf, by decide +kernel⟩

/-! ## refunds of records that never traded carry no fee -/

/-- "Refunds of records that never traded carry no fee": only a sold listing can carry one
    (`C10_untraded_no_fee`), a deletion emits no pool deposit (`C10_delete_no_pool`), and a payout
    without fee leaves the pool's balance as it was. -/
theorem C05_refund_no_fee {m : Market} {j u : Nat} (hI : IdsInv m) (hW : WFInv j u m) :
    (∀ k l, alookup k m.listings = some l → l.status ≠ .closed → l.fee = none) ∧
    (∀ env s id m' out, deleteListing m env s id = .ok (m', out) →
      (∀ dep c, OutMsg.fundPool dep c ∉ out) ∧
      ∃ l, alookup (s, id) m.listings = some l ∧ l.fee = none) ∧
    (∀ (w w' : World) x g, PaidOut w w' x g none →
      (∀ d, lget w'.bank (w.pool, d) = lget w.bank (w.pool, d)) ∧
      (∀ d, lget w'.bank (w.self, d) + coinAmt g.native d = lget w.bank (w.self, d))) := by
  refine ⟨fun k l hl hs => C10_untraded_no_fee hW hl hs,
    fun env s id m' out h => C10_delete_no_pool hI hW h, fun w w' x g hp => ⟨fun d => ?_, fun d => ?_⟩⟩
  · exact (hp.bankPool d).trans (Nat.add_zero _)
  · exact (Nat.add_zero _).symm.trans (hp.bankSelf d)

example : IdsInv (C05Ex.at_ 3).mkt ∧ WFInv (C05Ex.at_ 3).junoD (C05Ex.at_ 3).usdcD (C05Ex.at_ 3).mkt ∧
    (∃ r, deleteListing (C05Ex.at_ 3).mkt (C05Ex.at_ 3).env 1 3 = .ok r) :=
  ⟨(C05Ex.at_inv 3).ids, (C05Ex.at_inv 3).wf, _, rfl⟩

/-- the three payout theorems applied to the sample states -/
example : ∃ l : Listing, PaidOut (C05Ex.at_ 8)
    (step (C05Ex.at_ 8) (.exec 2 [] (.withdrawPurchased 3))).1 2 l.forSale l.fee := by
  have hc : (step (C05Ex.at_ 8) (.exec 2 [] (.withdrawPurchased 3))).2.ok = true ∧
      (2 : Nat) ≠ (C05Ex.at_ 8).self ∧ (2 : Nat) ≠ (C05Ex.at_ 8).pool ∧
      (C05Ex.at_ 8).pool ≠ (C05Ex.at_ 8).self := by decide +kernel
  obtain ⟨l, _, _, _, _, _, _, _, _, _, h⟩ := C05_payout_purchased (C05Ex.at_inv 8).ids
    (C05Ex.at_inv 8).wf (Prod.eta _).symm hc.1 hc.2.1 hc.2.2.1 hc.2.2.2
  exact ⟨l, h⟩

/-- the never-traded bucket: its removal pays nothing to the pool -/
theorem C05_refund_bucket_no_fee {w w' : World} {o : Outcome} {x id : Nat} {r : Bucket}
    (hs : step w (.exec x [] (.removeBucket id)) = (w', o)) (hok : o.ok = true)
    (hx : x ≠ w.self) (hxp : x ≠ w.pool) (hp : w.pool ≠ w.self)
    (hr : alookup (x, id) w.mkt.buckets = some r) (hf : r.fee = none) :
    (∀ dep c, OutMsg.fundPool dep c ∉ o.msgs) ∧
    ∀ d, lget w'.bank (w.pool, d) = lget w.bank (w.pool, d) := by
  obtain ⟨r', h1, _, h3, _, _, _, h7⟩ := C05_payout_bucket hs hok hx hxp hp
  rw [hr] at h1
  cases h1
  rw [hf] at h3 h7
  refine ⟨fun dep c hm => ?_, fun d => ?_⟩
  · rw [h3, withdrawMsgs_none] at hm
    rcases mem_sendTokens.1 hm with ⟨_, e⟩ | ⟨_, _, e⟩ | ⟨_, _, e⟩ <;> cases e
  · exact (h7.bankPool d).trans (Nat.add_zero _)

/-- bucket 8 of account 2 in the state after five operations: just created, no fee -/
example : (step (C05Ex.at_ 5) (.exec 2 [] (.removeBucket 8))).2.ok = true ∧
    (2 : Nat) ≠ (C05Ex.at_ 5).self ∧ (2 : Nat) ≠ (C05Ex.at_ 5).pool ∧
    (C05Ex.at_ 5).pool ≠ (C05Ex.at_ 5).self ∧
    ∃ r, alookup (2, 8) (C05Ex.at_ 5).mkt.buckets = some r ∧ r.fee = none :=
  have h : (step (C05Ex.at_ 5) (.exec 2 [] (.removeBucket 8))).2.ok = true ∧
      (2 : Nat) ≠ (C05Ex.at_ 5).self ∧ (2 : Nat) ≠ (C05Ex.at_ 5).pool ∧
      (C05Ex.at_ 5).pool ≠ (C05Ex.at_ 5).self ∧
      (alookup (2, 8) (C05Ex.at_ 5).mkt.buckets).map (·.fee) = some none := by decide +kernel
  ⟨h.1, h.2.1, h.2.2.1, h.2.2.2.1, Option.map_eq_some_iff.1 h.2.2.2.2⟩

/-! ## nobody else is touched -/

/-- account `y` is exactly as before -/
structure Untouched (w w' : World) (y : Nat) : Prop where
  bank : ∀ d, lget w'.bank (y, d) = lget w.bank (y, d)
  cw20 : ∀ t, lget w'.cw20 (t, y) = lget w.cw20 (t, y)
  nft : ∀ c tid, alookup (c, tid) w'.nft = some y ↔ alookup (c, tid) w.nft = some y

theorem Untouched.refl (w : World) (y : Nat) : Untouched w w y :=
  ⟨fun _ => rfl, fun _ => rfl, fun _ _ => Iff.rfl⟩

theorem Untouched.trans {w1 w2 w3 : World} {y : Nat} (h1 : Untouched w1 w2 y) (h2 : Untouched w2 w3 y) :
    Untouched w1 w3 y :=
  ⟨fun d => (h2.bank d).trans (h1.bank d), fun t => (h2.cw20 t).trans (h1.cw20 t),
   fun c tid => (h2.nft c tid).trans (h1.nft c tid)⟩

theorem NativeMoved.untouched {w w' : World} {x y : Nat} {funds : List Coin}
    (h : NativeMoved w w' x funds) (hy : y ≠ x) (hys : y ≠ w.self) : Untouched w w' y :=
  ⟨fun d => h.others y d hy hys, fun t => by rw [h.cw20], fun c tid => by rw [h.nft]⟩

theorem Cw20Moved.untouched {w w' : World} {t x amount y : Nat}
    (h : Cw20Moved w w' t x amount) (hy : y ≠ x) (hys : y ≠ w.self) : Untouched w w' y :=
  ⟨fun d => by rw [h.bank],
   fun t' => h.others (t', y) (fun e => hy (by injection e)) (fun e => hys (by injection e)),
   fun c tid => by rw [h.nft]⟩

theorem NftMoved.untouched {w w' : World} {c x tid y : Nat}
    (h : NftMoved w w' c x tid) (hy : y ≠ x) (hys : y ≠ w.self) : Untouched w w' y := by
  refine ⟨fun d => by rw [h.bank], fun t => by rw [h.cw20], fun c' tid' => ?_⟩
  by_cases e : (c', tid') = (c, tid)
  · rw [e, h.after, h.before]
    exact iff_of_false (fun e' => hys (Option.some.inj e').symm) fun e' => hy (Option.some.inj e').symm
  · rw [h.others _ e]

theorem PaidOut.untouched {w w' : World} {x y : Nat} {g : GBal} {fee : Option Coin}
    (h : PaidOut w w' x g fee) (hy : y ≠ x) (hys : y ≠ w.self) (hyp : y ≠ w.pool) :
    Untouched w w' y := by
  refine ⟨fun d => h.bankOthers y d hy hyp hys, fun t => h.cw20Others t y (.inl ⟨hy, hys⟩),
    fun c tid => ?_⟩
  by_cases e : (⟨c, tid⟩ : Nft) ∈ g.nfts ∧ w.isHonest721 c = true
  · obtain ⟨h1, h2⟩ := h.nftOwner _ e.1 e.2
    dsimp only at h1 h2
    rw [h1, h2]
    exact iff_of_false (fun e' => hy (Option.some.inj e').symm) fun e' => hys (Option.some.inj e').symm
  · rw [h.nftOthers c tid ((Decidable.not_and_iff_not_or_not.1 e).imp_right Bool.eq_false_iff.2)]

/-- "… and no other account's balance or NFT changes": in every deposit step and every payout step
    signed by `x`, accepted or not, for every account `y` other than `x`, the marketplace and the
    community pool -/
theorem C05_others_untouched {w : World} {x y : Nat} (hI : IdsInv w.mkt)
    (hW : WFInv w.junoD w.usdcD w.mkt) (hx : x ≠ w.self) (hxp : x ≠ w.pool) (hp : w.pool ≠ w.self)
    (hy : y ≠ x) (hys : y ≠ w.self) (hyp : y ≠ w.pool) :
    (∀ funds i, Untouched w (step w (.exec x funds (Inner.toExec i))).1 y) ∧
    (∀ t amount inner, Untouched w (step w (.send20 t x amount inner)).1 y) ∧
    (∀ c tid inner, Untouched w (step w (.send721 c x tid inner)).1 y) ∧
    (∀ id, Untouched w (step w (.exec x [] (.removeBucket id))).1 y) ∧
    (∀ id, Untouched w (step w (.exec x [] (.deleteListing id))).1 y) ∧
    (∀ id, Untouched w (step w (.exec x [] (.withdrawPurchased id))).1 y) := by
  have key : ∀ op, (∀ w' o, step w op = (w', o) → o.ok = true → Untouched w w' y) →
      Untouched w (step w op).1 y := by
    intro op h
    cases hok : (step w op).2.ok with
    | true => exact h _ _ rfl hok
    | false =>
      rw [show (step w op).1 = w from stepF_failed_noop noFault w op hok]
      exact Untouched.refl w y
  refine ⟨fun funds i => key _ fun _ _ hs hok => (C05_deposit_native i hs hok hx).2.1.untouched hy hys,
    fun t amount inner => key _ fun _ _ hs hok => (C05_deposit_cw20 hs hok hx).2.1.untouched hy hys,
    fun c tid inner => key _ fun _ _ hs hok => (C05_deposit_nft hs hok).2.1.untouched hy hys,
    fun id => key _ fun _ _ hs hok => ?_, fun id => key _ fun _ _ hs hok => ?_,
    fun id => key _ fun _ _ hs hok => ?_⟩
  -- the last component of each payout theorem is its `PaidOut`
  · obtain ⟨r, _, _, _, _, _, _, h7⟩ := C05_payout_bucket hs hok hx hxp hp
    exact h7.untouched hy hys hyp
  · obtain ⟨l, _, _, _, _, _, _, _, _, _, _, h11⟩ := C05_payout_delete hI hW hs hok hx hxp hp
    exact h11.untouched hy hys hyp
  · obtain ⟨l, _, _, _, _, _, _, _, _, _, h10⟩ := C05_payout_purchased hI hW hs hok hx hxp hp
    exact h10.untouched hy hys hyp

/-- the hypotheses are met in the sample state after eight operations by `x = 2` (the buyer) and
    the bystander `y = 5` -/
example : IdsInv (C05Ex.at_ 8).mkt ∧ WFInv (C05Ex.at_ 8).junoD (C05Ex.at_ 8).usdcD (C05Ex.at_ 8).mkt ∧
    (2 : Nat) ≠ (C05Ex.at_ 8).self ∧ (2 : Nat) ≠ (C05Ex.at_ 8).pool ∧
    (C05Ex.at_ 8).pool ≠ (C05Ex.at_ 8).self ∧ (5 : Nat) ≠ 2 ∧ (5 : Nat) ≠ (C05Ex.at_ 8).self ∧
    (5 : Nat) ≠ (C05Ex.at_ 8).pool :=
  ⟨(C05Ex.at_inv 8).ids, (C05Ex.at_inv 8).wf, by decide +kernel⟩

/-- evaluating the model on the sample agrees with `PaidOut`: the withdrawal of the purchased
    listing gives the buyer (2) 995 of denom 1, 400 of token 50 and NFT (60, 7), the pool (101) the
    fee 5, and leaves the bystander's 30 coins alone -/
example :
    let w := C05Ex.at_ 8
    let w' := (step w (.exec 2 [] (.withdrawPurchased 3))).1
    lget w'.bank (2, 1) = lget w.bank (2, 1) + 995 ∧ lget w'.bank (101, 1) = lget w.bank (101, 1) + 5 ∧
    lget w'.bank (100, 1) + 995 + 5 = lget w.bank (100, 1) ∧
    lget w'.cw20 (50, 2) = lget w.cw20 (50, 2) + 400 ∧ alookup (60, 7) w'.nft = some 2 ∧
    lget w'.bank (5, 1) = 30 := by decide +kernel

#print axioms C05_deposit_native
#print axioms C05_deposit_cw20
#print axioms C05_deposit_nft
#print axioms C05_deposit_other_keys
#print axioms C05_deposit_own_key
#print axioms C05_payout_bucket
#print axioms C05_payout_delete
#print axioms C05_payout_purchased
#print axioms C05_payout
#print axioms C05_refund_no_fee
#print axioms C05_refund_bucket_no_fee
#print axioms NativeMoved.untouched
#print axioms Cw20Moved.untouched
#print axioms NftMoved.untouched
#print axioms PaidOut.untouched
#print axioms C05_others_untouched
#print axioms C05Ex.at_inv
#print axioms Untouched.refl
#print axioms Untouched.trans

end Fuzion
