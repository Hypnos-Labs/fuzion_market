/-
  Fuzion.Props.C19 — "Only deposit messages can take assets from their sender".

  Property text:  Apart from creating or topping up a listing or bucket, no marketplace message
  ever reduces its sender's balances: a non-deposit message (finalize, change ask, delete, buy,
  withdraw, remove bucket, fee cycle) that arrives with coins attached is refused rather than
  silently keeping them, and the token-receive entry points refuse attached coins.  A refused or
  failed message of any kind leaves the sender's assets with the sender.

  The model's `execute` is `contract::execute` with the repair of defect D6 (DESIGN.md §0.3): the
  test on `takes_coins` (`ExecMsg.takesCoins`), without which coins attached to one of the seven
  non-deposit kinds were kept.  The two receive wrappers pass that test and make the check
  themselves (`C19_hooks_refuse`, `C19_hooks_refuse_nft`).

  World level: `step w (.exec s funds msg)` first moves `funds` from `s` to the marketplace (the
  chain does that before the contract runs) and returns the *original* world on any failure, so
  "refused" at world level means "the coins are back with the sender".
-/
import Fuzion.Lemmas.Ledgers
namespace Fuzion

/-- "a non-deposit message (finalize, change ask, delete, buy, withdraw, remove bucket, fee
    cycle)": these seven kinds are marked as not taking coins. -/
theorem C19_kinds :
    ExecMsg.feeCycle.takesCoins = false ∧
    (∀ id ask, (ExecMsg.changeAsk id ask).takesCoins = false) ∧
    (∀ id secs, (ExecMsg.finalize id secs).takesCoins = false) ∧
    (∀ id, (ExecMsg.deleteListing id).takesCoins = false) ∧
    (∀ id, (ExecMsg.removeBucket id).takesCoins = false) ∧
    (∀ lid bid, (ExecMsg.buy lid bid).takesCoins = false) ∧
    (∀ lid, (ExecMsg.withdrawPurchased lid).takesCoins = false) :=
  ⟨rfl, fun _ _ => rfl, fun _ _ => rfl, fun _ => rfl, fun _ => rfl, fun _ _ => rfl, fun _ => rfl⟩

/-- The remaining six ("creating or topping up a listing or bucket", and the two token receive
    hooks) are the only ones the entry test lets through with coins. -/
theorem C19_deposit_kinds (msg : ExecMsg) :
    msg.takesCoins = true ↔
      (∃ id c, msg = .createListing id c) ∨ (∃ id, msg = .addToListing id) ∨
      (∃ id, msg = .createBucket id) ∨ (∃ id, msg = .addToBucket id) ∨
      (∃ s a i, msg = .receive s a i) ∨ (∃ s t i, msg = .receiveNft s t i) := by
  constructor
  · intro h
    cases msg with
    | createListing id c => exact .inl ⟨id, c, rfl⟩
    | addToListing id => exact .inr (.inl ⟨id, rfl⟩)
    | createBucket id => exact .inr (.inr (.inl ⟨id, rfl⟩))
    | addToBucket id => exact .inr (.inr (.inr (.inl ⟨id, rfl⟩)))
    | receive s a i => exact .inr (.inr (.inr (.inr (.inl ⟨s, a, i, rfl⟩))))
    | receiveNft s t i => exact .inr (.inr (.inr (.inr (.inr ⟨s, t, i, rfl⟩))))
    | _ => cases h
  · rintro (⟨_, _, rfl⟩ | ⟨_, rfl⟩ | ⟨_, rfl⟩ | ⟨_, rfl⟩ | ⟨_, _, _, rfl⟩ | ⟨_, _, _, rfl⟩) <;> rfl

/-- "a non-deposit message … that arrives with coins attached is refused rather than silently
    keeping them": whatever the state, the clock and the sender. -/
theorem C19_refused {m : Market} {env : Env} {s : Nat} {funds : List Coin} {msg : ExecMsg}
    (hk : msg.takesCoins = false) (hf : funds ≠ []) :
    execute m env s funds msg = .error .fundsAttached :=
  execute_fundsAttached m env s funds hk hf

/-- "the token-receive entry points refuse attached coins" (CW20 hook) -/
theorem C19_hooks_refuse {m : Market} {env : Env} {s : Nat} {funds : List Coin}
    (a : RawAddr) (b : Nat) (c : Option Inner) (hf : funds ≠ []) :
    execute m env s funds (.receive a b c) = .error .fundsAttached :=
  (execute_receive ..).trans (receive_fundsAttached m env s funds hf)

/-- "the token-receive entry points refuse attached coins" (CW721 hook) -/
theorem C19_hooks_refuse_nft {m : Market} {env : Env} {s : Nat} {funds : List Coin}
    (a : RawAddr) (b : Nat) (c : Option Inner) (hf : funds ≠ []) :
    execute m env s funds (.receiveNft a b c) = .error .fundsAttached :=
  (execute_receiveNft ..).trans (receiveNft_fundsAttached m env s funds hf)

example : (ExecMsg.finalize 7 600).takesCoins = false := rfl
example : ([⟨1, 5⟩] : List Coin) ≠ [] := by decide

/-- "A refused or failed message of any kind leaves the sender's assets with the sender": a
    transaction that does not succeed — refused by a guard, short of funds, a failing transfer,
    an injected fault, any operation kind — returns the world it started from; in particular
    every balance and every NFT is exactly where it was (coins attached to the message
    included). -/
theorem C19_failed_noop (fail : Nat → Bool) (w : World) (op : Op)
    (h : (stepF fail w op).2.ok = false) : (stepF fail w op).1 = w :=
  stepF_failed_noop fail w op h

/-- `C19_failed_noop` spelled out on the three token ledgers -/
theorem C19_failed_assets (w : World) (op : Op) (h : (step w op).2.ok = false) :
    (step w op).1.bank = w.bank ∧ (step w op).1.cw20 = w.cw20 ∧ (step w op).1.nft = w.nft := by
  rw [show (step w op).1 = w from C19_failed_noop noFault w op h]
  exact ⟨rfl, rfl, rfl⟩

/-- "a non-deposit message … that arrives with coins attached is refused rather than silently
    keeping them": `C19_refused` as a transaction.  The step fails — either the sender does not
    even have the coins, or the entry point refuses — and the world is the original one, so the
    attached coins are still the sender's. -/
theorem C19_step_refused {w : World} {s : Nat} {funds : List Coin} {msg : ExecMsg}
    (hf : funds ≠ []) (hk : msg.takesCoins = false) :
    ∃ e, step w (.exec s funds msg) = (w, .fail e) ∧ (e = .fundsAttached ∨ e = .insufficient) :=
  step_exec_refused (C19_refused hk hf)

/-- "the token-receive entry points refuse attached coins": `C19_hooks_refuse` as a transaction
    (a direct call of the CW20 hook with coins attached; same for the CW721 hook below). -/
theorem C19_step_hook_refused {w : World} {s : Nat} {funds : List Coin} (a : RawAddr) (b : Nat)
    (c : Option Inner) (hf : funds ≠ []) :
    ∃ e, step w (.exec s funds (.receive a b c)) = (w, .fail e) ∧
      (e = .fundsAttached ∨ e = .insufficient) :=
  step_exec_refused (C19_hooks_refuse a b c hf)

theorem C19_step_hook_refused_nft {w : World} {s : Nat} {funds : List Coin} (a : RawAddr) (b : Nat)
    (c : Option Inner) (hf : funds ≠ []) :
    ∃ e, step w (.exec s funds (.receiveNft a b c)) = (w, .fail e) ∧
      (e = .fundsAttached ∨ e = .insufficient) :=
  step_exec_refused (C19_hooks_refuse_nft a b c hf)

/-- A message sent without coins never costs its sender anything, whatever its kind and
    outcome: the messages a handler emits are paid by the marketplace (`dispatchAll_noDebit`).
    (`s ≠ w.self`: the marketplace contract itself never originates a transaction.) -/
theorem C19_no_debit_nofunds (fail : Nat → Bool) {w : World} {s : Nat} (msg : ExecMsg)
    (hs : s ≠ w.self) : NoDebit s w (stepF fail w (.exec s [] msg)).1 :=
  stepF_exec_nil_noDebit fail s msg hs

/-- Every kind of message sent without coins leaves every native balance, every CW20 balance and
    every NFT of its sender at least where it was (a deposit message without coins is refused by
    `normalized_check`, a hook call moves no coins of the caller). -/
theorem C19_no_debit_any {w : World} {s : Nat} (msg : ExecMsg) (hs : s ≠ w.self) :
    (∀ d, lget (step w (.exec s [] msg)).1.bank (s, d) ≥ lget w.bank (s, d)) ∧
    (∀ t, lget (step w (.exec s [] msg)).1.cw20 (t, s) ≥ lget w.cw20 (t, s)) ∧
    (∀ k, alookup k w.nft = some s → alookup k (step w (.exec s [] msg)).1.nft = some s) := by
  have h := C19_no_debit_nofunds noFault (w := w) msg hs
  exact ⟨h.bank, h.cw20, h.nft⟩

/-- "Apart from creating or topping up a listing or bucket, no marketplace message ever reduces
    its sender's balances": a successful non-deposit transaction leaves every native balance,
    every CW20 balance and every NFT of its sender at least where it was.  With coins attached it
    does not succeed (`C19_step_refused`); without, this is `C19_no_debit_any`. -/
theorem C19_no_debit {w : World} {s : Nat} {funds : List Coin} {msg : ExecMsg} (hs : s ≠ w.self)
    (hk : msg.takesCoins = false) (hok : (step w (.exec s funds msg)).2.ok = true) :
    (∀ d, lget (step w (.exec s funds msg)).1.bank (s, d) ≥ lget w.bank (s, d)) ∧
    (∀ t, lget (step w (.exec s funds msg)).1.cw20 (t, s) ≥ lget w.cw20 (t, s)) ∧
    (∀ k, alookup k w.nft = some s → alookup k (step w (.exec s funds msg)).1.nft = some s) := by
  cases funds with
  | cons a t =>
    obtain ⟨e, h, _⟩ := C19_step_refused (w := w) (s := s) (List.cons_ne_nil a t) hk
    rw [h] at hok
    cases hok
  | nil => exact C19_no_debit_any msg hs

-- seller 1 has listing 7 (1000 of denom 1, preparing); the marketplace (100) holds the goods;
-- seller 1 has 50 of denom 1 left in the wallet
private def exL : Listing :=
  { creator := 1, id := 7, finalizedAt := none, expiresAt := none, status := .preparing,
    claimant := none, whitelist := none, forSale := ⟨[⟨1, 1000⟩], [], []⟩,
    ask := ⟨[⟨2, 2000⟩], [], []⟩, fee := none }

private def exW : World :=
  { self := 100, pool := 101, regAddr := 102, junoD := 1, usdcD := 2, nowNs := 5, height := 1,
    mkt := { listings := [((1, 7), exL)], buckets := [], listingUsed := [7, 0], bucketUsed := [0],
             feeKind := .juno, feeSince := 0, registry := some 102 },
    reg := [], bank := [((100, 1), 1000), ((1, 1), 50)], cw20 := [], nft := [], contracts := [] }

-- a finalize with 5 coins attached is refused (with and without the coins being available) …
example : (step exW (.exec 1 [⟨1, 5⟩] (.finalize 7 600))).2.ok = false := by decide
example : (step exW (.exec 1 [⟨1, 5⟩] (.finalize 7 600))).2.err = some .fundsAttached := by decide
example : (step exW (.exec 1 [⟨1, 51⟩] (.finalize 7 600))).2.err = some .insufficient := by decide
-- … and the sender still has the 50
example : lget (step exW (.exec 1 [⟨1, 5⟩] (.finalize 7 600))).1.bank (1, 1) = 50 := by decide
-- the same finalize without coins succeeds, as does a delete (which pays the goods back)
example : (step exW (.exec 1 [] (.finalize 7 600))).2.ok = true := by decide
example : (step exW (.exec 1 [] (.deleteListing 7))).2.ok = true := by decide
example : lget (step exW (.exec 1 [] (.deleteListing 7))).1.bank (1, 1) = 1050 := by decide
example : (1 : Nat) ≠ exW.self := by decide
-- a failing transaction of another kind (hypothesis of `C19_failed_noop`)
example : (stepF noFault exW (.send20 3 1 5 none)).2.ok = false := by decide
example : (stepF (fun _ => true) exW (.exec 1 [] (.deleteListing 7))).2.ok = false := by decide

#print axioms C19_kinds
#print axioms C19_deposit_kinds
#print axioms C19_refused
#print axioms C19_hooks_refuse
#print axioms C19_hooks_refuse_nft
#print axioms C19_failed_noop
#print axioms C19_failed_assets
#print axioms C19_step_refused
#print axioms C19_step_hook_refused
#print axioms C19_step_hook_refused_nft
#print axioms C19_no_debit_nofunds
#print axioms C19_no_debit
#print axioms C19_no_debit_any

end Fuzion
