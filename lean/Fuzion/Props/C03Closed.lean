/-
  Fuzion.Props.C03Closed — "a listing is sold at most once" over every history, with the
  preservation of `IdsInv` discharged by C09.
-/
import Fuzion.Props.C03
import Fuzion.Props.C09
namespace Fuzion

theorem C03_sold_once_closed {w : World} (hI : IdsInv w.mkt) (lid : Nat) (ops : List Op) :
    buysOf lid w ops ≤ 1 :=
  C03_sold_once (fun _ _ _ _ _ _ _ hi h => C09_inv_execute hi h) hI lid ops

theorem C03_sold_once_reach {w : World} {t : Nat} {r : Option Nat} (h0 : w.mkt = instantiate t r)
    (lid : Nat) (ops : List Op) : buysOf lid w ops ≤ 1 :=
  C03_sold_once_closed (h0 ▸ IdsInv.init t r) lid ops

#print axioms C03_sold_once_closed
#print axioms C03_sold_once_reach
end Fuzion
