/-
  Fuzion.Lemmas.ChainLemmas — the transaction discipline of `Model/Chain.lean`, said once: what one
  dispatched message writes (at most one move in one token ledger, `LedgerStep`; the deposit of an
  operation is such a move too), and `stepF` on a marketplace operation as deposit, handler on the
  pre-state record, dispatch of the emitted messages, with rollback to the original world.

  Which form to reach for.  `op.asExec = some (c, f, msg)` says that `op` is a marketplace call,
  `(stepF fail w op).2.ok = true` that the transaction is accepted.
  * To take a marketplace transaction apart exactly: `stepF_market_cases` (refused deposit, refusing
    handler, failed dispatch, success, each with its intermediate worlds); `stepF_market_full` is
    the same with the three refusals as one case, `stepF_market_eq` the equation behind both,
    `stepF_market_ok` the way back.  A direct call without coins has no deposit: `stepF_exec_nil`
    (for `step`, one direction each: `step_exec_nil_of`, `step_exec_nil_inv`), and
    `stepF_exec_silent` for a message known beforehand to emit nothing.
  * To use that it was accepted: `stepF_ok_iff` (exactly when), `stepF_ok_execute` (the handler
    accepted on the pre-state record and environment, its result is the new record and the reported
    messages, no core field changed); `stepF_ok_cases` is that or a refusal, by cases on `ok`.
  * For an operation of any kind: `stepF_cases` (refused, a marketplace transaction, or one of the
    three other accepted operations, each with its equation; without the marketplace case it is
    `stepF_nonmarket_cases`, and `stepF_nonmarket` says what such an operation leaves alone);
    `stepF_mkt_cases` if only the record and the messages matter.
  * For a refusal: `stepF_failed_noop` (a failed transaction of any kind returns `w`),
    `stepF_refused` (a marketplace call the handler refuses fails), `stepF_market_err` (which error
    a refused marketplace transaction reports).
  * `step_effect` gives the accepted message of a fault-free transaction as an `Effect`, with deposit
    and dispatch; under an injected fault, or where `msg.admitted` is needed, that is
    `stepF_ok_execute` followed by `execute_effect`.  `step_effect` and `step_exec_nil_inv` take the
    transaction as `step w op = (w', o)` with `o.ok = true`, the form of the C05 statements; from
    `(step w op).2.ok = true` pass `(Prod.eta _).symm`.
  What no operation writes is `StaticEq` (`stepF_static`).  A property of the record alone that
  every accepted message keeps goes from `execute` to transactions by `stepF_mkt_inv` and to
  histories by `run_preserves` (if it depends on which operation runs: `stepF_mkt_cases`); any other
  invariant goes to histories by `run_invariant` / `run_induct`.
-/
import Fuzion.Model.Chain
import Fuzion.Lemmas.AListBasic
import Fuzion.Lemmas.Effect
namespace Fuzion

/-- every field but the three token ledgers and `mkt`, written `w'.x = w.x`: the way a field
    rewrites a goal about the later world into one about the earlier -/
structure CoreEq (w w' : World) : Prop where
  self : w'.self = w.self
  pool : w'.pool = w.pool
  regAddr : w'.regAddr = w.regAddr
  junoD : w'.junoD = w.junoD
  usdcD : w'.usdcD = w.usdcD
  nowNs : w'.nowNs = w.nowNs
  height : w'.height = w.height
  reg : w'.reg = w.reg
  contracts : w'.contracts = w.contracts

theorem CoreEq.refl (w : World) : CoreEq w w := ⟨rfl, rfl, rfl, rfl, rfl, rfl, rfl, rfl, rfl⟩

theorem CoreEq.setMkt (w : World) (m' : Market) : CoreEq w { w with mkt := m' } :=
  ⟨rfl, rfl, rfl, rfl, rfl, rfl, rfl, rfl, rfl⟩

theorem CoreEq.trans {a b c : World} (h1 : CoreEq a b) (h2 : CoreEq b c) : CoreEq a c :=
  ⟨h2.self.trans h1.self, h2.pool.trans h1.pool, h2.regAddr.trans h1.regAddr,
   h2.junoD.trans h1.junoD, h2.usdcD.trans h1.usdcD, h2.nowNs.trans h1.nowNs,
   h2.height.trans h1.height, h2.reg.trans h1.reg, h2.contracts.trans h1.contracts⟩

theorem CoreEq.kindOf {w w' : World} (h : CoreEq w w') (a : Nat) : w'.kindOf a = w.kindOf a := by
  simp [World.kindOf, h.contracts]

theorem CoreEq.env {w w' : World} (h : CoreEq w w') : w'.env = w.env := by
  simp [World.env, World.kindOf, h.self, h.nowNs, h.junoD, h.usdcD, h.regAddr, h.contracts, h.reg]

theorem CoreEq.regEnv {w w' : World} (h : CoreEq w w') : w'.regEnv = w.regEnv := by
  simp [World.regEnv, World.kindOf, h.height, h.contracts]

theorem isHonest20_iff {w : World} {t : Nat} :
    w.isHonest20 t = true ↔ ∃ ci, w.kindOf t = some ci ∧ ci.kind = 1 := by
  unfold World.isHonest20
  cases w.kindOf t <;> simp

theorem isHonest721_iff {w : World} {c : Nat} :
    w.isHonest721 c = true ↔ ∃ ci, w.kindOf c = some ci ∧ ci.kind = 2 := by
  unfold World.isHonest721
  cases w.kindOf c <;> simp

theorem isContract_of_honest721 {w : World} {c : Nat} (h : w.isHonest721 c = true) :
    w.env.isContract c = true := by
  obtain ⟨ci, hk, _⟩ := isHonest721_iff.1 h
  exact congrArg Option.isSome hk

theorem env_isToken20_iff {w : World} {a : Nat} :
    w.env.isToken20 a = true ↔ ∃ ci, w.kindOf a = some ci ∧ ci.tokenInfo = true := by
  simp only [World.env]
  cases w.kindOf a <;> simp

theorem CoreEq.isHonest20 {w w' : World} (h : CoreEq w w') (a : Nat) :
    w'.isHonest20 a = w.isHonest20 a := by
  simp only [World.isHonest20, h.kindOf]

theorem CoreEq.isHonest721 {w w' : World} (h : CoreEq w w') (a : Nat) :
    w'.isHonest721 a = w.isHonest721 a := by
  simp only [World.isHonest721, h.kindOf]

theorem dispatch1_bankSend {w w' : World} {to : Nat} {coins : List Coin} :
    dispatch1 w (.bankSend to coins) = some w' ↔
    ∃ b, bankSend w.bank w.self to coins = some b ∧ w' = { w with bank := b } := by
  simp only [dispatch1]
  cases bankSend w.bank w.self to coins <;> simp [eq_comm (a := w')]

theorem dispatch1_fundPool {w w' : World} {dep : Nat} {coin : Coin} :
    dispatch1 w (.fundPool dep coin) = some w' ↔
    dep = w.self ∧ ∃ b, bankSend w.bank w.self w.pool [coin] = some b ∧ w' = { w with bank := b } := by
  simp only [dispatch1]
  cases bankSend w.bank w.self w.pool [coin] <;> simp [eq_comm (a := w')]

/-- a call to a token contract: an honest one of the expected kind `K` does `X`, a hostile one
    refuses or does nothing, anything else is an error.  The `match` restates the one in
    `dispatch1` and Lean compiles it to a matcher of its own; the `Iff.trans` in the two lemmas
    below goes through all the same, because it unifies up to unfolding and both matchers unfold to
    the same `Option.casesOn`. -/
theorem tokenCall_eq_some {w w' : World} {o : Option ContractInfo} {K : Nat} (hK : K ≠ 3)
    {X : Option World} :
    (match o with
      | none => none
      | some ci =>
        if ci.kind = K then X
        else if ci.kind = 3 then (if ci.fails then none else some w)
        else none) = some w' ↔
    ∃ ci, o = some ci ∧ ((ci.kind = K ∧ X = some w') ∨ (ci.kind = 3 ∧ ci.fails = false ∧ w' = w)) := by
  cases o with
  | none => simp
  | some ci =>
    by_cases h1 : ci.kind = K
    · simp [h1, hK]
    · by_cases h3 : ci.kind = 3 <;> simp [h1, h3, Ne.symm hK, eq_comm (a := w')]

theorem dispatch1_cw20Transfer {w w' : World} {token to amt : Nat} :
    dispatch1 w (.cw20Transfer token to amt) = some w' ↔
    ∃ ci, w.kindOf token = some ci ∧
      ((ci.kind = 1 ∧ amt ≠ 0 ∧ ∃ l, ledgerMove w.cw20 token w.self to amt = some l ∧
          w' = { w with cw20 := l }) ∨
       (ci.kind = 3 ∧ ci.fails = false ∧ w' = w)) := by
  refine (tokenCall_eq_some (K := 1) (by decide)).trans ?_
  cases ledgerMove w.cw20 token w.self to amt <;> simp [eq_comm (a := w')]

theorem dispatch1_nftTransfer {w w' : World} {coll tid to : Nat} :
    dispatch1 w (.nftTransfer coll tid to) = some w' ↔
    ∃ ci, w.kindOf coll = some ci ∧
      ((ci.kind = 2 ∧ alookup (coll, tid) w.nft = some w.self ∧
          w' = { w with nft := lset w.nft (coll, tid) to }) ∨
       (ci.kind = 3 ∧ ci.fails = false ∧ w' = w)) := by
  refine (tokenCall_eq_some (K := 2) (by decide)).trans ?_
  simp [eq_comm (a := w')]

/-- `w'` is `w` after at most one write to a token ledger, on behalf of account `src`: coins `src`
    sends through the bank, units of a CW20 token `src` transfers, an NFT of an honest collection
    `src` owns and gives away.  The deposit of an operation and every dispatched message are of
    this kind (`deposit_step`, `dispatch1_step`), so what one such move keeps is kept by a
    transaction.  Only `nft` records that the contract is honest: that the NFT ledger knows honest
    collections only is an invariant (`NftLedgerOk`), nothing of the kind is kept about CW20. -/
inductive LedgerStep (src : Nat) (w : World) : World → Prop
  | same : LedgerStep src w w
  | bank {dst : Nat} {cs : List Coin} {b : Ledger} :
      bankSend w.bank src dst cs = some b → LedgerStep src w { w with bank := b }
  | cw20 {t dst amt : Nat} {l : Ledger} :
      ledgerMove w.cw20 t src dst amt = some l → LedgerStep src w { w with cw20 := l }
  | nft {c tid : Nat} (dst : Nat) :
      w.isHonest721 c = true → alookup (c, tid) w.nft = some src →
      LedgerStep src w { w with nft := lset w.nft (c, tid) dst }

theorem LedgerStep.core {src : Nat} {w w' : World} (h : LedgerStep src w w') :
    CoreEq w w' ∧ w'.mkt = w.mkt := by
  cases h <;> exact ⟨⟨rfl, rfl, rfl, rfl, rfl, rfl, rfl, rfl, rfl⟩, rfl⟩

/-- one dispatched message is one move out of the marketplace's account (none, if a hostile
    contract swallows it) -/
theorem dispatch1_step {w w' : World} {x : OutMsg} (h : dispatch1 w x = some w') :
    LedgerStep w.self w w' := by
  cases x with
  | bankSend to coins =>
    obtain ⟨b, hb, rfl⟩ := dispatch1_bankSend.1 h
    exact .bank hb
  | fundPool dep coin =>
    obtain ⟨_, b, hb, rfl⟩ := dispatch1_fundPool.1 h
    exact .bank hb
  | cw20Transfer token to amt =>
    obtain ⟨ci, _, ⟨_, _, l, hl, rfl⟩ | ⟨_, _, rfl⟩⟩ := dispatch1_cw20Transfer.1 h
    · exact .cw20 hl
    · exact .same
  | nftTransfer coll tid to =>
    obtain ⟨ci, hci, ⟨hk, hown, rfl⟩ | ⟨_, _, rfl⟩⟩ := dispatch1_nftTransfer.1 h
    · exact .nft to (isHonest721_iff.2 ⟨ci, hci, hk⟩) hown
    · exact .same

theorem dispatchAll_cons {fail : Nat → Bool} {w w' : World} {m : OutMsg} {ms : List OutMsg} {i : Nat} :
    dispatchAll fail w (m :: ms) i = some w' ↔
    fail i = false ∧ ∃ w1, dispatch1 w m = some w1 ∧ dispatchAll fail w1 ms (i + 1) = some w' := by
  simp only [dispatchAll]
  cases fail i <;> cases dispatch1 w m <;> simp

/-- a relation between the world before, the messages and the world after that holds for no
    message and extends by one dispatched message holds of `dispatchAll` -/
theorem dispatchAll_rel {R : World → List OutMsg → World → Prop} (nil : ∀ w, R w [] w)
    (cons : ∀ {w w1 w' x ms}, dispatch1 w x = some w1 → R w1 ms w' → R w (x :: ms) w')
    {fail : Nat → Bool} {ms : List OutMsg} :
    ∀ {w w' : World} {i : Nat}, dispatchAll fail w ms i = some w' → R w ms w' := by
  induction ms with
  | nil =>
    intro w w' i h
    cases h
    exact nil w
  | cons x ms ih =>
    intro w w' i h
    obtain ⟨_, w1, h1, h⟩ := dispatchAll_cons.1 h
    exact cons h1 (ih h)

theorem dispatchAll_frame {fail : Nat → Bool} {msgs : List OutMsg} {w w' : World} {i : Nat}
    (h : dispatchAll fail w msgs i = some w') : CoreEq w w' ∧ w'.mkt = w.mkt :=
  dispatchAll_rel (R := fun w _ w' => CoreEq w w' ∧ w'.mkt = w.mkt) (fun w => ⟨CoreEq.refl w, rfl⟩)
    (fun h1 f2 => ⟨(dispatch1_step h1).core.1.trans f2.1, f2.2.trans (dispatch1_step h1).core.2⟩) h

theorem dispatchAll_reg {fail : Nat → Bool} {msgs : List OutMsg} {w w' : World} {i : Nat}
    (h : dispatchAll fail w msgs i = some w') : w'.reg = w.reg := (dispatchAll_frame h).1.reg

/-- the marketplace call an operation amounts to, `(info.sender, info.funds, message)`: a token send
    reaches the marketplace as the token contract's hook call without coins -/
def Op.asExec : Op → Option (Nat × List Coin × ExecMsg)
  | .exec s f m => some (s, f, m)
  | .send20 t s a i => some (t, [], .receive (.valid s) a i)
  | .send721 c s t i => some (c, [], .receiveNft (.valid s) t i)
  | _ => none

/-- a message that takes no coins reaches the marketplace only as a direct `exec` (the two hooks
    take coins) -/
theorem asExec_of_noCoins {op : Op} {c : Nat} {f : List Coin} {msg : ExecMsg}
    (h : op.asExec = some (c, f, msg)) (hk : msg.takesCoins = false) : op = .exec c f msg := by
  cases op with
  | exec s fu m => cases h; rfl
  | send20 t s a i => cases h; cases hk
  | send721 co s t i => cases h; cases hk
  | royalty s m => cases h
  | setAdmin s c n => cases h
  | advance a b => cases h

/-- The world in which the handler runs: the attached coins / the CW20 amount / the NFT have
    already moved to the marketplace.  `.error` = the move itself is refused. -/
def Op.deposit (w : World) : Op → Except Err World
  | .exec sender funds _ =>
    if funds.isEmpty then .ok w
    else
      match bankSend w.bank sender w.self funds with
      | none => .error .insufficient
      | some b => .ok { w with bank := b }
  | .send20 token sender amount _ =>
    if !w.isHonest20 token then .error .badToken
    else if amount = 0 then .error .badFunds
    else
      match ledgerMove w.cw20 token sender w.self amount with
      | none => .error .insufficient
      | some l => .ok { w with cw20 := l }
  | .send721 coll sender tid _ =>
    if !w.isHonest721 coll then .error .badToken
    else if alookup (coll, tid) w.nft ≠ some sender then .error .notOwner
    else .ok { w with nft := lset w.nft (coll, tid) w.self }
  | _ => .ok w

def Op.payer : Op → Option Nat
  | .exec s _ _ => some s
  | .send20 _ s _ _ => some s
  | .send721 _ s _ _ => some s
  | _ => none

section
variable {w w1 : World}

theorem deposit_exec {s : Nat} {f : List Coin} {msg : ExecMsg} :
    (Op.exec s f msg).deposit w = .ok w1 ↔
    (f = [] ∧ w1 = w) ∨ ∃ b, bankSend w.bank s w.self f = some b ∧ w1 = { w with bank := b } := by
  cases f with
  | nil => simp [Op.deposit, bankSend, eq_comm (a := w1)]
  | cons c cs => cases h : bankSend w.bank s w.self (c :: cs) <;> simp [Op.deposit, h, eq_comm (a := w1)]

theorem deposit_send20 {t s a : Nat} {i : Option Inner} :
    (Op.send20 t s a i).deposit w = .ok w1 ↔
    w.isHonest20 t = true ∧ a ≠ 0 ∧
      ∃ l, ledgerMove w.cw20 t s w.self a = some l ∧ w1 = { w with cw20 := l } := by
  cases h : ledgerMove w.cw20 t s w.self a <;>
    simp [Op.deposit, ite_error_ok, h, eq_comm (a := w1)]

theorem deposit_send721 {c s t : Nat} {i : Option Inner} :
    (Op.send721 c s t i).deposit w = .ok w1 ↔
    w.isHonest721 c = true ∧ alookup (c, t) w.nft = some s ∧
      w1 = { w with nft := lset w.nft (c, t) w.self } := by
  simp [Op.deposit, ite_error_ok, ite_ok_error, eq_comm (a := w1)]

end

theorem deposit_exec_error {w : World} {s : Nat} {f : List Coin} {msg : ExecMsg} {e : Err}
    (h : (Op.exec s f msg).deposit w = .error e) : e = .insufficient := by
  simp only [Op.deposit] at h
  split at h
  · cases h
  · split at h <;> cases h
    rfl

theorem deposit_step {w w1 : World} {op : Op} (h : op.deposit w = .ok w1) :
    w1 = w ∨ ∃ s, op.payer = some s ∧ LedgerStep s w w1 := by
  cases op with
  | exec s fu m =>
    rcases deposit_exec.1 h with ⟨_, rfl⟩ | ⟨b, hb, rfl⟩
    · exact .inl rfl
    · exact .inr ⟨s, rfl, .bank hb⟩
  | send20 t s a i =>
    obtain ⟨_, _, l, hl, rfl⟩ := deposit_send20.1 h
    exact .inr ⟨s, rfl, .cw20 hl⟩
  | send721 co s t i =>
    obtain ⟨hh, hown, rfl⟩ := deposit_send721.1 h
    exact .inr ⟨s, rfl, .nft _ hh hown⟩
  | _ => cases h; exact .inl rfl

theorem deposit_core {w w1 : World} {op : Op} (h : op.deposit w = .ok w1) :
    CoreEq w w1 ∧ w1.mkt = w.mkt := by
  rcases deposit_step h with rfl | ⟨_, _, st⟩
  · exact ⟨.refl _, rfl⟩
  · exact st.core

/-- a marketplace transaction as one equation: the deposit, the handler on the pre-state record
    and environment, the dispatch of what it emits; every failure returns `w` -/
theorem stepF_market_eq {fail : Nat → Bool} {w : World} {op : Op} {c : Nat} {f : List Coin}
    {msg : ExecMsg} (ho : op.asExec = some (c, f, msg)) :
    stepF fail w op =
      match op.deposit w with
      | .error e => (w, .fail e)
      | .ok w1 =>
        match execute w.mkt w.env c f msg with
        | .error e => (w, .fail e)
        | .ok (m', msgs) =>
          match dispatchAll fail { w1 with mkt := m' } msgs 0 with
          | none => (w, .fail .dispatch)
          | some w2 => (w2, ⟨true, none, msgs⟩) := by
  -- `stepF` is the deposit, then `runMarket` on the world `w1` after it, with rollback to `w`
  have hrun : stepF fail w op =
      match op.deposit w with
      | .error e => (w, .fail e)
      | .ok w1 => runMarket fail w w1 c f msg := by
    cases op with
    | exec s fu m =>
      cases ho
      simp only [stepF, Op.deposit]
      split
      · rfl
      · cases bankSend w.bank c w.self f <;> rfl
    | send20 t s a i =>
      cases ho
      simp only [stepF, Op.deposit]
      split
      · rfl
      · split
        · rfl
        · cases ledgerMove w.cw20 c s w.self a <;> rfl
    | send721 co s t i =>
      cases ho
      simp only [stepF, Op.deposit]
      split
      · rfl
      · split <;> rfl
    | royalty s m => cases ho
    | setAdmin s c n => cases ho
    | advance a b => cases ho
  -- … and the deposit leaves record and environment alone, so the handler sees those of `w`
  rw [hrun]
  cases hd : op.deposit w with
  | error e => rfl
  | ok w1 =>
    obtain ⟨hc, hm⟩ := deposit_core hd
    simp only [runMarket]
    rw [hm, hc.env]
    rfl

theorem stepF_market_cases {fail : Nat → Bool} {w : World} {op : Op} {c : Nat} {f : List Coin}
    {msg : ExecMsg} (ho : op.asExec = some (c, f, msg)) :
    (∃ e, op.deposit w = .error e ∧ stepF fail w op = (w, .fail e)) ∨
    (∃ w1 e, op.deposit w = .ok w1 ∧ execute w.mkt w.env c f msg = .error e ∧
      stepF fail w op = (w, .fail e)) ∨
    (∃ w1 m' msgs, op.deposit w = .ok w1 ∧ execute w.mkt w.env c f msg = .ok (m', msgs) ∧
      dispatchAll fail { w1 with mkt := m' } msgs 0 = none ∧
      stepF fail w op = (w, .fail .dispatch)) ∨
    (∃ w1 m' msgs w2, op.deposit w = .ok w1 ∧ execute w.mkt w.env c f msg = .ok (m', msgs) ∧
      dispatchAll fail { w1 with mkt := m' } msgs 0 = some w2 ∧
      stepF fail w op = (w2, ⟨true, none, msgs⟩)) := by
  rw [stepF_market_eq ho]
  cases hd : op.deposit w with
  | error e => exact .inl ⟨e, rfl, rfl⟩
  | ok w1 =>
    cases hx : execute w.mkt w.env c f msg with
    | error e => exact .inr (.inl ⟨w1, e, rfl, rfl, rfl⟩)
    | ok r =>
      cases hdd : dispatchAll fail { w1 with mkt := r.1 } r.2 0 with
      | none => exact .inr (.inr (.inl ⟨w1, r.1, r.2, rfl, rfl, hdd, by simp only [hdd]⟩))
      | some w2 => exact .inr (.inr (.inr ⟨w1, r.1, r.2, w2, rfl, rfl, hdd, by simp only [hdd]⟩))

theorem stepF_market_full {fail : Nat → Bool} {w : World} {op : Op} {c : Nat} {f : List Coin}
    {msg : ExecMsg} (ho : op.asExec = some (c, f, msg)) :
    (∃ e, stepF fail w op = (w, .fail e)) ∨
    (∃ w1 m' msgs w2, op.deposit w = .ok w1 ∧ execute w.mkt w.env c f msg = .ok (m', msgs) ∧
      dispatchAll fail { w1 with mkt := m' } msgs 0 = some w2 ∧
      stepF fail w op = (w2, ⟨true, none, msgs⟩)) := by
  rcases stepF_market_cases (fail := fail) (w := w) ho with
    ⟨e, _, h⟩ | ⟨_, e, _, _, h⟩ | ⟨_, _, _, _, _, _, h⟩ | h
  · exact .inl ⟨e, h⟩
  · exact .inl ⟨e, h⟩
  · exact .inl ⟨_, h⟩
  · exact .inr h

theorem stepF_market_ok {fail : Nat → Bool} {w w1 w2 : World} {op : Op} {c : Nat} {f : List Coin}
    {msg : ExecMsg} {m' : Market} {msgs : List OutMsg} (ho : op.asExec = some (c, f, msg))
    (hd : op.deposit w = .ok w1) (hx : execute w.mkt w.env c f msg = .ok (m', msgs))
    (hdd : dispatchAll fail { w1 with mkt := m' } msgs 0 = some w2) :
    stepF fail w op = (w2, ⟨true, none, msgs⟩) := by
  simp only [stepF_market_eq ho, hd, hx, hdd]

theorem stepF_ok_iff {fail : Nat → Bool} {w : World} {op : Op} {c : Nat} {f : List Coin}
    {msg : ExecMsg} (ho : op.asExec = some (c, f, msg)) :
    (stepF fail w op).2.ok = true ↔
      ∃ w1 m' msgs, op.deposit w = .ok w1 ∧ execute w.mkt w.env c f msg = .ok (m', msgs) ∧
        (dispatchAll fail { w1 with mkt := m' } msgs 0).isSome = true := by
  constructor
  · intro h
    rcases stepF_market_full (fail := fail) (w := w) ho with
      ⟨e, he⟩ | ⟨w1, m', msgs, w2, hd, hx, hdd, _⟩
    · rw [he] at h; cases h
    · exact ⟨w1, m', msgs, hd, hx, by rw [hdd]; rfl⟩
  · rintro ⟨w1, m', msgs, hd, hx, hdd⟩
    obtain ⟨w2, h2⟩ := Option.isSome_iff_exists.1 hdd
    rw [stepF_market_ok ho hd hx h2]

theorem stepF_ok_execute {fail : Nat → Bool} {w : World} {op : Op} {c : Nat} {f : List Coin}
    {msg : ExecMsg} (ho : op.asExec = some (c, f, msg)) (hok : (stepF fail w op).2.ok = true) :
    execute w.mkt w.env c f msg = .ok ((stepF fail w op).1.mkt, (stepF fail w op).2.msgs) ∧
      CoreEq w (stepF fail w op).1 := by
  rcases stepF_market_full (fail := fail) (w := w) ho with
    ⟨e, hs⟩ | ⟨w1, m', msgs, w2, hd, hx, hdd, hs⟩
  · rw [hs] at hok; cases hok
  · obtain ⟨f1, rfl⟩ := dispatchAll_frame hdd
    rw [hs]
    exact ⟨hx, (deposit_core hd).1.trans ((CoreEq.setMkt w1 _).trans f1)⟩

theorem stepF_refused {fail : Nat → Bool} {w : World} {op : Op} {c : Nat} {f : List Coin}
    {msg : ExecMsg} {e : Err} (ho : op.asExec = some (c, f, msg))
    (hx : execute w.mkt w.env c f msg = .error e) :
    (stepF fail w op).2.ok = false ∧ (stepF fail w op).1 = w := by
  rcases stepF_market_full (fail := fail) (w := w) ho with ⟨e', h⟩ | ⟨_, _, _, _, _, hx', _⟩
  · rw [h]
    exact ⟨rfl, rfl⟩
  · rw [hx] at hx'; cases hx'

theorem stepF_market_err {fail : Nat → Bool} {w : World} {op : Op} {c : Nat} {f : List Coin}
    {msg : ExecMsg} (ho : op.asExec = some (c, f, msg)) {e : Err}
    (h : (stepF fail w op).2.err = some e) :
    op.deposit w = .error e ∨ execute w.mkt w.env c f msg = .error e ∨ e = .dispatch := by
  rcases stepF_market_cases (fail := fail) (w := w) ho with
    ⟨e', hd, hs⟩ | ⟨_, e', _, hx, hs⟩ | ⟨_, _, _, _, _, _, hs⟩ | ⟨_, _, _, _, _, _, _, hs⟩ <;>
    rw [hs] at h <;> cases h
  · exact .inl hd
  · exact .inr (.inl hx)
  · exact .inr (.inr rfl)

/-- a message the entry point refuses, as a transaction: it fails in the deposit (the sender does
    not have the attached coins) or in the entry point -/
theorem step_exec_refused {w : World} {s : Nat} {funds : List Coin} {msg : ExecMsg} {e0 : Err}
    (hx : execute w.mkt w.env s funds msg = .error e0) :
    ∃ e, step w (.exec s funds msg) = (w, .fail e) ∧ (e = e0 ∨ e = .insufficient) := by
  rcases stepF_market_cases (fail := noFault) (w := w) (op := .exec s funds msg) rfl with
    ⟨e, hd, h⟩ | ⟨_, e, _, hx', h⟩ | ⟨_, _, _, _, hx', _⟩ | ⟨_, _, _, _, _, hx', _⟩
  · exact ⟨e, h, .inr (deposit_exec_error hd)⟩
  · rw [hx] at hx'
    cases hx'
    exact ⟨_, h, .inl rfl⟩
  · rw [hx] at hx'; cases hx'
  · rw [hx] at hx'; cases hx'

theorem step_effect {w w' : World} {o : Outcome} {op : Op} {c : Nat} {f : List Coin} {msg : ExecMsg}
    (ho : op.asExec = some (c, f, msg)) (hs : step w op = (w', o)) (hok : o.ok = true) :
    ∃ w1 m' msgs u a msg', op.deposit w = .ok w1 ∧ msg.unwrap c f = some (u, a, msg') ∧
      Effect w.mkt w.env u a msg' m' msgs ∧
      dispatchAll noFault { w1 with mkt := m' } msgs 0 = some w' ∧ o.msgs = msgs := by
  rcases stepF_market_full (fail := noFault) (w := w) ho with ⟨e, he⟩ | ⟨w1, m', msgs, w2, hD, hx, hd, h⟩
  · rw [step, he] at hs
    cases hs
    cases hok
  · rw [step, h] at hs
    cases hs
    obtain ⟨_, u, a, msg', hu, e⟩ := execute_effect hx
    exact ⟨w1, m', msgs, u, a, msg', hD, hu, e, hd, rfl⟩

theorem stepF_exec_nil (fail : Nat → Bool) (w : World) (x : Nat) (msg : ExecMsg) :
    (∃ e, stepF fail w (.exec x [] msg) = (w, .fail e)) ∨
    ∃ m' msgs w2, execute w.mkt w.env x [] msg = .ok (m', msgs) ∧
      dispatchAll fail { w with mkt := m' } msgs 0 = some w2 ∧
      stepF fail w (.exec x [] msg) = (w2, ⟨true, none, msgs⟩) := by
  rcases stepF_market_full (fail := fail) (w := w) (op := .exec x [] msg) rfl with
    h | ⟨w1, m', msgs, w2, hd, hx, hdd, hs⟩
  · exact .inl h
  · cases hd
    exact .inr ⟨m', msgs, w2, hx, hdd, hs⟩

theorem step_exec_nil_of {w : World} {x : Nat} {msg : ExecMsg} {m' : Market} {msgs : List OutMsg}
    {w2 : World} (hx : execute w.mkt w.env x [] msg = .ok (m', msgs))
    (hd : dispatchAll noFault { w with mkt := m' } msgs 0 = some w2) :
    step w (.exec x [] msg) = (w2, ⟨true, none, msgs⟩) :=
  stepF_market_ok (op := .exec x [] msg) rfl rfl hx hd

theorem step_exec_nil_inv {w w' : World} {o : Outcome} {x : Nat} {msg : ExecMsg}
    (hs : step w (.exec x [] msg) = (w', o)) (hok : o.ok = true) :
    execute w.mkt w.env x [] msg = .ok (w'.mkt, o.msgs) ∧
    dispatchAll noFault { w with mkt := w'.mkt } o.msgs 0 = some w' := by
  rcases stepF_exec_nil noFault w x msg with ⟨e, he⟩ | ⟨m', msgs, w2, hx, hd, h⟩
  · rw [step, he] at hs
    cases hs
    cases hok
  · rw [step, h] at hs
    cases hs
    obtain rfl : w'.mkt = m' := (dispatchAll_frame hd).2
    exact ⟨hx, hd⟩

/-- `hs`: the message is accepted only without coins and then emits nothing -/
theorem stepF_exec_silent {fail : Nat → Bool} {w : World} {c : Nat} {f : List Coin} {msg : ExecMsg}
    (hs : ∀ {m' out}, execute w.mkt w.env c f msg = .ok (m', out) → f = [] ∧ out = []) :
    (∃ e, stepF fail w (.exec c f msg) = (w, .fail e)) ∨
    (f = [] ∧ ∃ m', execute w.mkt w.env c f msg = .ok (m', []) ∧
      stepF fail w (.exec c f msg) = ({ w with mkt := m' }, ⟨true, none, []⟩)) := by
  rcases stepF_market_full (fail := fail) (w := w) (op := .exec c f msg) rfl with
    h | ⟨w1, m', msgs, w2, hd, hx, hdd, h⟩
  · exact .inl h
  · obtain ⟨rfl, rfl⟩ := hs hx
    cases hd
    cases hdd
    exact .inr ⟨rfl, m', hx, h⟩

/-- the registry transaction: the handler runs on the pre-state registry and the pre-state
    contract table; only `reg` is written -/
theorem stepF_royalty (fail : Nat → Bool) (w : World) (sender : Nat) (msg : RoyMsg) :
    (∃ e, regExecute w.reg w.regEnv sender msg = .error e ∧
        stepF fail w (.royalty sender msg) = (w, .fail e)) ∨
    (∃ r, regExecute w.reg w.regEnv sender msg = .ok r ∧
        stepF fail w (.royalty sender msg) = ({ w with reg := r }, ⟨true, none, []⟩)) := by
  simp only [stepF]
  cases h : regExecute w.reg w.regEnv sender msg with
  | error e => exact .inl ⟨e, rfl, rfl⟩
  | ok r => exact .inr ⟨r, rfl, rfl⟩

theorem stepF_royalty_ok {fail : Nat → Bool} {w : World} {sender : Nat} {msg : RoyMsg} {r : Registry}
    (h : regExecute w.reg w.regEnv sender msg = .ok r) :
    stepF fail w (.royalty sender msg) = ({ w with reg := r }, ⟨true, none, []⟩) := by
  simp only [stepF, h]

theorem stepF_nonmarket_cases {fail : Nat → Bool} {w : World} {op : Op} (ho : op.asExec = none) :
    (∃ e, stepF fail w op = (w, .fail e)) ∨
    (∃ s m r, op = .royalty s m ∧ regExecute w.reg w.regEnv s m = .ok r ∧
      stepF fail w op = ({ w with reg := r }, ⟨true, none, []⟩)) ∨
    (∃ s c n ci, op = .setAdmin s c n ∧ w.kindOf c = some ci ∧ ci.admin = some s ∧
      stepF fail w op =
        ({ w with contracts := ainsert c { ci with admin := n } w.contracts }, ⟨true, none, []⟩)) ∨
    ∃ dNs dH, op = .advance dNs dH ∧
      stepF fail w op =
        ({ w with nowNs := w.nowNs + dNs, height := w.height + dH }, ⟨true, none, []⟩) := by
  cases op with
  | exec s fu m => cases ho
  | send20 t s a i => cases ho
  | send721 co s t i => cases ho
  | royalty s m =>
    rcases stepF_royalty fail w s m with ⟨e, _, h⟩ | ⟨r, hr, h⟩
    · exact .inl ⟨e, h⟩
    · exact .inr (.inl ⟨s, m, r, rfl, hr, h⟩)
  | setAdmin s c n =>
    cases hk : w.kindOf c with
    | none => exact .inl ⟨.noSuchContract, by simp only [stepF, hk]⟩
    | some ci =>
      by_cases ha : ci.admin = some s
      · exact .inr (.inr (.inl ⟨s, c, n, ci, rfl, hk, ha, by simp [stepF, hk, ha]⟩))
      · exact .inl ⟨.notAdmin, by simp [stepF, hk, ha]⟩
  | advance a b => exact .inr (.inr (.inr ⟨a, b, rfl, rfl⟩))

theorem stepF_cases (fail : Nat → Bool) (w : World) (op : Op) :
    (∃ e, stepF fail w op = (w, .fail e)) ∨
    (∃ c f msg m' msgs w2, op.asExec = some (c, f, msg) ∧
      execute w.mkt w.env c f msg = .ok (m', msgs) ∧ w2.mkt = m' ∧ CoreEq w w2 ∧
      stepF fail w op = (w2, ⟨true, none, msgs⟩)) ∨
    (∃ s m r, op = .royalty s m ∧ regExecute w.reg w.regEnv s m = .ok r ∧
      stepF fail w op = ({ w with reg := r }, ⟨true, none, []⟩)) ∨
    (∃ s c n ci, op = .setAdmin s c n ∧ w.kindOf c = some ci ∧ ci.admin = some s ∧
      stepF fail w op =
        ({ w with contracts := ainsert c { ci with admin := n } w.contracts }, ⟨true, none, []⟩)) ∨
    ∃ dNs dH, op = .advance dNs dH ∧
      stepF fail w op =
        ({ w with nowNs := w.nowNs + dNs, height := w.height + dH }, ⟨true, none, []⟩) := by
  cases ho : op.asExec with
  | some t =>
    obtain ⟨c, f, msg⟩ := t
    rcases stepF_market_full (fail := fail) (w := w) ho with h | ⟨_, _, msgs, w2, _, _, _, hs⟩
    · exact .inl h
    · have h := stepF_ok_execute (fail := fail) (w := w) ho (by rw [hs])
      rw [hs] at h
      exact .inr (.inl ⟨c, f, msg, w2.mkt, msgs, w2, rfl, h.1, rfl, h.2, hs⟩)
  | none => exact (stepF_nonmarket_cases ho).imp id .inr

theorem stepF_msgs_of_asExec_none (fail : Nat → Bool) {w : World} {op : Op}
    (ho : op.asExec = none) : (stepF fail w op).2.msgs = [] := by
  rcases stepF_nonmarket_cases (fail := fail) (w := w) ho with
    ⟨_, h⟩ | ⟨_, _, _, _, _, h⟩ | ⟨_, _, _, _, _, _, _, h⟩ | ⟨_, _, _, h⟩ <;> rw [h] <;> rfl

theorem stepF_failed (fail : Nat → Bool) (w : World) (op : Op)
    (h : (stepF fail w op).2.ok = false) : ∃ e, stepF fail w op = (w, .fail e) := by
  rcases stepF_cases fail w op with he | ⟨_, _, _, _, _, _, _, _, _, _, hs⟩ | ⟨_, _, _, _, _, hs⟩ |
    ⟨_, _, _, _, _, _, _, hs⟩ | ⟨_, _, _, hs⟩
  · exact he
  all_goals rw [hs] at h; cases h

theorem stepF_failed_noop (fail : Nat → Bool) (w : World) (op : Op)
    (h : (stepF fail w op).2.ok = false) : (stepF fail w op).1 = w := by
  obtain ⟨e, he⟩ := stepF_failed fail w op h
  rw [he]

theorem stepF_failed_msgs (fail : Nat → Bool) (w : World) (op : Op)
    (h : (stepF fail w op).2.ok = false) : (stepF fail w op).2.msgs = [] := by
  obtain ⟨e, he⟩ := stepF_failed fail w op h
  rw [he]; rfl

theorem stepF_ok_cases {fail : Nat → Bool} {w : World} {op : Op} {c : Nat} {f : List Coin}
    {msg : ExecMsg} (ho : op.asExec = some (c, f, msg)) :
    ((stepF fail w op).2.ok = false ∧ (stepF fail w op).1 = w) ∨
    ((stepF fail w op).2.ok = true ∧
      execute w.mkt w.env c f msg = .ok ((stepF fail w op).1.mkt, (stepF fail w op).2.msgs) ∧
      CoreEq w (stepF fail w op).1) := by
  cases hok : (stepF fail w op).2.ok with
  | false => exact .inl ⟨rfl, stepF_failed_noop _ _ _ hok⟩
  | true => exact .inr ⟨rfl, stepF_ok_execute ho hok⟩

def Op.elapseNs : Op → Nat
  | .advance dNs _ => dNs
  | _ => 0

theorem stepF_nowNs (fail : Nat → Bool) (w : World) (op : Op) :
    (stepF fail w op).1.nowNs = w.nowNs + op.elapseNs := by
  have same : (∀ a b, op ≠ .advance a b) → (stepF fail w op).1.nowNs = w.nowNs := fun hop => by
    rcases stepF_cases fail w op with ⟨_, h⟩ | ⟨_, _, _, _, _, _, _, _, _, hc, h⟩ | ⟨_, _, _, _, _, h⟩ |
      ⟨_, _, _, _, _, _, _, h⟩ | ⟨a, b, e, _⟩
    · rw [h]
    · rw [h]; exact hc.nowNs
    · rw [h]
    · rw [h]
    · exact absurd e (hop a b)
  cases op with
  | advance dNs dH => rfl
  | _ => exact same fun _ _ e => nomatch e

theorem stepF_height (fail : Nat → Bool) (w : World) (op : Op) : w.height ≤ (stepF fail w op).1.height := by
  rcases stepF_cases fail w op with ⟨_, h⟩ | ⟨_, _, _, _, _, _, _, _, _, hc, h⟩ | ⟨_, _, _, _, _, h⟩ |
    ⟨_, _, _, _, _, _, _, h⟩ | ⟨_, _, _, h⟩ <;> rw [h]
  · exact Nat.le_refl _
  · exact Nat.le_of_eq hc.height.symm
  · exact Nat.le_refl _
  · exact Nat.le_refl _
  · exact Nat.le_add_right _ _

theorem stepF_reg_cases (fail : Nat → Bool) (w : World) (op : Op) :
    (stepF fail w op).1.reg = w.reg ∨
    ∃ s m r, op = .royalty s m ∧ regExecute w.reg w.regEnv s m = .ok r ∧
      stepF fail w op = ({ w with reg := r }, ⟨true, none, []⟩) := by
  rcases stepF_cases fail w op with ⟨_, h⟩ | ⟨_, _, _, _, _, _, _, _, _, hc, h⟩ | hr |
    ⟨_, _, _, _, _, _, _, h⟩ | ⟨_, _, _, h⟩
  · rw [h]; exact .inl rfl
  · rw [h]; exact .inl hc.reg
  · exact .inr hr
  · rw [h]; exact .inl rfl
  · rw [h]; exact .inl rfl

theorem stepF_reg (fail : Nat → Bool) {w : World} {op : Op} (hop : ∀ s m, op ≠ .royalty s m) :
    (stepF fail w op).1.reg = w.reg :=
  (stepF_reg_cases fail w op).resolve_right fun ⟨s, m, _, h, _⟩ => hop s m h

theorem stepF_regAddr (fail : Nat → Bool) (w : World) (op : Op) :
    (stepF fail w op).1.regAddr = w.regAddr := by
  rcases stepF_cases fail w op with ⟨_, h⟩ | ⟨_, _, _, _, _, _, _, _, _, hc, h⟩ | ⟨_, _, _, _, _, h⟩ |
    ⟨_, _, _, _, _, _, _, h⟩ | ⟨_, _, _, h⟩ <;> rw [h]
  exact hc.regAddr

/-- a change of admin is the only write to the contract table, and it keeps every kind -/
theorem stepF_kind (fail : Nat → Bool) (w : World) (op : Op) (a : Nat) :
    ((stepF fail w op).1.kindOf a).map (·.kind) = (w.kindOf a).map (·.kind) := by
  rcases stepF_cases fail w op with ⟨_, h⟩ | ⟨_, _, _, _, _, _, _, _, _, hc, h⟩ | ⟨_, _, _, _, _, h⟩ |
    ⟨_, c, n, ci, _, hk, _, h⟩ | ⟨_, _, _, h⟩ <;> rw [h]
  · rw [hc.kindOf]
  · rfl
  · simp only [World.kindOf, alookup_ainsert]
    split
    · next e => rw [e, show alookup c w.contracts = some ci from hk]; rfl
    · rfl
  · rfl

theorem isHonest_of_kind {w w' : World} {a : Nat}
    (h : (w'.kindOf a).map (·.kind) = (w.kindOf a).map (·.kind)) :
    w'.isHonest20 a = w.isHonest20 a ∧ w'.isHonest721 a = w.isHonest721 a := by
  unfold World.isHonest20 World.isHonest721
  revert h
  cases w'.kindOf a <;> cases w.kindOf a <;> simp +contextual

/-- fields no operation ever changes.  `contracts` is not one (`setAdmin` rewrites an entry) but
    the kinds in it are (`stepF_kind`), hence the two honesty predicates.  `regAddr` is just as
    constant and has lemmas of its own, `stepF_regAddr` and `run_regAddr`. -/
structure StaticEq (w w' : World) : Prop where
  self : w'.self = w.self
  pool : w'.pool = w.pool
  junoD : w'.junoD = w.junoD
  usdcD : w'.usdcD = w.usdcD
  honest20 : ∀ a, w'.isHonest20 a = w.isHonest20 a
  honest721 : ∀ a, w'.isHonest721 a = w.isHonest721 a

theorem StaticEq.refl (w : World) : StaticEq w w := ⟨rfl, rfl, rfl, rfl, fun _ => rfl, fun _ => rfl⟩

theorem StaticEq.trans {a b c : World} (h1 : StaticEq a b) (h2 : StaticEq b c) : StaticEq a c :=
  ⟨h2.self.trans h1.self, h2.pool.trans h1.pool, h2.junoD.trans h1.junoD, h2.usdcD.trans h1.usdcD,
    fun x => (h2.honest20 x).trans (h1.honest20 x), fun x => (h2.honest721 x).trans (h1.honest721 x)⟩

/-! Side conditions on the addresses (`x` is not the marketplace, not the pool; the pool is not the
marketplace) are asked of the first world; no operation changes them (`run_static`). -/

theorem StaticEq.ne_self {w w' : World} (h : StaticEq w w') {x : Nat} (hx : x ≠ w.self) :
    x ≠ w'.self := h.self ▸ hx

theorem StaticEq.ne_pool {w w' : World} (h : StaticEq w w') {x : Nat} (hx : x ≠ w.pool) :
    x ≠ w'.pool := h.pool ▸ hx

theorem StaticEq.pool_ne_self {w w' : World} (h : StaticEq w w') (hp : w.pool ≠ w.self) :
    w'.pool ≠ w'.self := by rw [h.self, h.pool]; exact hp

theorem stepF_static (fail : Nat → Bool) (w : World) (op : Op) : StaticEq w (stepF fail w op).1 := by
  have hk := fun a => isHonest_of_kind (stepF_kind fail w op a)
  rcases stepF_cases fail w op with ⟨_, h⟩ | ⟨_, _, _, _, _, _, _, _, _, hc, h⟩ | ⟨_, _, _, _, _, h⟩ |
    ⟨_, _, _, _, _, _, _, h⟩ | ⟨_, _, _, h⟩ <;> rw [h] at hk ⊢
  · exact ⟨rfl, rfl, rfl, rfl, fun a => (hk a).1, fun a => (hk a).2⟩
  · exact ⟨hc.self, hc.pool, hc.junoD, hc.usdcD, fun a => (hk a).1, fun a => (hk a).2⟩
  all_goals exact ⟨rfl, rfl, rfl, rfl, fun a => (hk a).1, fun a => (hk a).2⟩

theorem stepF_nonmarket {fail : Nat → Bool} {w : World} {op : Op} (ho : op.asExec = none) :
    (stepF fail w op).1.bank = w.bank ∧ (stepF fail w op).1.cw20 = w.cw20 ∧
    (stepF fail w op).1.nft = w.nft ∧ (stepF fail w op).1.mkt = w.mkt ∧
    StaticEq w (stepF fail w op).1 := by
  have hs := stepF_static fail w op
  rcases stepF_nonmarket_cases (fail := fail) (w := w) ho with
    ⟨_, h⟩ | ⟨_, _, _, _, _, h⟩ | ⟨_, _, _, _, _, _, _, h⟩ | ⟨_, _, _, h⟩ <;> rw [h] at hs ⊢ <;>
    exact ⟨rfl, rfl, rfl, rfl, hs⟩

theorem stepF_mkt_of_asExec_none {fail : Nat → Bool} {w : World} {op : Op}
    (ho : op.asExec = none) : (stepF fail w op).1.mkt = w.mkt :=
  (stepF_nonmarket ho).2.2.2.1

theorem stepF_mkt_cases (fail : Nat → Bool) (w : World) (op : Op) :
    ((stepF fail w op).1.mkt = w.mkt ∧ (stepF fail w op).2.msgs = []) ∨
    ∃ c f msg, op.asExec = some (c, f, msg) ∧ (stepF fail w op).2.ok = true ∧
      execute w.mkt w.env c f msg = .ok ((stepF fail w op).1.mkt, (stepF fail w op).2.msgs) ∧
      CoreEq w (stepF fail w op).1 := by
  cases ho : op.asExec with
  | none => exact .inl ⟨stepF_mkt_of_asExec_none ho, stepF_msgs_of_asExec_none fail ho⟩
  | some t =>
    obtain ⟨c, f, msg⟩ := t
    cases hok : (stepF fail w op).2.ok with
    | false => exact .inl ⟨congrArg World.mkt (stepF_failed_noop _ _ _ hok), stepF_failed_msgs _ _ _ hok⟩
    | true => exact .inr ⟨c, f, msg, rfl, rfl, stepF_ok_execute ho hok⟩

/-- every message a transaction reports was emitted by a marketplace call accepted in that world
    (a refused transaction and one that does not reach the marketplace report none); this is how a
    fact about the messages of every accepted call becomes one about every transaction -/
theorem mem_step_msgs {w : World} {op : Op} {x : OutMsg} (hx : x ∈ (step w op).2.msgs) :
    ∃ c f msg m' out, execute w.mkt w.env c f msg = .ok (m', out) ∧ x ∈ out := by
  rcases stepF_mkt_cases noFault w op with ⟨_, hnil⟩ | ⟨c, f, msg, _, _, hex, _⟩
  · rw [step, hnil] at hx; cases hx
  · exact ⟨c, f, msg, _, _, hex, hx⟩

/-- what holds of the record before an operation, and of every result the handler can accept in
    that state, holds after the operation, whatever the injected fault -/
theorem stepF_mkt_inv {P : Market → Prop} {fail : Nat → Bool} {w : World} {op : Op} (h0 : P w.mkt)
    (hP : ∀ {m' : Market} {msgs : List OutMsg} {c : Nat} {f : List Coin} {msg : ExecMsg},
      execute w.mkt w.env c f msg = .ok (m', msgs) → P m') : P (stepF fail w op).1.mkt := by
  rcases stepF_mkt_cases fail w op with ⟨h, _⟩ | ⟨_, _, _, _, _, hx, _⟩
  · rw [h]; exact h0
  · exact hP hx

/-- `P` survives every accepted marketplace message, from EVERY record that satisfies it and in
    EVERY environment, not only from reachable ones.  A `P` that holds only next to `IdsInv` is
    therefore stated as the conjunction with it.  `WFInv j u` cannot be added that way: a purchase
    writes a fee in `feeDenomOf env`, so it is kept only for the environment's own denominations.
    What needs it goes by `stepF_mkt_inv` and `run_invariant` with `w.junoD`, `w.usdcD`, as
    `C12_inv_step` does. -/
def ExecPreserves (P : Market → Prop) : Prop :=
  ∀ (m : Market) (env : Env) (s : Nat) (f : List Coin) (msg : ExecMsg) (m' : Market)
    (out : List OutMsg), P m → execute m env s f msg = .ok (m', out) → P m'

theorem step_preserves {P : Market → Prop} (hP : ExecPreserves P) {w : World} (h : P w.mkt)
    (op : Op) : P (step w op).1.mkt :=
  stepF_mkt_inv h (fun hx => hP _ _ _ _ _ _ _ h hx)

/-- The induction over histories: what every transaction signed off by `Q` keeps holds after any
    history of such transactions.  A relation between the first and the last state is the case
    `P := R w`. -/
theorem run_induct {P : World → Prop} {Q : Op → Prop}
    (hstep : ∀ w op, Q op → P w → P (step w op).1) :
    ∀ (ops : List Op) {w : World}, (∀ op ∈ ops, Q op) → P w → P (run w ops)
  | [], _, _, h => h
  | op :: ops, w, hq, h =>
    run_induct hstep ops (fun o ho => hq o (List.mem_cons_of_mem _ ho))
      (hstep w op (hq op List.mem_cons_self) h)

theorem run_invariant {P : World → Prop} (hstep : ∀ w op, P w → P (step w op).1) (ops : List Op)
    {w : World} (h : P w) : P (run w ops) :=
  run_induct (Q := fun _ => True) (fun w op _ => hstep w op) ops (fun _ _ => trivial) h

theorem run_preserves {P : Market → Prop} (hP : ExecPreserves P) (ops : List Op) {w : World}
    (h : P w.mkt) : P (run w ops).mkt :=
  run_invariant (P := fun w => P w.mkt) (fun _ op h => step_preserves hP h op) ops h

theorem run_append (w : World) (a b : List Op) : run w (a ++ b) = run (run w a) b := by
  induction a generalizing w with
  | nil => rfl
  | cons op ops ih => simp only [List.cons_append, run]; exact ih _

theorem run_take_succ (w0 : World) (ops : List Op) (i : Nat) (hi : i < ops.length) :
    run w0 (ops.take (i + 1)) = (step (run w0 (ops.take i)) ops[i]).1 := by
  rw [List.take_succ_eq_append_getElem hi, run_append]
  rfl

theorem run_static (w : World) (ops : List Op) : StaticEq w (run w ops) :=
  run_invariant (P := StaticEq w) (fun w' op h => h.trans (stepF_static noFault w' op)) ops (.refl w)

/-- `run_induct` whose step may use that the static fields are still those of the first state `w`:
    the form for side conditions that mention one of them, such as "`op` is not signed by `w.self`" -/
theorem run_induct_static {P : World → Prop} {Q : Op → Prop} {w : World}
    (hstep : ∀ w' op, StaticEq w w' → Q op → P w' → P (step w' op).1) (ops : List Op)
    (hq : ∀ op ∈ ops, Q op) (h : P w) : P (run w ops) :=
  (run_induct (P := fun w' => StaticEq w w' ∧ P w')
    (fun w' op hq h => ⟨h.1.trans (stepF_static noFault w' op), hstep w' op h.1 hq h.2⟩) ops hq
    ⟨.refl w, h⟩).2

theorem run_kind (w : World) (ops : List Op) (a : Nat) :
    ((run w ops).kindOf a).map (·.kind) = (w.kindOf a).map (·.kind) :=
  run_invariant (P := fun w' => (w'.kindOf a).map (·.kind) = (w.kindOf a).map (·.kind))
    (fun w' op h => (stepF_kind noFault w' op a).trans h) ops rfl

theorem run_regAddr (w : World) (ops : List Op) : (run w ops).regAddr = w.regAddr :=
  run_invariant (P := fun w' => w'.regAddr = w.regAddr)
    (fun w' op h => (stepF_regAddr noFault w' op).trans h) ops rfl

end Fuzion
