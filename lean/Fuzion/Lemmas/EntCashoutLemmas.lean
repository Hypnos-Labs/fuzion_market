/-
  Fuzion.Lemmas.EntCashoutLemmas — an exit transaction seen from both sides at once: what it takes
  off the entitlements (`EntLoss`, Props/Entitlement.lean) and what it puts into the wallets
  (`PaidOut`, Lemmas/ExitLemmas.lean; `Untouched`, Props/C05.lean); then exit after exit of one
  account from a `Drainable` state (Props/C07.lean) until it has no record left.
-/
import Fuzion.Props.Entitlement
import Fuzion.Props.C05
namespace Fuzion

/-- `r` is the result of a transaction that pays `x` the goods `g` of one record and the pool its `fee` -/
structure CashedOut (w : World) (r : World × Outcome) (x : Nat) (g : GBal) (fee : Option Coin) : Prop where
  ok : r.2.ok = true
  msgs : r.2.msgs = withdrawMsgs w.self x g fee
  ent : EntLoss w.mkt r.1.mkt x g fee
  paid : PaidOut w r.1 x g fee
  others : ∀ y, y ≠ x → y ≠ w.self → y ≠ w.pool → Untouched w r.1 y

theorem cashedOut_of_step {w : World} (hInv : C01Inv w) {x : Nat} {msg : ExecMsg} {g : GBal}
    {fee : Option Coin} (hok : (step w (.exec x [] msg)).2.ok = true)
    (hmsgs : (step w (.exec x [] msg)).2.msgs = withdrawMsgs w.self x g fee)
    (hloss : EntLoss w.mkt (step w (.exec x [] msg)).1.mkt x g fee) (hx : x ≠ w.self)
    (hxp : x ≠ w.pool) : CashedOut w (step w (.exec x [] msg)) x g fee := by
  -- `hd`: the step's new ledgers are the dispatch of its own messages, which `hmsgs` names
  obtain ⟨-, hd⟩ := step_exec_nil_inv (Prod.eta _).symm hok
  have hpaid := paidOut_of_dispatch (hmsgs ▸ hd) hx hxp hInv.pool
  exact ⟨hok, hmsgs, hloss, hpaid, fun _ => hpaid.untouched⟩

theorem exit_listing_cashedOut {w : World} (hInv : C01Inv w) {k : Nat × Nat} {l : Listing}
    (hm : (k, l) ∈ w.mkt.listings) (he : l.exitable w.nowNs) (hh : HonestAssets w l.forSale)
    (hx : l.creator ≠ w.self) (hxp : l.creator ≠ w.pool) :
    CashedOut w (step w (.exec l.creator [] l.exitMsg)) l.creator l.forSale l.fee ∧
    (step w (.exec l.creator [] l.exitMsg)).1.mkt = { w.mkt with listings := aerase k w.mkt.listings } ∧
    CoreEq w (step w (.exec l.creator [] l.exitMsg)).1 := by
  obtain ⟨hok, hmsgs, hmkt, hce⟩ := C07_exit_step_listing hInv hm he hh
  refine ⟨cashedOut_of_step hInv hok hmsgs ?_ hx hxp, hmkt, hce⟩
  rw [hmkt]
  exact .of_rsum fun φ => rsum_eraseListing φ hInv.ids (mem_nodup_alookup hInv.ids.lkeys hm)

theorem exit_bucket_cashedOut {w : World} (hInv : C01Inv w) {k : Nat × Nat} {b : Bucket}
    (hm : (k, b) ∈ w.mkt.buckets) (hh : HonestAssets w b.funds)
    (hx : b.owner ≠ w.self) (hxp : b.owner ≠ w.pool) :
    CashedOut w (step w (.exec b.owner [] (.removeBucket k.2))) b.owner b.funds b.fee ∧
    (step w (.exec b.owner [] (.removeBucket k.2))).1.mkt = { w.mkt with buckets := aerase k w.mkt.buckets } ∧
    CoreEq w (step w (.exec b.owner [] (.removeBucket k.2))).1 := by
  obtain ⟨hok, hmsgs, hmkt, hce⟩ := C07_exit_step_bucket hInv hm hh
  refine ⟨cashedOut_of_step hInv hok hmsgs ?_ hx hxp, hmkt, hce⟩
  rw [hmkt]
  exact .of_rsum fun φ => rsum_eraseBucket φ hInv.ids (mem_nodup_alookup hInv.ids.bkeys hm)

/-- the history `ops` from `w` pays `a` everything it is entitled to in `w`, and only that -/
structure CashedOutAll (w : World) (ops : List Op) (a : Nat) : Prop where
  allOk : runOk w ops
  entNative0 : ∀ d, entNative (run w ops).mkt a d = 0
  entCw200 : ∀ t, entCw20 (run w ops).mkt a t = 0
  entNfts0 : entNfts (run w ops).mkt a = []
  bank : ∀ d, lget (run w ops).bank (a, d) = lget w.bank (a, d) + entNative w.mkt a d
  cw20 : ∀ t, w.isHonest20 t = true →
    lget (run w ops).cw20 (t, a) = lget w.cw20 (t, a) + entCw20 w.mkt a t
  nftGot : ∀ n ∈ entNfts w.mkt a, w.isHonest721 n.coll = true →
    alookup (n.coll, n.tid) (run w ops).nft = some a
  nftKept : ∀ c tid, alookup (c, tid) w.nft = some a → alookup (c, tid) (run w ops).nft = some a
  othersEnt : ∀ y, y ≠ a → (∀ d, entNative (run w ops).mkt y d = entNative w.mkt y d) ∧
    (∀ t, entCw20 (run w ops).mkt y t = entCw20 w.mkt y t) ∧
    (entNfts (run w ops).mkt y).Perm (entNfts w.mkt y)
  othersWallet : ∀ y, y ≠ a → y ≠ w.self → y ≠ w.pool → Untouched w (run w ops) y
  poolFees : ∀ d, lget (run w ops).bank (w.pool, d) + pendingFees (run w ops).mkt d =
    lget w.bank (w.pool, d) + pendingFees w.mkt d

theorem cashedOutAll_nil {w : World} {a : Nat} (hl : ∀ p ∈ w.mkt.listings, p.2.creator ≠ a)
    (hb : ∀ p ∈ w.mkt.buckets, p.2.owner ≠ a) : CashedOutAll w [] a := by
  have z : ∀ V : Val, entV V w.mkt a = 0 := fun V => entV_eq_zero hl hb
  have z3 : entNfts w.mkt a = [] := List.eq_nil_iff_forall_not_mem.2 fun n hn =>
    List.count_eq_zero.1 ((count_entNfts _ a n).trans (z _)) hn
  refine ⟨trivial, fun d => z (natV d), fun t => z (cwV t), z3, fun d => ?_, fun t _ => ?_,
    fun n hn _ => ?_, fun _ _ h => h,
    fun y _ => ⟨fun _ => rfl, fun _ => rfl, List.Perm.refl _⟩, fun y _ _ _ => Untouched.refl w y,
    fun _ => rfl⟩
  · exact (congrArg (lget w.bank (a, d) + ·) (z (natV d))).symm
  · exact (congrArg (lget w.cw20 (t, a) + ·) (z (cwV t))).symm
  · rw [z3] at hn; cases hn

theorem cashedOutAll_cons {w : World} {op : Op} {ops : List Op} {a : Nat} {g : GBal} {fee : Option Coin}
    (h1 : CashedOut w (step w op) a g fee) (hce : CoreEq w (step w op).1)
    (h2 : CashedOutAll (step w op).1 ops a) : CashedOutAll w (op :: ops) a := by
  obtain ⟨sN, sC, sF⟩ := h1.ent.self
  -- `x`, `s`, `r` the balance before the step, after it, at the end; `c` what the step pays;
  -- `e`, `e'` the entitlement before and after the step
  have key : ∀ {r s x c e e' : Nat}, r = s + e' → s = x + c → e' + c = e → r = x + e :=
    fun h1 h2 h3 => by omega
  refine ⟨⟨h1.ok, h2.allOk⟩, h2.entNative0, h2.entCw200, h2.entNfts0,
    fun d => key (h2.bank d) (h1.paid.bankOwner d) (sN d),
    fun t ht => key (h2.cw20 t (by rw [hce.isHonest20]; exact ht)) (h1.paid.cw20Owner t ht) (sC t),
    fun n hn hh => ?_, fun c tid ho => h2.nftKept c tid (h1.paid.nft_kept ho), fun y hy => ?_,
    fun y hy hys hyp => (h1.others y hy hys hyp).trans
      (h2.othersWallet y hy (by rw [hce.self]; exact hys) (by rw [hce.pool]; exact hyp)),
    fun d => ?_⟩
  · rcases List.mem_append.1 (sF.mem_iff.2 hn) with h | h
    · exact h2.nftGot n h (by rw [hce.isHonest721]; exact hh)
    · exact h2.nftKept _ _ (h1.paid.nftOwner n h hh).2
  · obtain ⟨o1, o2, o3⟩ := h2.othersEnt y hy
    obtain ⟨p1, p2, p3⟩ := h1.ent.other hy
    exact ⟨fun d => (o1 d).trans (p1 d), fun t => (o2 t).trans (p2 t), o3.trans p3⟩
  · have e1 := h2.poolFees d
    rw [hce.pool] at e1
    exact key e1 (h1.paid.bankPool d) (h1.ent.fees d)

def ExitsOf (a : Nat) (ops : List Op) : Prop :=
  ∀ op ∈ ops, ∃ msg, op = .exec a [] msg ∧ msg.isWithdraw = true

theorem Drainable.exit_one {w : World} (hD : Drainable w) {a : Nat} (hap : a ≠ w.pool)
    (h : (∃ p ∈ w.mkt.listings, p.2.creator = a) ∨ ∃ p ∈ w.mkt.buckets, p.2.owner = a) :
    ∃ msg g fee, msg.isWithdraw = true ∧ CashedOut w (step w (.exec a [] msg)) a g fee ∧
      CoreEq w (step w (.exec a [] msg)).1 ∧ Drainable (step w (.exec a [] msg)).1 ∧
      (step w (.exec a [] msg)).1.mkt.listings.length + (step w (.exec a [] msg)).1.mkt.buckets.length <
        w.mkt.listings.length + w.mkt.buckets.length := by
  rcases h with ⟨⟨k, l⟩, hm, rfl⟩ | ⟨⟨k, b⟩, hm, rfl⟩
  · have hown := hD.ownersL (k, l) hm
    obtain ⟨hco, hmk, hce⟩ := exit_listing_cashedOut hD.inv hm (hD.expired (k, l) hm)
      (hD.honestL (k, l) hm) hown hap
    refine ⟨_, _, _, exitMsg_isWithdraw l, hco, hce,
      hD.mono (C01Inv_step hD.inv hown (exitMsg_honest _ _ _)) hce
        (fun p hp => ?_) (fun p hp => ?_), ?_⟩
    · rw [hmk] at hp
      exact (mem_aerase.1 hp).1
    · rw [hmk] at hp
      exact hp
    · rw [hmk]
      exact Nat.add_lt_add_right (length_aerase_lt hm) _
  · have hown := hD.ownersB (k, b) hm
    obtain ⟨hco, hmk, hce⟩ := exit_bucket_cashedOut hD.inv hm (hD.honestB (k, b) hm) hown hap
    refine ⟨_, _, _, rfl, hco, hce, hD.mono (C01Inv_step hD.inv hown trivial) hce
      (fun p hp => ?_) (fun p hp => ?_), ?_⟩
    · rw [hmk] at hp
      exact hp
    · rw [hmk] at hp
      exact (mem_aerase.1 hp).1
    · rw [hmk]
      exact Nat.add_lt_add_left (length_aerase_lt hm) _

/-- induction on the number of records: exit one record of `a` (`Drainable.exit_one`), repeat -/
theorem cashout_all (a : Nat) : ∀ (n : Nat) {w : World}, Drainable w → a ≠ w.pool →
    w.mkt.listings.length + w.mkt.buckets.length < n →
    ∃ ops, ExitsOf a ops ∧ CashedOutAll w ops a ∧ CoreEq w (run w ops) := by
  intro n
  induction n with
  | zero => exact fun _ _ hn => absurd hn (Nat.not_lt_zero _)
  | succ n ih =>
    intro w hD hap hn
    by_cases h : (∃ p ∈ w.mkt.listings, p.2.creator = a) ∨ ∃ p ∈ w.mkt.buckets, p.2.owner = a
    · obtain ⟨msg, g, fee, hw, hco, hce, hD', hlt⟩ := hD.exit_one hap h
      obtain ⟨ops, e1, e2, e3⟩ := ih hD' (by rw [hce.pool]; exact hap)
        (Nat.lt_of_lt_of_le hlt (Nat.le_of_lt_succ hn))
      exact ⟨_ :: ops, fun o ho => (List.mem_cons.1 ho).elim (fun e => e ▸ ⟨msg, rfl, hw⟩) (e1 o),
        cashedOutAll_cons hco hce e2, hce.trans e3⟩
    · exact ⟨[], fun _ h => (by cases h), cashedOutAll_nil (fun p hp e => h (.inl ⟨p, hp, e⟩))
        (fun p hp e => h (.inr ⟨p, hp, e⟩)), CoreEq.refl w⟩

end Fuzion
