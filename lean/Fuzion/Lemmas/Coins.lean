/-
  Fuzion.Lemmas.Coins — the pure helpers of `Model/Balance.lean` on coin lists and balances, with the
  per-key amount `coinAmt` and the stored-balance predicate `wfBal` of `Inv/Defs.lean`, each
  characterised once.
-/
import Fuzion.Inv.Defs
import Fuzion.Lemmas.AListBasic
namespace Fuzion

theorem keys_cons (x : Coin) (l : List Coin) : keys (x :: l) = x.key :: keys l := rfl

theorem keys_perm {a b : List Coin} (h : a.Perm b) : (keys a).Perm (keys b) := h.map _

theorem keys_length (l : List Coin) : (keys l).length = l.length := by simp [keys]

theorem filter_ne_of_not_mem {l : List Coin} {fd : Nat} (h : fd ∉ keys l) :
    l.filter (fun n => decide (n.key ≠ fd)) = l :=
  List.filter_eq_self.2 fun _ hc => decide_eq_true fun e => h (e ▸ List.mem_map_of_mem hc)

theorem keys_filter_ne (l : List Coin) (fd : Nat) :
    keys (l.filter fun n => decide (n.key ≠ fd)) = (keys l).filter (fun k => decide (k ≠ fd)) :=
  (List.filter_map (f := Coin.key) (p := fun k => decide (k ≠ fd))).symm

theorem allNonzero_iff {l : List Coin} : allNonzero l = true ↔ ∀ c ∈ l, c.amount ≠ 0 := by
  simp [allNonzero]

theorem coinAmt_nil (k : Nat) : coinAmt [] k = 0 := rfl

theorem coinAmt_cons (c : Coin) (l : List Coin) (k : Nat) :
    coinAmt (c :: l) k = (if c.key = k then c.amount else 0) + coinAmt l k := by
  unfold coinAmt
  by_cases h : c.key = k <;> simp [h]

theorem coinAmt_append (l₁ l₂ : List Coin) (k : Nat) :
    coinAmt (l₁ ++ l₂) k = coinAmt l₁ k + coinAmt l₂ k := by
  induction l₁ with
  | nil => rw [List.nil_append, coinAmt_nil, Nat.zero_add]
  | cons c l ih => rw [List.cons_append, coinAmt_cons, coinAmt_cons, ih, Nat.add_assoc]

theorem coinAmt_single (d a k : Nat) : coinAmt [⟨d, a⟩] k = if d = k then a else 0 := by
  simp [coinAmt_cons, coinAmt_nil]

theorem coinAmt_single_le (d a k : Nat) : coinAmt [⟨d, a⟩] k ≤ a :=
  coinAmt_single d a k ▸ ite_zero_le (d = k) a

theorem coinAmt_eq_sum (l : List Coin) (k : Nat) :
    coinAmt l k = (l.map fun c => if c.key = k then c.amount else 0).sum := by
  induction l with
  | nil => rfl
  | cons c l ih => rw [coinAmt_cons, ih, List.map_cons, List.sum_cons]

theorem coinAmt_perm {l r : List Coin} (h : l.Perm r) (k : Nat) : coinAmt l k = coinAmt r k :=
  ((h.filter _).map _).sum_nat -- `coinAmt` is a filter, a map and a sum

theorem le_coinAmt_of_mem {l : List Coin} {c : Coin} (h : c ∈ l) : c.amount ≤ coinAmt l c.key := by
  have := le_sum_of_mem
    (List.mem_map_of_mem (f := fun x : Coin => if x.key = c.key then x.amount else 0) h)
  rwa [if_pos rfl, ← coinAmt_eq_sum] at this

theorem coinAmt_eq_zero_of_not_mem {l : List Coin} {k : Nat} (h : k ∉ keys l) : coinAmt l k = 0 := by
  rw [coinAmt_eq_sum]
  exact List.sum_eq_zero_iff_forall_eq_nat.2 <| List.forall_mem_map.2 fun c hc =>
    if_neg fun (e : c.key = k) => h (e ▸ List.mem_map_of_mem hc)

theorem coinAmt_filter_ne (l : List Coin) (fd k : Nat) :
    coinAmt (l.filter fun n => decide (n.key ≠ fd)) k = if k = fd then 0 else coinAmt l k := by
  unfold coinAmt
  rw [List.filter_filter]
  split
  · next h =>
    subst h
    rw [List.filter_eq_nil_iff.2 fun c _ => by simp]; rfl
  · next h =>
    congr 2
    exact List.filter_congr fun c _ => by by_cases e : c.key = k <;> simp [e, h]

theorem coinAmt_filter_nonzero (cs : List Coin) (d : Nat) :
    coinAmt (cs.filter fun c => decide (c.amount ≠ 0)) d = coinAmt cs d := by
  induction cs with
  | nil => rfl
  | cons c cs ih =>
    by_cases hz : c.amount = 0
    · rw [List.filter_cons_of_neg (by simp [hz]), ih, coinAmt_cons, hz]; simp
    · rw [List.filter_cons_of_pos (by simp [hz]), coinAmt_cons, coinAmt_cons, ih]

theorem coinAmt_of_mem {l : List Coin} {x : Coin} (nd : (keys l).Nodup) (hx : x ∈ l) :
    coinAmt l x.key = x.amount := by
  induction l with
  | nil => cases hx
  | cons a l ih =>
    rw [keys_cons, List.nodup_cons] at nd
    rw [coinAmt_cons]
    rcases List.mem_cons.1 hx with rfl | hx
    · simp [coinAmt_eq_zero_of_not_mem nd.1]
    · have : a.key ≠ x.key := fun e => nd.1 (e ▸ List.mem_map_of_mem hx)
      simp [this, ih nd.2 hx]

theorem coinAmt_of_find {l : List Coin} {fd : Nat} {c : Coin} (nd : (keys l).Nodup)
    (h : l.find? (fun c => decide (c.key = fd)) = some c) : c.key = fd ∧ coinAmt l fd = c.amount :=
  have hk : c.key = fd := of_decide_eq_true (List.find?_some (p := fun c : Coin => decide (c.key = fd)) h)
  ⟨hk, hk ▸ coinAmt_of_mem nd (List.mem_of_find?_eq_some h)⟩

theorem coinAmt_of_find_none {l : List Coin} {fd : Nat}
    (h : l.find? (fun c => decide (c.key = fd)) = none) : coinAmt l fd = 0 :=
  coinAmt_eq_zero_of_not_mem fun hm =>
    let ⟨c, hc, e⟩ := List.mem_map.1 hm
    List.find?_eq_none.1 h c hc (decide_eq_true e)

theorem sum_key_nodup {l : List Coin} (nd : (keys l).Nodup) (T : Nat → Nat) (T0 : T 0 = 0)
    (d : Nat) : (l.map fun c => if c.key = d then T c.amount else 0).sum = T (coinAmt l d) := by
  induction l with
  | nil => simp [coinAmt_nil, T0]
  | cons c l ih =>
    have e2 : keys (c :: l) = c.key :: keys l := rfl
    rw [e2, List.nodup_cons] at nd
    rw [List.map_cons, List.sum_cons, coinAmt_cons, ih nd.2]
    by_cases hk : c.key = d
    · have hn : d ∉ keys l := hk ▸ nd.1
      simp only [hk, if_true, coinAmt_eq_zero_of_not_mem hn, T0, Nat.add_zero]
    · simp only [hk, if_false, Nat.zero_add]

theorem coinAmt_le_iff_of_nodup {cs : List Coin} (nd : (keys cs).Nodup) {f : Nat → Nat} :
    (∀ d, coinAmt cs d ≤ f d) ↔ ∀ c ∈ cs, c.amount ≤ f c.key := by
  constructor
  · intro h c hc
    rw [← coinAmt_of_mem nd hc]
    exact h c.key
  · intro h d
    by_cases hd : d ∈ keys cs
    · obtain ⟨c, hc, rfl⟩ := List.mem_map.1 hd
      rw [coinAmt_of_mem nd hc]
      exact h c hc
    · rw [coinAmt_eq_zero_of_not_mem hd]
      exact Nat.zero_le _

/-! ### `genbal_cmp`: three clauses (`genbalCmp_iff`), each deciding permutation equality when its
left list has no duplicates (`subsetLen_iff_perm_left`; put together in `C02_cmp_iff_of_nodup`) -/

theorem subsetLen_iff_subset {α : Type} [DecidableEq α] (a b : List α) :
    subsetLen a b = true ↔ (∀ x ∈ a, x ∈ b) ∧ a.length = b.length := by
  simp [subsetLen, List.all_eq_true]

theorem subsetLen_of_perm {α : Type} [DecidableEq α] {a b : List α} (h : a.Perm b) :
    subsetLen a b = true :=
  (subsetLen_iff_subset a b).2 ⟨fun _ hx => h.mem_iff.1 hx, h.length_eq⟩

/-- one clause of `genbal_cmp` decides permutation equality as soon as its *left* argument has
    no duplicates (the right one then has none either) -/
theorem subsetLen_iff_perm_left {α : Type} [DecidableEq α] {a b : List α} (ha : a.Nodup) :
    subsetLen a b = true ↔ a.Perm b :=
  ⟨fun h =>
    have h' := (subsetLen_iff_subset a b).1 h
    perm_of_nodup_subset_length ha h'.1 h'.2, subsetLen_of_perm⟩

theorem subsetLen_iff_perm {α : Type} [DecidableEq α] {a b : List α} (ha : a.Nodup)
    (_hb : b.Nodup) : subsetLen a b = true ↔ a.Perm b :=
  subsetLen_iff_perm_left ha

theorem genbalCmp_iff (a b : GBal) :
    genbalCmp a b = true ↔
      subsetLen a.native b.native = true ∧ subsetLen a.cw20 b.cw20 = true ∧
      subsetLen a.nfts b.nfts = true := by
  simp [genbalCmp, Bool.and_eq_true, and_assoc]

def Funds.coins : Funds → List Coin
  | .native cs => cs
  | .cw20 c => [c]

theorem normalizedCheck_iff (funds : Funds) :
    normalizedCheck funds = true ↔
      funds.coins ≠ [] ∧ (∀ c ∈ funds.coins, c.amount ≠ 0) ∧ (keys funds.coins).Nodup := by
  cases funds with
  | native cs =>
    simp only [normalizedCheck, Funds.coins, Bool.and_eq_true, Bool.not_eq_true',
      List.isEmpty_eq_false_iff, decide_eq_true_eq, allNonzero_iff, and_assoc]
  | cw20 c =>
    exact decide_eq_true_iff.trans ⟨fun h => ⟨List.cons_ne_nil _ _, List.forall_mem_singleton.2 h,
      List.pairwise_singleton _ _⟩, fun h => h.2.1 c (List.mem_singleton_self c)⟩

theorem normalizedCheck_native {cs : List Coin} (h : normalizedCheck (.native cs) = true) :
    cs ≠ [] ∧ (∀ c ∈ cs, c.amount ≠ 0) ∧ (keys cs).Nodup :=
  (normalizedCheck_iff (.native cs)).1 h

theorem wfBal_iff (g : GBal) : wfBal g = true ↔
    (∀ c ∈ g.native, c.amount ≠ 0) ∧ (∀ c ∈ g.cw20, c.amount ≠ 0) ∧ 1 ≤ g.count ∧
    (keys g.native).Nodup ∧ (keys g.cw20).Nodup ∧ g.nfts.Nodup := by
  simp only [wfBal, Bool.and_eq_true, decide_eq_true_eq, allNonzero_iff, and_assoc]

theorem wfBal_keys {g : GBal} (h : wfBal g = true) : (keys g.native).Nodup ∧ (keys g.cw20).Nodup :=
  let ⟨_, _, _, h4, h5, _⟩ := (wfBal_iff g).1 h
  ⟨h4, h5⟩

theorem wfBal_nodup {g : GBal} (h : wfBal g = true) :
    g.native.Nodup ∧ g.cw20.Nodup ∧ g.nfts.Nodup :=
  let ⟨_, _, _, h4, h5, h6⟩ := (wfBal_iff g).1 h
  ⟨nodup_of_nodup_map _ h4, nodup_of_nodup_map _ h5, h6⟩

theorem checkValid_iff (g : GBal) : checkValid g = true ↔ wfBal g = true ∧ g.count ≤ MAX_ASSETS := by
  -- `checkValid` is the conjunction `wfBal` is, with the cap in the middle: move it to the end
  simp only [wfBal, checkValid, Bool.and_eq_true, decide_eq_true_eq, and_assoc,
    and_left_comm (a := g.count ≤ MAX_ASSETS), and_comm (b := g.count ≤ MAX_ASSETS)]

theorem normalizedCheck_iff_wfBal (funds : Funds) :
    normalizedCheck funds = true ↔ wfBal (fromBalance funds) = true := by
  rw [normalizedCheck_iff, wfBal_iff]
  cases funds with
  | native cs =>
    exact ⟨fun h => ⟨h.2.1, List.forall_mem_nil _, List.length_pos_iff.2 h.1, h.2.2, .nil, .nil⟩,
      fun h => ⟨List.length_pos_iff.1 h.2.2.1, h.1, h.2.2.2.1⟩⟩
  | cw20 c =>
    exact ⟨fun h => ⟨List.forall_mem_nil _, h.2.1, Nat.le_refl 1, .nil, h.2.2, .nil⟩,
      fun h => ⟨List.cons_ne_nil _ _, h.2.1, h.2.2.2.2.1⟩⟩

theorem wfBal_fromNft (n : Nft) : wfBal (fromNft n) = true :=
  (wfBal_iff _).2 ⟨nofun, nofun, Nat.le_refl 1, .nil, .nil, List.pairwise_singleton _ n⟩

/-! ### `GenericBalanceUnvalidated::validate` -/

/-- the address a valid string denotes; the `0` for `.invalid` is never observed: `valCoin` and
    `valNft` are applied only to entries whose address is known to be valid (by `p.1 ≠ .invalid`,
    or because `validateAsk` accepted) -/
def RawAddr.get : RawAddr → Nat
  | .valid a => a
  | .invalid => 0

def valCoin (p : RawAddr × Nat) : Coin := ⟨p.1.get, p.2⟩
def valNft (p : RawAddr × Nat) : Nft := ⟨p.1.get, p.2⟩

theorem keys_map_valCoin (xs : List (RawAddr × Nat)) :
    keys (xs.map valCoin) = xs.map (fun p => p.1.get) := by
  simp [keys, valCoin, List.map_map, Function.comp_def]

theorem validateCw20_spec (xs : List (RawAddr × Nat)) (c : List Coin) :
    validateCw20 xs = some c ↔
      (∀ p ∈ xs, p.1 ≠ .invalid ∧ p.2 ≠ 0) ∧ c = xs.map valCoin := by
  refine traverse_spec (v := validateCw20) (f := valCoin) rfl ?_ xs c
  rintro ⟨a | _, amt⟩ xs c
  · show (if amt = 0 then none else match validateCw20 xs with
      | none => none | some r => some (⟨a, amt⟩ :: r)) = some c ↔ _
    by_cases hz : amt = 0 <;> cases validateCw20 xs <;> simp [hz, valCoin, RawAddr.get, eq_comm]
  · exact ⟨nofun, fun h => absurd rfl h.1.1⟩

theorem validateNfts_spec (xs : List (RawAddr × Nat)) (c : List Nft) :
    validateNfts xs = some c ↔ (∀ p ∈ xs, p.1 ≠ .invalid) ∧ c = xs.map valNft := by
  refine traverse_spec (v := validateNfts) (f := valNft) rfl ?_ xs c
  rintro ⟨a | _, t⟩ xs c
  · show (match validateNfts xs with | none => none | some r => some (⟨a, t⟩ :: r)) = some c ↔ _
    cases validateNfts xs <;> simp [valNft, RawAddr.get, eq_comm]
  · exact ⟨nofun, fun h => absurd rfl h.1⟩

theorem validateAsk_spec (r : RawGBal) (g : GBal) :
    validateAsk r = some g ↔
      (∀ p ∈ r.cw20, p.1 ≠ .invalid ∧ p.2 ≠ 0) ∧ (∀ p ∈ r.nfts, p.1 ≠ .invalid) ∧
      g = ⟨r.native, r.cw20.map valCoin, r.nfts.map valNft⟩ ∧ checkValid g = true := by
  have : validateAsk r = some g ↔ ∃ c n, validateCw20 r.cw20 = some c ∧
      validateNfts r.nfts = some n ∧ g = ⟨r.native, c, n⟩ ∧ checkValid g = true := by
    unfold validateAsk
    cases validateCw20 r.cw20 <;> cases validateNfts r.nfts <;> simp
    exact ⟨fun ⟨h, e⟩ => ⟨e.symm, e ▸ h⟩, fun ⟨e, h⟩ => ⟨e ▸ h, e.symm⟩⟩
  simp only [this, validateCw20_spec, validateNfts_spec, and_assoc, exists_and_left, exists_eq_left]

theorem validateAsk_checkValid {r : RawGBal} {g : GBal} (h : validateAsk r = some g) :
    checkValid g = true :=
  ((validateAsk_spec r g).1 h).2.2.2

theorem rawAddr_get_inj {a b : RawAddr} (ha : a ≠ .invalid) (hb : b ≠ .invalid)
    (h : a.get = b.get) : a = b := by
  cases a <;> cases b <;> simp_all [RawAddr.get]

theorem nodup_valCoin {xs : List (RawAddr × Nat)} (hv : ∀ p ∈ xs, p.1 ≠ .invalid) :
    (keys (xs.map valCoin)).Nodup ↔ (xs.map (·.1)).Nodup := by
  have : keys (xs.map valCoin) = xs.map (fun p => p.1.get) := by
    simp [keys, valCoin, List.map_map, Function.comp_def]
  rw [this]
  exact ⟨fun h => nodup_map_of_inj h fun p _ q _ e => by rw [e],
    fun h => nodup_map_of_inj h fun p hp q hq e => rawAddr_get_inj (hv p hp) (hv q hq) e⟩

theorem nodup_valNft {xs : List (RawAddr × Nat)} (hv : ∀ p ∈ xs, p.1 ≠ .invalid) :
    (xs.map valNft).Nodup ↔ xs.Nodup := by
  refine ⟨nodup_of_nodup_map valNft, fun h => ?_⟩
  exact nodup_map_of_inj (f := id) (by rwa [List.map_id]) fun p hp q hq e =>
    Prod.ext (rawAddr_get_inj (hv p hp) (hv q hq) (Nft.mk.inj e).1) (Nft.mk.inj e).2

theorem addCoin_cons_some {x c : Coin} {xs r : List Coin} :
    addCoin (x :: xs) c = some r ↔
      if x.key = c.key then x.amount + c.amount ≤ U128MAX ∧ r = ⟨x.key, x.amount + c.amount⟩ :: xs
      else ∃ r', addCoin xs c = some r' ∧ r = x :: r' := by
  simp only [addCoin]
  split
  · split <;> simp [eq_comm, *]
  · cases addCoin xs c <;> simp [eq_comm]

theorem addCoins_cons_some {l cs r : List Coin} {c : Coin} :
    addCoins l (c :: cs) = some r ↔ ∃ l', addCoin l c = some l' ∧ addCoins l' cs = some r := by
  simp only [addCoins]
  cases addCoin l c <;> simp

theorem addCoins_singleton (l : List Coin) (c : Coin) : addCoins l [c] = addCoin l c := by
  simp only [addCoins]; cases addCoin l c <;> rfl

theorem addCoin_keys {l r : List Coin} {c : Coin} (h : addCoin l c = some r) :
    keys r = if c.key ∈ keys l then keys l else keys l ++ [c.key] := by
  induction l generalizing r with
  | nil => cases h; simp [keys]
  | cons x xs ih =>
    rw [addCoin_cons_some] at h
    split at h
    · next hk => obtain ⟨_, rfl⟩ := h; simp [keys_cons, hk]
    · next hk =>
      obtain ⟨r', hr', rfl⟩ := h
      simp only [keys_cons, ih hr', List.mem_cons, Ne.symm hk, false_or]
      split <;> rfl

/-- a property of amounts that survives an addition without overflow holds of every entry after the
    merge: "non-zero" and "fits a `Uint128`" are the two instances -/
theorem addCoin_forall {P : Nat → Prop} (hP : ∀ a b, P a → a + b ≤ U128MAX → P (a + b))
    {l r : List Coin} {c : Coin} (h : addCoin l c = some r) (hl : ∀ x ∈ l, P x.amount)
    (hc : P c.amount) : ∀ x ∈ r, P x.amount := by
  induction l generalizing r with
  | nil => cases h; simpa using hc
  | cons x xs ih =>
    rw [List.forall_mem_cons] at hl
    rw [addCoin_cons_some] at h
    split at h
    · obtain ⟨hle, rfl⟩ := h
      exact List.forall_mem_cons.2 ⟨hP _ _ hl.1 hle, hl.2⟩
    · obtain ⟨r', hr', rfl⟩ := h
      exact List.forall_mem_cons.2 ⟨hl.1, ih hr' hl.2⟩

theorem addCoin_bounded {l r : List Coin} {c : Coin} (h : addCoin l c = some r)
    (hl : ∀ x ∈ l, x.amount ≤ U128MAX) (hc : c.amount ≤ U128MAX) : ∀ x ∈ r, x.amount ≤ U128MAX :=
  addCoin_forall (P := (· ≤ U128MAX)) (fun _ _ _ h => h) h hl hc

theorem addCoin_coinAmt {l r : List Coin} {c : Coin} (h : addCoin l c = some r) (k : Nat) :
    coinAmt r k = coinAmt l k + (if c.key = k then c.amount else 0) := by
  induction l generalizing r with
  | nil => cases h; rw [coinAmt_cons, coinAmt_nil, Nat.add_comm]
  | cons x xs ih =>
    rw [addCoin_cons_some] at h
    split at h
    · next hk =>
      obtain ⟨_, rfl⟩ := h
      rw [coinAmt_cons, coinAmt_cons, ← hk]
      split
      · exact Nat.add_right_comm ..
      · rfl
    · obtain ⟨r', hr', rfl⟩ := h
      rw [coinAmt_cons, coinAmt_cons, ih hr', Nat.add_assoc]

theorem filter_addCoin {l r : List Coin} {t a : Nat} (h : addCoin l ⟨t, a⟩ = some r) :
    r.filter (fun c => c.key != t) = l.filter (fun c => c.key != t) := by
  induction l generalizing r with
  | nil =>
    cases h
    simp
  | cons x xs ih =>
    rw [addCoin_cons_some] at h
    split at h
    · next hk =>
      obtain ⟨_, rfl⟩ := h
      simp [show x.key = t from hk]
    · obtain ⟨r', hr', rfl⟩ := h
      rw [List.filter_cons, List.filter_cons, ih hr']

theorem addCoin_total {l : List Coin} {c : Coin} (h : coinAmt l c.key + c.amount ≤ U128MAX) :
    ∃ r, addCoin l c = some r := by
  induction l with
  | nil => exact ⟨_, rfl⟩
  | cons x xs ih =>
    rw [coinAmt_cons] at h
    simp only [addCoin_cons_some]
    split
    · next hk =>
      -- the entry merged with holds no more than `coinAmt` of its denomination
      rw [if_pos hk] at h
      exact ⟨_, by omega, rfl⟩
    · next hk =>
      rw [if_neg hk] at h
      obtain ⟨r, hr⟩ := ih (by omega)
      exact ⟨_, r, hr, rfl⟩

theorem addCoins_keys {l r cs : List Coin} (h : addCoins l cs = some r) (nd : (keys cs).Nodup) :
    keys r = keys l ++ (keys cs).filter (fun k => decide (k ∉ keys l)) := by
  induction cs generalizing l with
  | nil => cases h; simp [keys]
  | cons c cs ih =>
    obtain ⟨l', hl', h⟩ := addCoins_cons_some.1 h
    rw [keys_cons, List.nodup_cons] at nd
    rw [ih h nd.2, addCoin_keys hl', keys_cons]
    by_cases hc : c.key ∈ keys l
    · rw [if_pos hc, List.filter_cons_of_neg (by simpa using hc)]
    · have : ∀ k ∈ keys cs, decide (k ∉ keys l ++ [c.key]) = decide (k ∉ keys l) := by
        intro k hk
        have : k ≠ c.key := fun e => nd.1 (e ▸ hk)
        simp [this]
      rw [if_neg hc, List.filter_cons_of_pos (by simpa using hc), List.filter_congr this,
        List.append_assoc]
      rfl

/-- without the hypothesis on `cs`: the old keys stay in front and every key of `cs` is there -/
theorem addCoins_keys_prefix {l r cs : List Coin} (h : addCoins l cs = some r) :
    ∃ ex, keys r = keys l ++ ex ∧ ∀ c ∈ cs, c.key ∈ keys r := by
  induction cs generalizing l with
  | nil => cases h; exact ⟨[], (List.append_nil _).symm, List.forall_mem_nil _⟩
  | cons c cs ih =>
    obtain ⟨l', hl', h⟩ := addCoins_cons_some.1 h
    obtain ⟨ex, e, hm⟩ := ih h
    have hk := addCoin_keys hl'
    have hc : c.key ∈ keys l' := by
      rw [hk]; split
      · assumption
      · exact List.mem_append_right _ (List.mem_singleton_self _)
    refine ⟨(if c.key ∈ keys l then [] else [c.key]) ++ ex, ?_,
      List.forall_mem_cons.2 ⟨e ▸ List.mem_append_left _ hc, hm⟩⟩
    rw [e, hk]
    split <;> simp

theorem addCoin_length {l r : List Coin} {c : Coin} (h : addCoin l c = some r) :
    r.length = l.length + (if c.key ∈ keys l then 0 else 1) := by
  have := congrArg List.length (addCoin_keys h)
  rw [keys_length] at this
  rw [this]
  split <;> simp [keys_length]

theorem addCoins_length {l r cs : List Coin} (h : addCoins l cs = some r) (nd : (keys cs).Nodup) :
    r.length = l.length + ((keys cs).filter (fun k => decide (k ∉ keys l))).length := by
  have := congrArg List.length (addCoins_keys h nd)
  rwa [keys_length, List.length_append, keys_length] at this

theorem addCoins_length_le {l r cs : List Coin} (h : addCoins l cs = some r) :
    l.length ≤ r.length := by
  obtain ⟨ex, e, _⟩ := addCoins_keys_prefix h
  have := congrArg List.length e
  rw [keys_length, List.length_append, keys_length] at this
  exact this ▸ Nat.le_add_right _ _

theorem addCoin_length_le {l r : List Coin} {c : Coin} (h : addCoin l c = some r) :
    l.length ≤ r.length :=
  addCoin_length h ▸ Nat.le_add_right _ _

theorem addCoin_nodup {l r : List Coin} {c : Coin} (h : addCoin l c = some r)
    (nd : (keys l).Nodup) : (keys r).Nodup := by
  rw [addCoin_keys h]
  split
  · exact nd
  · next hn =>
    refine List.nodup_append.2 ⟨nd, List.nodup_cons.2 ⟨List.not_mem_nil, List.nodup_nil⟩,
      fun a ha b hb e => hn ?_⟩
    rwa [← List.mem_singleton.1 hb, ← e]

theorem addCoins_nodup {l r cs : List Coin} (h : addCoins l cs = some r) (nd : (keys l).Nodup) :
    (keys r).Nodup := by
  induction cs generalizing l with
  | nil => cases h; exact nd
  | cons c cs ih =>
    obtain ⟨l', hl', h⟩ := addCoins_cons_some.1 h
    exact ih h (addCoin_nodup hl' nd)

theorem addCoins_forall {P : Nat → Prop} (hP : ∀ a b, P a → a + b ≤ U128MAX → P (a + b))
    {l r cs : List Coin} (h : addCoins l cs = some r) (hl : ∀ x ∈ l, P x.amount)
    (hc : ∀ c ∈ cs, P c.amount) : ∀ x ∈ r, P x.amount := by
  induction cs generalizing l with
  | nil => cases h; exact hl
  | cons c cs ih =>
    obtain ⟨l', hl', h⟩ := addCoins_cons_some.1 h
    rw [List.forall_mem_cons] at hc
    exact ih h (addCoin_forall hP hl' hl hc.1) hc.2

theorem addCoins_nonzero {l r cs : List Coin} (h : addCoins l cs = some r)
    (hl : ∀ x ∈ l, x.amount ≠ 0) (hc : ∀ c ∈ cs, c.amount ≠ 0) : ∀ x ∈ r, x.amount ≠ 0 :=
  addCoins_forall (P := (· ≠ 0)) (fun _ _ ha _ e => ha (Nat.eq_zero_of_add_eq_zero_right e)) h hl
    hc

theorem addCoins_bounded {l r cs : List Coin} (h : addCoins l cs = some r)
    (hl : ∀ x ∈ l, x.amount ≤ U128MAX) (hc : ∀ c ∈ cs, c.amount ≤ U128MAX) :
    ∀ x ∈ r, x.amount ≤ U128MAX :=
  addCoins_forall (P := (· ≤ U128MAX)) (fun _ _ _ h => h) h hl hc

theorem addCoins_coinAmt {l r cs : List Coin} (h : addCoins l cs = some r) (k : Nat) :
    coinAmt r k = coinAmt l k + coinAmt cs k := by
  induction cs generalizing l with
  | nil => cases h; rfl
  | cons c cs ih =>
    obtain ⟨l', hl', h⟩ := addCoins_cons_some.1 h
    rw [ih h, addCoin_coinAmt hl', coinAmt_cons, Nat.add_assoc]

theorem addCoins_total {l cs : List Coin} (h : ∀ k, coinAmt l k + coinAmt cs k ≤ U128MAX) :
    ∃ r, addCoins l cs = some r := by
  induction cs generalizing l with
  | nil => exact ⟨l, rfl⟩
  | cons c cs ih =>
    simp only [coinAmt_cons] at h
    obtain ⟨l', hl'⟩ : ∃ l', addCoin l c = some l' :=
      addCoin_total (by have := h c.key; rw [if_pos rfl] at this; omega)
    obtain ⟨r, hr⟩ := ih (l := l') fun k => by rw [addCoin_coinAmt hl']; have := h k; omega
    exact ⟨r, addCoins_cons_some.2 ⟨l', hl', hr⟩⟩

/-- A deposit with a non-zero coin changes the coin list (the `genbal_cmp` test of the top-up
    handlers cannot fire): a duplicate-free list contained in one of the same length is a
    permutation of it, and then no denomination's total could have grown. -/
theorem addCoins_changed {l r cs : List Coin} (h : addCoins l cs = some r) (nd : (keys l).Nodup)
    {c : Coin} (hc : c ∈ cs) (hz : c.amount ≠ 0) : subsetLen l r = false := by
  rw [← Bool.not_eq_true, subsetLen_iff_perm_left (nodup_of_nodup_map _ nd)]
  intro hp
  have h1 := addCoins_coinAmt h c.key
  have h2 := le_coinAmt_of_mem hc
  rw [coinAmt_perm hp] at h1
  omega

theorem addTokens_native_iff {g nf : GBal} {cs : List Coin} :
    addTokens g (.native cs) = some nf ↔
      ∃ n, addCoins g.native cs = some n ∧ nf = { g with native := n } := by
  simp only [addTokens]; cases addCoins g.native cs <;> simp [eq_comm]

theorem addTokens_cw20_iff {g nf : GBal} {c : Coin} :
    addTokens g (.cw20 c) = some nf ↔ ∃ n, addCoin g.cw20 c = some n ∧ nf = { g with cw20 := n } := by
  simp only [addTokens]; cases addCoin g.cw20 c <;> simp [eq_comm]

theorem addTokens_cw20_spec {g nf : GBal} {t a : Nat} (h : addTokens g (.cw20 ⟨t, a⟩) = some nf) :
    nf.native = g.native ∧
    (∀ k, coinAmt nf.cw20 k = coinAmt g.cw20 k + (if t = k then a else 0)) ∧ nf.nfts = g.nfts := by
  obtain ⟨n, hn, rfl⟩ := addTokens_cw20_iff.1 h
  exact ⟨rfl, addCoin_coinAmt hn, rfl⟩

theorem addTokens_cw20_confined {g nf : GBal} {t a : Nat}
    (h : addTokens g (.cw20 ⟨t, a⟩) = some nf) :
    nf.native = g.native ∧ nf.nfts = g.nfts ∧ (∀ k, k ≠ t → coinAmt nf.cw20 k = coinAmt g.cw20 k) ∧
    coinAmt nf.cw20 t = coinAmt g.cw20 t + a := by
  obtain ⟨t1, t3, t2⟩ := addTokens_cw20_spec h
  refine ⟨t1, t2, fun k hk => ?_, ?_⟩
  · rw [t3, if_neg fun e : t = k => hk e.symm]; rfl
  · rw [t3, if_pos rfl]

theorem addTokens_some {g nf : GBal} {funds : Funds} (h : addTokens g funds = some nf) :
    (∃ n, addCoins g.native funds.coins = some n ∧ nf = { g with native := n }) ∨
    (∃ n, addCoins g.cw20 funds.coins = some n ∧ nf = { g with cw20 := n }) := by
  cases funds with
  | native cs => exact .inl (addTokens_native_iff.1 h)
  | cw20 c =>
    obtain ⟨n, hn, e⟩ := addTokens_cw20_iff.1 h
    exact .inr ⟨n, (addCoins_singleton ..).trans hn, e⟩

def Funds.fits (g : GBal) : Funds → Prop
  | .native cs => ∀ k, coinAmt g.native k + coinAmt cs k ≤ U128MAX
  | .cw20 c => coinAmt g.cw20 c.key + c.amount ≤ U128MAX

theorem addTokens_total {g : GBal} {funds : Funds} (h : funds.fits g) :
    ∃ nf, addTokens g funds = some nf := by
  cases funds with
  | native cs =>
    obtain ⟨n, hn⟩ := addCoins_total h
    exact ⟨_, addTokens_native_iff.2 ⟨n, hn, rfl⟩⟩
  | cw20 c =>
    obtain ⟨n, hn⟩ := addCoin_total h
    exact ⟨_, addTokens_cw20_iff.2 ⟨n, hn, rfl⟩⟩

def Funds.newAssets (g : GBal) : Funds → Nat
  | .native cs => ((keys cs).filter (fun k => decide (k ∉ keys g.native))).length
  | .cw20 c => if c.key ∈ keys g.cw20 then 0 else 1

theorem addTokens_count {g nf : GBal} {funds : Funds} (hn : normalizedCheck funds = true)
    (h : addTokens g funds = some nf) : nf.count = g.count + funds.newAssets g := by
  cases funds with
  | native cs =>
    obtain ⟨n, hn', rfl⟩ := addTokens_native_iff.1 h
    have := addCoins_length hn' ((normalizedCheck_iff _).1 hn).2.2
    simp only [GBal.count, Funds.newAssets, this]
    omega
  | cw20 c =>
    obtain ⟨n, hn', rfl⟩ := addTokens_cw20_iff.1 h
    have := addCoin_length hn'
    simp only [GBal.count, Funds.newAssets, this]
    omega

theorem addTokens_wf {g nf : GBal} {funds : Funds} (wf : wfBal g = true)
    (hn : normalizedCheck funds = true) (h : addTokens g funds = some nf) : wfBal nf = true := by
  rw [wfBal_iff] at wf ⊢
  obtain ⟨w1, w2, w3, w4, w5, w6⟩ := wf
  have w3' : 1 ≤ nf.count := addTokens_count hn h ▸ Nat.le_add_right_of_le w3
  obtain ⟨_, hz, hd⟩ := (normalizedCheck_iff funds).1 hn
  rcases addTokens_some h with ⟨n, hn', rfl⟩ | ⟨n, hn', rfl⟩
  · exact ⟨addCoins_nonzero hn' w1 hz, w2, w3', addCoins_nodup hn' w4, w5, w6⟩
  · exact ⟨w1, addCoins_nonzero hn' w2 hz, w3', w4, addCoins_nodup hn' w5, w6⟩

theorem addTokens_changed {g nf : GBal} {funds : Funds} (wf : wfBal g = true)
    (hn : normalizedCheck funds = true) (h : addTokens g funds = some nf) :
    genbalCmp g nf = false := by
  obtain ⟨hne, hz, _⟩ := (normalizedCheck_iff funds).1 hn
  obtain ⟨c, hc⟩ := List.exists_mem_of_ne_nil _ hne
  rw [← Bool.not_eq_true, genbalCmp_iff]
  rcases addTokens_some h with ⟨n, hn', rfl⟩ | ⟨n, hn', rfl⟩
  · exact fun hs => Bool.false_ne_true
      ((addCoins_changed hn' (wfBal_keys wf).1 hc (hz c hc)).symm.trans hs.1)
  · exact fun hs => Bool.false_ne_true
      ((addCoins_changed hn' (wfBal_keys wf).2 hc (hz c hc)).symm.trans hs.2.1)

theorem addNft_native (g : GBal) (n : Nft) : (addNft g n).native = g.native := rfl
theorem addNft_cw20 (g : GBal) (n : Nft) : (addNft g n).cw20 = g.cw20 := rfl
theorem addNft_nfts (g : GBal) (n : Nft) : (addNft g n).nfts = g.nfts ++ [n] := rfl

theorem addNft_count (g : GBal) (n : Nft) : (addNft g n).count = g.count + 1 := by
  simp only [GBal.count, addNft_nfts, addNft_native, addNft_cw20, List.length_append,
    List.length_singleton, Nat.add_assoc]

theorem addNft_changed (g : GBal) (n : Nft) : genbalCmp g (addNft g n) = false := by
  rw [← Bool.not_eq_true, genbalCmp_iff]
  intro h
  have := ((subsetLen_iff_subset _ _).1 h.2.2).2
  rw [addNft_nfts, List.length_append, List.length_singleton] at this
  omega

theorem checkValid_addNft {g : GBal} (wf : wfBal g = true) (n : Nft) :
    checkValid (addNft g n) = true ↔ g.count + 1 ≤ MAX_ASSETS ∧ n ∉ g.nfts := by
  obtain ⟨w1, w2, w3, w4, w5, w6⟩ := (wfBal_iff g).1 wf
  rw [checkValid_iff, wfBal_iff, addNft_count, addNft_nfts,
    (List.perm_append_singleton n g.nfts).nodup_iff, List.nodup_cons]
  constructor
  · rintro ⟨⟨-, -, -, -, -, hn, -⟩, hc⟩
    exact ⟨hc, hn⟩
  · rintro ⟨hc, hn⟩
    exact ⟨⟨w1, w2, Nat.le_add_left 1 _, w4, w5, hn, w6⟩, hc⟩

end Fuzion
