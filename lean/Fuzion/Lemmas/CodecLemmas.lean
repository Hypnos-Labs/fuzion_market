/-
  Fuzion.Lemmas.CodecLemmas — round-trip lemmas for the token parser of `Driver/Codec.lean` against the
  printers of `Driver/Print.lean`, one per combinator / component parser: `RT p pr` says that `p` reads
  back what `pr` printed, whatever follows.

  A parser is a `do` block over component parsers and its printer concatenates the component printers in
  the same order, so every proof has the same shape: bring the printed tokens into the form
  `t :: … ++ (… ++ rest)`, then let each bind of the block consume its own segment (`RT.step`, and
  `nat_step` / `tok_step` for a single token).

  In the long blocks the lemmas are marked `↓` (tried before the subterms are visited):
  `↓List.append_assoc` reassociates `((a ++ b) ++ …) ++ z` from the outside in one pass, where the default
  order takes quadratically many steps, and a `↓` step lemma consumes its segment without `simp` first
  walking through the rest of the block, which is its continuation.
-/
import Std.Data.String.ToNat
import Fuzion.Driver.Print
namespace Fuzion.Codec
open Fuzion

theorem P.bind_apply {α β : Type} (p : P α) (f : α → P β) (s : List String) :
    (p >>= f) s = (p s).bind (fun x => f x.1 x.2) := rfl

theorem P.pure_apply {α : Type} (a : α) (s : List String) : (pure a : P α) s = some (a, s) := rfl

theorem P.failure_apply {α : Type} (s : List String) : (failure : P α) s = none := rfl

theorem P.bind_ok {α β : Type} {p : P α} {f : α → P β} {s s' : List String} {a : α}
    (h : p s = some (a, s')) : (p >>= f) s = f a s' := by
  rw [P.bind_apply, h]; rfl

def RT {α : Type} (p : P α) (pr : α → List String) : Prop :=
  ∀ x rest, p (pr x ++ rest) = some (x, rest)

theorem RT.step {α β : Type} {p : P α} {pr : α → List String} (h : RT p pr) (f : α → P β) (x : α)
    (rest : List String) : (p >>= f) (pr x ++ rest) = f x rest := P.bind_ok (h x rest)

/-- `tok` reads any token: an equation, not an `RT` statement (there is no printer to invert) -/
@[simp] theorem tok_rt (t : String) (rest : List String) : tok (t :: rest) = some (t, rest) := rfl

theorem tok_step {β : Type} (f : String → P β) (t : String) (rest : List String) :
    (tok >>= f) (t :: rest) = f t rest := P.bind_ok (tok_rt t rest)

/-- `Nat.toNat?_repr` is what `Std.Data.String.ToNat` is imported for, the development's one import
    from outside `Init` -/
theorem nat_rt : RT nat pNat := fun n rest => by
  simp only [nat, pNat, List.cons_append, List.nil_append, tok_step, Nat.toNat?_repr, P.pure_apply]

theorem nat_step {β : Type} (f : Nat → P β) (n : Nat) (rest : List String) :
    (nat >>= f) (Nat.repr n :: rest) = f n rest := nat_rt.step f n rest

theorem rep_rt {α : Type} {p : P α} {pr : α → List String} (h : RT p pr) (l : List α)
    (rest : List String) : rep p l.length (l.flatMap pr ++ rest) = some (l, rest) := by
  induction l with
  | nil => rfl
  | cons x xs ih =>
    simp only [rep, List.length_cons, List.flatMap_cons, List.append_assoc, h.step, P.bind_ok ih,
      P.pure_apply]

theorem listOf_rt {α : Type} {p : P α} {pr : α → List String} (h : RT p pr) :
    RT (listOf p) (pList pr) :=
  fun l rest => (nat_step _ _ _).trans (rep_rt h l rest)

/- Tag dispatch (`if t == "N" then … else if t == "S" then … else failure`): `String.reduceBEq` decides
the comparison of two literals, and `↓reduceIte` then drops the other branch without visiting it. -/
theorem opt_rt {α : Type} {p : P α} {pr : α → List String} (h : RT p pr) : RT (opt p) (pOpt pr) :=
  fun o rest => by
  cases o <;> simp only [opt, pOpt, List.cons_append, List.nil_append, tok_step, String.reduceBEq,
    Bool.false_eq_true, ↓reduceIte, h.step, P.pure_apply]

theorem keyed_rt {α : Type} {p : P α} {pr : α → List String} (h : RT p pr) : RT (keyed p) (pKeyed pr) :=
  fun x rest => by
  simp only [keyed, pKeyed, List.cons_append, List.nil_append, nat_step, h.step, P.pure_apply]

theorem bool01_rt : RT bool01 pBool
  | false, _ => nat_step _ 0 _
  | true, _ => nat_step _ 1 _

theorem status_rt : RT status pStatus
  | .preparing, _ => nat_step _ 0 _
  | .finalized, _ => nat_step _ 1 _
  | .closed, _ => nat_step _ 2 _

theorem feeKind_rt : RT feeKind pFeeKind
  | .juno, _ => nat_step _ 0 _
  | .usdc, _ => nat_step _ 1 _

theorem coin_rt : RT coin pCoin := fun c rest => by
  simp only [coin, pCoin, List.cons_append, List.nil_append, nat_step, P.pure_apply]

theorem nft_rt : RT nft pNft := fun n rest => by
  simp only [nft, pNft, List.cons_append, List.nil_append, nat_step, P.pure_apply]

theorem gbal_rt : RT gbal pGBal := fun g rest => by
  simp only [gbal, pGBal, List.append_assoc, (listOf_rt coin_rt).step, (listOf_rt nft_rt).step, P.pure_apply]

theorem rawAddr_rt : RT rawAddr pRawAddr := fun a rest => by
  cases a <;> simp only [rawAddr, pRawAddr, List.cons_append, List.nil_append, tok_step, String.reduceBEq,
    Bool.false_eq_true, ↓reduceIte, nat_step, P.pure_apply]

theorem optRaw_rt : RT optRaw pOptRaw := fun o rest => by
  rcases o with _ | _ | a <;> simp only [optRaw, pOptRaw, pRawAddr, List.cons_append, List.nil_append,
    tok_step, String.reduceBEq, Bool.false_eq_true, ↓reduceIte, nat_step, P.pure_apply]

theorem rawPair_rt : RT rawPair pRawPair := fun x rest => by
  simp only [rawPair, pRawPair, List.append_assoc, List.cons_append, List.nil_append, rawAddr_rt.step,
    nat_step, P.pure_apply]

theorem rawGBal_rt : RT rawGBal pRawGBal := fun g rest => by
  simp only [rawGBal, pRawGBal, List.append_assoc, (listOf_rt coin_rt).step, (listOf_rt rawPair_rt).step,
    P.pure_apply]

theorem listing_rt : RT listing pListing := fun l rest => by
  simp only [listing, pListing, ↓List.append_assoc, List.cons_append, List.nil_append, ↓nat_step,
    ↓(opt_rt nat_rt).step, ↓status_rt.step, ↓gbal_rt.step, ↓(opt_rt coin_rt).step, P.pure_apply]

theorem bucket_rt : RT bucket pBucket := fun b rest => by
  simp only [bucket, pBucket, List.append_assoc, List.cons_append, List.nil_append, nat_step, gbal_rt.step,
    (opt_rt coin_rt).step, P.pure_apply]

theorem royInfo_rt : RT royInfo pRoyInfo := fun r rest => by
  simp only [royInfo, pRoyInfo, List.cons_append, List.nil_append, nat_step, P.pure_apply]

/-- the anonymous registry-entry parser inside `world` -/
theorem regEntry_rt : RT (do let c ← nat; let i ← royInfo; pure (c, i)) pRegEntry := fun x rest => by
  simp only [pRegEntry, List.cons_append, nat_step, royInfo_rt.step, P.pure_apply]

theorem triple_rt : RT triple pTriple := fun x rest => by
  simp only [triple, pTriple, List.cons_append, List.nil_append, nat_step, P.pure_apply]

theorem contract_rt : RT contract pContract := fun x rest => by
  simp only [contract, pContract, List.append_assoc, List.cons_append, List.nil_append, nat_step,
    (opt_rt nat_rt).step, bool01_rt.step, P.pure_apply]

theorem createMsg_rt : RT createMsg pCreateMsg := fun c rest => by
  simp only [createMsg, pCreateMsg, List.append_assoc, rawGBal_rt.step, optRaw_rt.step, P.pure_apply]

/- `↓tok_step`: with the tokens already in the form `tag :: …`, the tag goes into the dispatcher before
`simp` walks its branches, so that only the branch taken is ever visited. -/
theorem inner_rt : RT inner pInner := fun i rest => by
  rcases i with _ | _ | _ | _ | _ <;> simp only [pInner, List.cons_append, List.nil_append] <;>
    simp only [inner, ↓tok_step, String.reduceBEq, Bool.false_eq_true, ↓reduceIte, ↓nat_step,
      ↓createMsg_rt.step, P.pure_apply]

/-- `execMsg` returns, next to the message, the tag it read: the first token printed -/
theorem execMsg_rt (m : ExecMsg) (rest : List String) :
    execMsg (pExecMsg m ++ rest) = some (((pExecMsg m).headD "", m), rest) := by
  cases m <;>
    simp only [pExecMsg, ↓List.append_assoc, List.cons_append, List.nil_append, List.headD_cons] <;>
    simp only [execMsg, ↓tok_step, String.reduceBEq, Bool.false_eq_true, ↓reduceIte, ↓nat_step,
      ↓createMsg_rt.step, ↓rawGBal_rt.step, ↓rawAddr_rt.step, ↓inner_rt.step, P.pure_apply]

theorem royMsg_rt (m : RoyMsg) (rest : List String) :
    royMsg (pRoyMsg m ++ rest) = some (((pRoyMsg m).headD "", m), rest) := by
  cases m <;>
    simp only [pRoyMsg, ↓List.append_assoc, List.cons_append, List.nil_append, List.headD_cons] <;>
    simp only [royMsg, ↓tok_step, String.reduceBEq, Bool.false_eq_true, ↓reduceIte, ↓rawAddr_rt.step,
      ↓optRaw_rt.step, ↓nat_step, ↓(opt_rt nat_rt).step, P.pure_apply]

end Fuzion.Codec
