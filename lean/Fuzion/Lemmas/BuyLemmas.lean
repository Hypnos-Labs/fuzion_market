/-
  Fuzion.Lemmas.BuyLemmas — the purchase (C02, C03).  Acceptance of `buy` is the predicate
  `BuyTerms`: the handler's tests plus, for each side, a royalty rate sum `bpsOf` of at most 50 %,
  which is when the royalty pass, asked of the real registry, answers `ok`.  "Sells at most once" rests on `SoldOut`, a
  state every accepted message preserves and in which every purchase is refused.
-/
-- `C17_fee_total`, `C17_roy_total_any`: the fee split never fails, the royalty split only over 50 %
import Fuzion.Props.C17
import Fuzion.Inv.MInv
import Fuzion.Lemmas.ChainLemmas
import Fuzion.Lemmas.Records
namespace Fuzion

/-- the royalty rate sum (in bps) the registry reports for a list of collections -/
def bpsOf (env : Env) (cols : List Nat) : Nat := bpsSum (cols.map env.regLookup)

/-- The seller's published terms, for buyer `buyer` paying listing `lid` with bucket `bid`:
    the listing is finalized, unsold and not past its expiration, the caller is the whitelisted
    buyer when one is set, the caller owns the bucket, the bucket's contents equal the ask
    (`genbalCmp`, shown to be permutation equality in `C02_cmp_iff`) and the royalties due on each
    side do not exceed 50 %. -/
def BuyTerms (m : Market) (env : Env) (buyer lid bid : Nat) : Prop :=
  ∃ k l b, findById lid m.listings = some (k, l) ∧ alookup (buyer, bid) m.buckets = some b ∧
    l.status = .finalized ∧ l.claimant = none ∧ (∀ e, l.expiresAt = some e → env.nowNs ≤ e) ∧
    (∀ x, l.whitelist = some x → x = buyer) ∧ b.owner = buyer ∧ genbalCmp b.funds l.ask = true ∧
    bpsOf env (collections l.forSale) ≤ 5000 ∧ bpsOf env (collections b.funds) ≤ 5000

/-! ### the royalty side condition -/

@[simp] theorem bpsOf_nil (env : Env) : bpsOf env [] = 0 := rfl

/-- the driver's `sideBps` is `bpsOf` in the world's environment -/
theorem sideBps_eq (w : World) (g : GBal) : sideBps w g = bpsOf w.env (collections g) := rfl

theorem sideRoyalties_ok_le {env : Env} {ra : Nat} {cols : List Nat} {bal g : GBal}
    {ms : List OutMsg} {s : Nat} (h : sideRoyalties env ra cols bal = .ok g ms s) :
    bpsOf env cols ≤ 5000 ∧ s = bpsOf env cols := by
  obtain ⟨rfl, h5, _⟩ := royalties_closed (sideRoyalties_ok_royalties h)
  exact ⟨h5, rfl⟩

theorem sideRoyalties_panic {env : Env} {ra : Nat} {cols : List Nat} {bal : GBal}
    (h : sideRoyalties env ra cols bal = .panic) : bpsOf env cols > U64MAX := by
  obtain ⟨_, e⟩ | ⟨_, _, e⟩ | ⟨_, _, e⟩ := sideRoyalties_cases env ra cols bal <;> rw [e] at h
  · cases h
  · cases h
  · exact royalties_panic h

theorem sideRoyalties_err {env : Env} {ra : Nat} {cols : List Nat} {bal : GBal}
    (h : sideRoyalties env ra cols bal = .err) : ra ≠ env.regAddr ∨ bpsOf env cols > 5000 := by
  obtain ⟨_, e⟩ | ⟨_, hra, _⟩ | ⟨_, _, e⟩ := sideRoyalties_cases env ra cols bal
  · rw [e] at h; cases h
  · exact .inl hra
  · exact .inr (royalties_err (e ▸ h))

/-- with the registry address the marketplace was instantiated with, the royalty pass of one
    side is accepted iff the rate sum is at most 50 % (it never fails in a subtraction) -/
theorem sideRoyalties_ok_iff (env : Env) (cols : List Nat) (bal : GBal) :
    (∃ g ms s, sideRoyalties env env.regAddr cols bal = .ok g ms s) ↔ bpsOf env cols ≤ 5000 := by
  refine ⟨fun ⟨_, _, _, h⟩ => (sideRoyalties_ok_le h).1, fun h => ?_⟩
  obtain ⟨_, e⟩ | ⟨_, hne, _⟩ | ⟨_, _, e⟩ := sideRoyalties_cases env env.regAddr cols bal
  · exact ⟨_, _, _, e⟩
  · exact absurd rfl hne
  · obtain ⟨g', ms, e'⟩ := C17_roy_total_any bal (rs := cols.map env.regLookup) h
    exact ⟨g', ms, _, e.trans e'⟩

theorem bpsOf_le_of_legal {env : Env} (hl : ∀ c r, env.regLookup c = some r → r.bps ≤ MAX_BPS)
    (cols : List Nat) : bpsOf env cols ≤ 300 * cols.length := by
  have := bpsSum_le_mul_length (rs := cols.map env.regLookup) fun r hr =>
    let ⟨c, _, hc⟩ := List.mem_map.1 hr
    hl c r hc
  rwa [List.length_map] at this

/-- the `u64` rate sum cannot abort for registry-legal rates: `sideRoyalties` is `ok` or `err` -/
theorem sideRoyalties_no_panic {env : Env} (hl : ∀ c r, env.regLookup c = some r → r.bps ≤ MAX_BPS)
    (ra : Nat) {cols : List Nat} (hn : 300 * cols.length ≤ U64MAX) (bal : GBal) :
    sideRoyalties env ra cols bal ≠ .panic :=
  fun h => absurd (sideRoyalties_panic h) (Nat.not_lt.2 (Nat.le_trans (bpsOf_le_of_legal hl cols) hn))

/-! ### `buy`: the terms, and which refusals are not failed tests -/

theorem BuyTerms.of_ok {m : Market} {env : Env} {buyer lid bid : Nat} {r : Market × List OutMsg}
    (h : buy m env buyer lid bid = .ok r) : BuyTerms m env buyer lid bid := by
  obtain ⟨m', out⟩ := r
  cases buy_effect (a := .funds (.native [])) h with
  | buy hb hl ho hcmp hst hwl hcl hexp _ _ _ hr1 hr2 =>
    exact ⟨_, _, _, hl, hb, hst, hcl, hexp, hwl, ho, hcmp, (sideRoyalties_ok_le hr1).1,
      (sideRoyalties_ok_le hr2).1⟩

theorem buy_refused {m : Market} {env : Env} {buyer lid bid : Nat}
    (h : ¬ BuyTerms m env buyer lid bid) : ∃ e, buy m env buyer lid bid = .error e :=
  error_of_not_ok fun _ hb => h (BuyTerms.of_ok hb)

theorem BuyTerms.listing {m : Market} {env : Env} {buyer lid bid : Nat} {k : Nat × Nat} {l : Listing}
    (h : BuyTerms m env buyer lid bid) (hl : findById lid m.listings = some (k, l)) :
    l.status = .finalized ∧ l.claimant = none ∧ ∀ e, l.expiresAt = some e → env.nowNs ≤ e := by
  obtain ⟨_, _, _, hl', _, hs, hc, he, _⟩ := h
  cases hl.symm.trans hl'
  exact ⟨hs, hc, he⟩

/-- the time enters the terms through the listing's expiration only -/
theorem BuyTerms.at_time {m : Market} {env : Env} {buyer lid bid t : Nat} {k : Nat × Nat}
    {l : Listing} (h : BuyTerms m env buyer lid bid) (hl : findById lid m.listings = some (k, l))
    (ht : ∀ e, l.expiresAt = some e → t ≤ e) : BuyTerms m { env with nowNs := t } buyer lid bid := by
  obtain ⟨_, _, b, hl', hb, hs, hc, _, rest⟩ := h
  cases hl.symm.trans hl'
  exact ⟨k, l, b, hl, hb, hs, hc, ht, rest⟩

/-- Which errors `buy` returns: that of a failed test or of a missing registry address, or — with
    both records found and a registry address stored — `panic` / `royaltyOverHalf` because the
    royalty pass of one of the two sides answered `panic` / `err`.  The fee split is total
    (`C17_fee_total`), so `overflow` does not occur. -/
theorem buy_error_cases {m : Market} {env : Env} {buyer lid bid : Nat} {e : Err}
    (h : buy m env buyer lid bid = .error e) :
    e ∈ [Err.noBucket, .notFound, .notOwner, .askMismatch, .notPurchasable, .notWhitelisted,
      .expired, .noRegistry] ∨
    ∃ k l b ra cols bal, findById lid m.listings = some (k, l) ∧
      alookup (buyer, bid) m.buckets = some b ∧ m.registry = some ra ∧
      (cols = collections l.forSale ∨ cols = collections b.funds) ∧
      (e = .panic ∧ sideRoyalties env ra cols bal = .panic ∨
       e = .royaltyOverHalf ∧ sideRoyalties env ra cols bal = .err) := by
  unfold buy at h
  -- each scrutinee becomes a variable before `cases`, so `h` reduces without rewriting in the body
  generalize alookup (buyer, bid) m.buckets = ob at h ⊢
  cases ob with
  | none => cases h; exact .inl (by decide)
  | some b =>
  generalize findById lid m.listings = ol at h ⊢
  cases ol with
  | none => cases h; exact .inl (by decide)
  | some p =>
  -- the six tests: owner, contents, status, whitelist, claimant, expiry
  iterate 6
    obtain rfl | h := ite_error_error h
    · exact .inl (by decide)
  obtain ⟨lfee, lbal, e1⟩ := C17_fee_total (feeDenomOf env m.feeKind) p.2.forSale
  obtain ⟨bfee, bbal, e2⟩ := C17_fee_total (feeDenomOf env m.feeKind) b.funds
  rw [e1, e2] at h
  generalize m.registry = ora at h ⊢
  cases ora with
  | none => cases h; exact .inl (by decide)
  | some ra =>
    dsimp only at h
    refine .inr ⟨p.1, p.2, b, ra, ?_⟩
    generalize r1 : sideRoyalties env ra (collections p.2.forSale) bbal = o1 at h
    cases o1 with
    | panic => cases h; exact ⟨_, _, rfl, rfl, rfl, .inl rfl, .inl ⟨rfl, r1⟩⟩
    | err => cases h; exact ⟨_, _, rfl, rfl, rfl, .inl rfl, .inr ⟨rfl, r1⟩⟩
    | ok fb msgs1 s1 =>
      generalize r2 : sideRoyalties env ra (collections b.funds) lbal = o2 at h
      cases o2 with
      | panic => cases h; exact ⟨_, _, rfl, rfl, rfl, .inr rfl, .inl ⟨rfl, r2⟩⟩
      | err => cases h; exact ⟨_, _, rfl, rfl, rfl, .inr rfl, .inr ⟨rfl, r2⟩⟩
      | ok fl msgs2 s2 => cases h

/-- The state after a purchase, with the key of the listing resolved.  `buy` finds the listing by
    id under whatever key `k` carries it and erases `(l.creator, lid)`; under the id invariant
    these are the same key, so the update is a move from `(l.creator, lid)` to `(buyer, lid)` and
    from `(buyer, bid)` to `(l.creator, bid)`.  The C03 theorems about the new state start here. -/
theorem buy_swap {m m' : Market} {env : Env} {buyer lid bid : Nat} {out : List OutMsg}
    (hI : IdsInv m) (h : buy m env buyer lid bid = .ok (m', out)) :
    ∃ l b lfee bfee fl fb,
      findById lid m.listings = some ((l.creator, lid), l) ∧
      alookup (l.creator, lid) m.listings = some l ∧ l.id = lid ∧
      alookup (buyer, bid) m.buckets = some b ∧
      m' = { m with
        listings := ainsert (buyer, lid)
          { l with creator := buyer, claimant := some buyer, status := .closed, fee := lfee, forSale := fl }
          (aerase (l.creator, lid) m.listings),
        buckets := ainsert (l.creator, bid) ⟨l.creator, fb, bfee⟩ (aerase (buyer, bid) m.buckets) } := by
  cases buy_effect (a := .funds (.native [])) h with
  | buy hb hl =>
    obtain ⟨rfl, hid, hal⟩ := hI.findById_key hl
    exact ⟨_, _, _, _, _, _, hl, hal, hid, hb, rfl⟩

/-! ### "sold or gone": the invariant behind sells-at-most-once -/

/-- listing id `lid` can never be bought (again): it has been handed out, and every live record
    carrying it is closed -/
def SoldOut (m : Market) (lid : Nat) : Prop :=
  lid ∈ m.listingUsed ∧ ∀ p ∈ m.listings, p.2.id = lid → p.2.status = .closed

theorem SoldOut.mono {m m' : Market} {lid : Nat} (hS : SoldOut m lid)
    (hu : ∀ x ∈ m.listingUsed, x ∈ m'.listingUsed)
    (hl : ∀ p ∈ m'.listings, p ∈ m.listings ∨ (p.2.id = lid → p.2.status = .closed)) :
    SoldOut m' lid :=
  ⟨hu _ hS.1, fun p hp hid => (hl p hp).elim (fun h => hS.2 p h hid) (fun h => h hid)⟩

theorem SoldOut.buy_fails {m : Market} {lid : Nat} (hS : SoldOut m lid) (env : Env) (buyer bid : Nat) :
    ∃ e, buy m env buyer lid bid = .error e := by
  refine buy_refused fun h => ?_
  obtain ⟨k, l, _, hl, _, hs, _⟩ := h
  exact nomatch hs.symm.trans (hS.2 (k, l) (findById_some hl).2 (findById_some hl).1)

theorem SoldOut.insert {m : Market} {lid : Nat} (hS : SoldOut m lid) (key : Nat × Nat)
    {l1 : Listing} (h : l1.id = lid → l1.status = .closed) :
    SoldOut { m with listings := ainsert key l1 m.listings } lid :=
  hS.mono (fun _ hx => hx) fun _ hp =>
    (mem_ainsert.1 hp).elim (fun e => .inr (e ▸ h)) (fun hm => .inl hm.1)

theorem SoldOut.update {m : Market} {lid : Nat} {key : Nat × Nat} {l0 l1 : Listing}
    (hS : SoldOut m lid) (h0 : alookup key m.listings = some l0) (hp : l0.status = .preparing)
    (hid : l1.id = l0.id) : SoldOut { m with listings := ainsert key l1 m.listings } lid :=
  hS.insert key fun hl =>
    nomatch hp.symm.trans (hS.2 (key, l0) (alookup_some_mem h0) (hid.symm.trans hl))

theorem SoldOut.create {m : Market} {lid id : Nat} {key : Nat × Nat} {l1 : Listing}
    (hS : SoldOut m lid) (hnu : id ∉ m.listingUsed) (hid : l1.id = id) :
    SoldOut { m with listings := ainsert key l1 m.listings, listingUsed := id :: m.listingUsed } lid :=
  have h := hS.insert key (l1 := l1) fun hl => absurd (hid.symm.trans hl ▸ hS.1) hnu
  ⟨List.mem_cons_of_mem _ h.1, h.2⟩

theorem SoldOut.erase {m : Market} {lid : Nat} (key : Nat × Nat) (hS : SoldOut m lid) :
    SoldOut { m with listings := aerase key m.listings } lid :=
  hS.mono (fun _ hx => hx) (fun _ hp => .inl (mem_aerase.1 hp).1)

/-- Every accepted message preserves `SoldOut`: edits touch preparing records only, creation
    refuses logged ids, deletion and withdrawal only remove, and the record a purchase — of any
    listing — re-files is closed. -/
theorem Effect.soldOut {m m' : Market} {env : Env} {u : Nat} {a : Asset} {msg : ExecMsg}
    {out : List OutMsg} {lid : Nat} (e : Effect m env u a msg m' out) (hS : SoldOut m lid) :
    SoldOut m' lid := by
  induction e with
  | createListing _ _ hfresh => exact hS.create hfresh rfl
  | addToListing _ hl _ hst => exact hS.update hl hst rfl
  | changeAsk hl _ _ hst => exact hS.update hl hst rfl
  | finalize hl _ _ hst => exact hS.update hl hst rfl
  | deleteListing | withdrawPurchased => exact hS.erase _
  | buy => exact (hS.erase _).insert _ fun _ => rfl
  | createBucket | addToBucket | removeBucket | feeCycle => exact hS

theorem soldOut_preserved (lid : Nat) : ExecPreserves (fun m => SoldOut m lid) :=
  fun _ _ _ _ _ _ _ hS h =>
    let ⟨_, _, _, _, _, e⟩ := execute_effect h
    e.soldOut hS

/-- `op` is a purchase message for listing `lid` (any sender, any bucket, any attached coins) -/
def isBuyOf (lid : Nat) : Op → Bool
  | .exec _ _ (.buy l _) => decide (l = lid)
  | _ => false

theorem isBuyOf_iff {lid : Nat} {op : Op} :
    isBuyOf lid op = true ↔ ∃ s f bid, op = .exec s f (.buy lid bid) := by
  constructor
  · intro h
    cases op with
    | exec s f msg =>
      cases msg with
      | buy l bid => exact ⟨s, f, bid, of_decide_eq_true h ▸ rfl⟩
      | _ => cases h
    | _ => cases h
  · rintro ⟨s, f, bid, rfl⟩
    exact decide_eq_true rfl

/-- number of *successful* purchases of listing `lid` along the trace of `ops` from `w` -/
def buysOf (lid : Nat) (w : World) : List Op → Nat
  | [] => 0
  | op :: ops => (if isBuyOf lid op && (step w op).2.ok then 1 else 0) + buysOf lid (step w op).1 ops

theorem step_buy_ok {w : World} {s : Nat} {f : List Coin} {lid bid : Nat}
    (h : (step w (.exec s f (.buy lid bid))).2.ok = true) :
    buy w.mkt w.env s lid bid = .ok ((step w (.exec s f (.buy lid bid))).1.mkt,
      (step w (.exec s f (.buy lid bid))).2.msgs) ∧ f = [] ∧
      CoreEq w (step w (.exec s f (.buy lid bid))).1 :=
  have ⟨hx, hc⟩ := stepF_ok_execute (op := .exec s f (.buy lid bid)) rfl h
  ⟨buy_of_execute hx, execute_ok_nil rfl hx, hc⟩

theorem step_buy_refused_of_soldOut {w : World} {lid : Nat} (hS : SoldOut w.mkt lid)
    (s : Nat) (f : List Coin) (bid : Nat) : (step w (.exec s f (.buy lid bid))).2.ok = false := by
  refine Bool.eq_false_iff.2 fun hok => ?_
  obtain ⟨e, he⟩ := hS.buy_fails w.env s bid
  exact nomatch he.symm.trans (step_buy_ok hok).1

theorem SoldOut.not_bought {w : World} {lid : Nat} (hS : SoldOut w.mkt lid) (op : Op) :
    (isBuyOf lid op && (step w op).2.ok) = false := by
  cases hb : isBuyOf lid op with
  | false => rfl
  | true =>
    obtain ⟨s, f, bid, rfl⟩ := isBuyOf_iff.1 hb
    exact step_buy_refused_of_soldOut hS s f bid

theorem buysOf_eq_zero_of_soldOut {lid : Nat} (ops : List Op) :
    ∀ {w : World}, SoldOut w.mkt lid → buysOf lid w ops = 0 := by
  induction ops with
  | nil => intro _ _; rfl
  | cons op ops ih =>
    intro w hS
    rw [buysOf, hS.not_bought op, ih (step_preserves (soldOut_preserved lid) hS op)]
    rfl

/-! ### who may claim after a sale -/

/-- `RemoveBucket` tests ownership only: the bucket a purchase files under the seller is an
    ordinary bucket of his, so the seller's claim needs no status or claimant condition -/
theorem withdrawBucket_accepts_iff {m : Market} {env : Env} {who bid : Nat} :
    (∃ r, withdrawBucket m env who bid = .ok r) ↔
      ∃ b, alookup (who, bid) m.buckets = some b ∧ b.owner = who := by
  constructor
  · rintro ⟨⟨m', out⟩, h⟩
    obtain ⟨b, hb, ho, _⟩ := withdrawBucket_ok_iff.1 h
    exact ⟨b, hb, ho⟩
  · rintro ⟨b, hb, ho⟩
    exact ⟨_, withdrawBucket_ok_iff.2 ⟨b, hb, ho, rfl, rfl⟩⟩

/-! ### a concrete market and world for the examples -/

namespace BuyEx

def t0 : Nat := 1000 * NS
def tExp : Nat := t0 + 600 * NS

/-- what seller 10 offers: 1000 of denom 100 (the current fee denom) and NFT 7 of collection 50 -/
def goods : GBal := ⟨[⟨100, 1000⟩], [], [⟨50, 7⟩]⟩
/-- what the seller asks: 500 of denom 101, 20 of CW20 token 60 and 5 of token 61 -/
def ask : GBal := ⟨[⟨101, 500⟩], [⟨60, 20⟩, ⟨61, 5⟩], []⟩
/-- the same assets in another order -/
def pay : GBal := ⟨[⟨101, 500⟩], [⟨61, 5⟩, ⟨60, 20⟩], []⟩

def lst : Listing :=
  { creator := 10, id := 1, finalizedAt := some t0, expiresAt := some tExp, status := .finalized,
    claimant := none, whitelist := none, forSale := goods, ask := ask, fee := none }

/-- listing 1 of seller 10, bucket 2 of buyer 20 (matches the ask, other order), bucket 3 of a
    competing buyer 30 (matches too), bucket 4 of 30 (does not match) -/
def mkt : Market :=
  { listings := [((10, 1), lst)],
    buckets := [((20, 2), ⟨20, pay, none⟩), ((30, 3), ⟨30, ask, none⟩), ((30, 4), ⟨30, goods, none⟩)],
    listingUsed := [1, 0], bucketUsed := [4, 3, 2, 0],
    feeKind := .juno, feeSince := 0, registry := some 5 }

/-- a world holding exactly what `mkt` records (twice `ask`, twice `goods`), one second after
    the listing was finalized; collection 50 is registered at 300 bps.  `RoyaltyInfo` is last
    update, bps, payout wallet; `ContractInfo` is admin, kind (1 honest CW20, 2 honest CW721),
    answers `TokenInfo`, rejects transfers. -/
def world : World :=
  { self := 1, pool := 2, regAddr := 5, junoD := 100, usdcD := 101, nowNs := t0 + NS, height := 500,
    mkt := mkt,
    reg := [(50, ⟨0, 300, 99⟩)],
    bank := [((1, 100), 2000), ((1, 101), 1000)],
    cw20 := [((60, 1), 40), ((61, 1), 10)],
    nft := [((50, 7), 1)],
    contracts := [(60, ⟨none, 1, true, false⟩), (61, ⟨none, 1, true, false⟩),
                  (50, ⟨some 9, 2, false, false⟩)] }

def env : Env := world.env

theorem ids : IdsInv mkt := by
  constructor <;> decide

theorem wf : WFInv 100 101 mkt := by
  constructor <;> decide

/-- what the purchase of listing 1 with bucket 2 returns -/
def bought : Market × List OutMsg :=
  match buy mkt env 20 1 2 with
  | .ok r => r
  | .error _ => (mkt, [])

theorem buy_eq : buy mkt env 20 1 2 = .ok bought := rfl

theorem ids_bought : IdsInv bought.1 := by
  constructor <;> decide

theorem step_ok : (step world (.exec 20 [] (.buy 1 2))).2.ok = true := by decide

def world' : World := (step world (.exec 20 [] (.buy 1 2))).1

end BuyEx

end Fuzion
