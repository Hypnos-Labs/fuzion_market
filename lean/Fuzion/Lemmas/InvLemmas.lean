/-
  Fuzion.Lemmas.InvLemmas — the two storage invariants `IdsInv` (C09) and `WFInv` (C12) along an
  accepted message.  Every `Effect` changes the record tables in one of eight shapes (`Shape`:
  insert at a fresh id, replace keeping owner and id, erase, the two moves of a purchase, the fee
  cycle); each invariant is shown once per shape.  Besides: which id a creation logs
  (`execute_creates`), and that every message a well-formed state pays out is one the bank or a
  token contract accepts (`Effect.wellFormed`).
-/
import Fuzion.Inv.MInv
import Fuzion.Lemmas.Records
import Fuzion.Lemmas.ChainLemmas
-- `C11_wf_fee_then_roy`: what fee and royalties leave of a well-formed balance
import Fuzion.Props.C11
namespace Fuzion

theorem calcFeeCoin_wfFee {env : Env} {fk : FeeKind} {g g' : GBal} {fee : Option Coin}
    (h : calcFeeCoin (feeDenomOf env fk) g = some (fee, g')) :
    wfFee env.junoD env.usdcD fee = true := by
  rcases calcFeeCoin_fee_cases h with ⟨rfl, -⟩ | ⟨c, -, ha, rfl, -⟩
  · rfl
  · cases fk
    · exact wfFee_some.2 ⟨ha, .inl rfl⟩
    · exact wfFee_some.2 ⟨ha, .inr rfl⟩

/-- The ways an accepted message changes the marketplace record (`j`, `u`: the two fee
    denominations): (a) a new record at a fresh id, (b) a record replaced by one with the same
    creator and id (owner), (c) a key erased, (d) the purchase, and the fee cycle.  Each shape
    carries what is needed to keep `IdsInv` and `WFInv`.

    `trade` has the listing by membership under whatever key `kl` and erases `(l.creator, l.id)`,
    while the bucket is looked up and erased under one key `kb`: `execute_buy_listing` finds the
    listing through the id index and removes `(the_listing.creator, listing_id)`, but loads and
    removes the bucket under `(buyer, bucket_id)`.  That `kl` is the erased key is part of
    `IdsInv` and is used in `Shape.ids` only: `Shape.wf` does without, which is why
    `C12_inv_execute` has no `IdsInv` premise. -/
inductive Shape (j u : Nat) (m : Market) : Market → Prop
  | bIns (c id : Nat) (b : Bucket) (hf : id ∉ m.bucketUsed) (ho : b.owner = c)
      (hw : wfBucket j u (c, id) b = true) :
      Shape j u m { m with buckets := ainsert (c, id) b m.buckets, bucketUsed := id :: m.bucketUsed }
  | bRep (k : Nat × Nat) (b b' : Bucket) (hl : alookup k m.buckets = some b)
      (ho : b'.owner = b.owner) (hw : wfBucket j u k b = true → wfBucket j u k b' = true) :
      Shape j u m { m with buckets := ainsert k b' m.buckets }
  | bDel (k : Nat × Nat) : Shape j u m { m with buckets := aerase k m.buckets }
  | lIns (c id : Nat) (l : Listing) (hf : id ∉ m.listingUsed) (hc : l.creator = c) (hid : l.id = id)
      (hw : wfListing j u (c, id) l = true) :
      Shape j u m { m with listings := ainsert (c, id) l m.listings,
                           listingUsed := id :: m.listingUsed }
  | lRep (k : Nat × Nat) (l l' : Listing) (hl : alookup k m.listings = some l)
      (hc : l'.creator = l.creator) (hid : l'.id = l.id)
      (hw : wfListing j u k l = true → wfListing j u k l' = true) :
      Shape j u m { m with listings := ainsert k l' m.listings }
  | lDel (k : Nat × Nat) : Shape j u m { m with listings := aerase k m.listings }
  | trade (kl : Nat × Nat) (l l' : Listing) (kb : Nat × Nat) (b b' : Bucket) (buyer seller : Nat)
      (hl : (kl, l) ∈ m.listings) (hb : alookup kb m.buckets = some b)
      (hid : l'.id = l.id) (hc : l'.creator = buyer) (ho : b'.owner = seller)
      (hw : wfListing j u kl l = true → wfBucket j u kb b = true →
        wfListing j u (buyer, l.id) l' = true ∧ wfBucket j u (seller, kb.2) b' = true) :
      Shape j u m { m with listings := ainsert (buyer, l.id) l' (aerase (l.creator, l.id) m.listings),
                           buckets := ainsert (seller, kb.2) b' (aerase kb m.buckets) }
  | fee (fk : FeeKind) (fs : Nat) : Shape j u m { m with feeKind := fk, feeSince := fs }

/-- `IdsInv` per table is `LIds` / `BIds` (Lemmas/Records); each shape is one of their closure
    lemmas `insert`, `replace`, `erase`, `move`. -/
theorem Shape.ids {j u : Nat} {m m' : Market} (s : Shape j u m m') (h : IdsInv m) : IdsInv m' := by
  rw [IdsInv_iff] at h ⊢
  obtain ⟨hl, hb⟩ := h
  cases s with
  | bIns c id b hf ho hw => exact ⟨hl, hb.insert hf ho⟩
  | bRep k b b' hlk ho hw => exact ⟨hl, hb.replace hlk ho⟩
  | bDel k => exact ⟨hl, hb.erase k⟩
  | lIns c id l hf hc hid hw => exact ⟨hl.insert hf hc hid, hb⟩
  | lRep k l l' hlk hc hid hw => exact ⟨hl.replace hlk hc hid, hb⟩
  | lDel k => exact ⟨hl.erase k, hb⟩
  | trade kl l l' kb b b' buyer seller hml hlb hid hc ho hw =>
    obtain rfl : kl = (l.creator, l.id) := hl.filed _ hml
    exact ⟨hl.move hml hc hid, hb.move (alookup_some_mem hlb) ho⟩
  | fee fk fs => exact ⟨hl, hb⟩

theorem Shape.wf {j u : Nat} {m m' : Market} (s : Shape j u m m') (h : WFInv j u m) :
    WFInv j u m' := by
  cases s with
  | bIns c id b hf ho hw => exact ⟨h.lwf, forall_mem_ainsert h.bwf hw⟩
  | bRep k b b' hlk ho hw =>
    exact ⟨h.lwf, forall_mem_ainsert h.bwf (hw (h.bwf (k, b) (alookup_some_mem hlk)))⟩
  | bDel k => exact ⟨h.lwf, forall_mem_aerase h.bwf k⟩
  | lIns c id l hf hc hid hw => exact ⟨forall_mem_ainsert h.lwf hw, h.bwf⟩
  | lRep k l l' hlk hc hid hw =>
    exact ⟨forall_mem_ainsert h.lwf (hw (h.lwf (k, l) (alookup_some_mem hlk))), h.bwf⟩
  | lDel k => exact ⟨forall_mem_aerase h.lwf k, h.bwf⟩
  | trade kl l l' kb b b' buyer seller hml hlb hid hc ho hw =>
    have := hw (h.lwf (kl, l) hml) (h.bwf (kb, b) (alookup_some_mem hlb))
    exact ⟨forall_mem_ainsert (forall_mem_aerase h.lwf _) this.1,
      forall_mem_ainsert (forall_mem_aerase h.bwf _) this.2⟩
  | fee fk fs => exact ⟨h.lwf, h.bwf⟩

theorem Shape.used_mono {j u : Nat} {m m' : Market} (s : Shape j u m m') :
    (∀ i ∈ m.listingUsed, i ∈ m'.listingUsed) ∧ (∀ i ∈ m.bucketUsed, i ∈ m'.bucketUsed) := by
  cases s <;> refine ⟨fun i hi => ?_, fun i hi => ?_⟩ <;>
    first | exact hi | exact List.mem_cons_of_mem _ hi

/-- no resurrection: a listing with a logged id is there afterwards only if one was there before -/
theorem Shape.live_l {j u : Nat} {m m' : Market} (s : Shape j u m m') {i : Nat}
    (hu : i ∈ m.listingUsed) (hl : ∃ p ∈ m'.listings, p.2.id = i) : ∃ p ∈ m.listings, p.2.id = i := by
  cases s with
  | lIns c id l hf hc hid hw =>
    exact (exists_mem_ainsert hl).resolve_left fun e => hf (hid ▸ (show l.id = i from e) ▸ hu)
  | lRep k l l' hlk hc hid hw =>
    exact (exists_mem_ainsert hl).elim (fun e => ⟨(k, l), alookup_some_mem hlk, hid.symm.trans e⟩) id
  | lDel k => exact exists_mem_aerase hl
  | trade kl l l' kb b b' buyer seller hml hlb hid hc ho hw =>
    exact (exists_mem_ainsert hl).elim (fun e => ⟨(kl, l), hml, hid.symm.trans e⟩) exists_mem_aerase
  | _ => exact hl

theorem Shape.live_b {j u : Nat} {m m' : Market} (s : Shape j u m m') {i : Nat}
    (hu : i ∈ m.bucketUsed) (hl : ∃ p ∈ m'.buckets, p.1.2 = i) : ∃ p ∈ m.buckets, p.1.2 = i := by
  cases s with
  | bIns c id b hf ho hw =>
    exact (exists_mem_ainsert hl).resolve_left fun e => hf ((show id = i from e) ▸ hu)
  | bRep k b b' hlk ho hw =>
    exact (exists_mem_ainsert hl).elim (fun e => ⟨(k, b), alookup_some_mem hlk, e⟩) id
  | bDel k => exact exists_mem_aerase hl
  | trade kl l l' kb b b' buyer seller hml hlb hid hc ho hw =>
    exact (exists_mem_ainsert hl).elim (fun e => ⟨(kb, b), alookup_some_mem hlb, e⟩) exists_mem_aerase
  | _ => exact hl

theorem Asset.wfBal_bal {a : Asset} (h : a.ok = true) : wfBal a.bal = true := by
  cases a with
  | funds f => exact (normalizedCheck_iff_wfBal f).1 h
  | nft n => exact wfBal_fromNft n

theorem Asset.wfBal_addTo {a : Asset} {g nf : GBal} (wf : wfBal g = true) (ha : a.ok = true)
    (hnf : a.addTo g = some nf) (hv : a.listingOk nf = true) : wfBal nf = true := by
  cases a with
  | funds f => exact addTokens_wf wf ha hnf
  | nft n => exact ((checkValid_iff _).1 hv).1

/-- Every effect changes the record tables in one of the shapes.  The well-formedness clauses are
    where the handlers' tests are used: a deposit passed `normalized_check`, an ask `validate`, a
    top-up `check_valid` or the cap; a purchase leaves of each side what fee and royalties leave
    of a well-formed balance (`C11_wf_fee_then_roy`) and records the fee as pending
    (`calcFeeCoin_wfFee`). -/
theorem Effect.shape {m m' : Market} {env : Env} {u : Nat} {a : Asset} {msg : ExecMsg}
    {out : List OutMsg} (e : Effect m env u a msg m' out) : Shape env.junoD env.usdcD m m' := by
  induction e with
  | createListing hid ha hfresh hnew hwl hask =>
    exact .lIns u _ _ hfresh rfl rfl
      (wfListing_iff.2 ⟨rfl, Asset.wfBal_bal ha, validateAsk_checkValid hask,
        -- the clauses for a preparing, a finalized, a closed record; the new one is preparing
        fun _ => ⟨rfl, rfl, rfl, rfl⟩, nofun, nofun⟩)
  | addToListing ha hl ho hst hcl hnf hch hv =>
    refine .lRep _ _ _ hl rfl rfl fun w => ?_
    rw [wfListing_iff] at w ⊢
    exact ⟨w.1, Asset.wfBal_addTo w.2.1 ha hnf hv, w.2.2⟩
  | changeAsk hl ho hfin hst hcl hask =>
    refine .lRep _ _ _ hl rfl rfl fun w => ?_
    rw [wfListing_iff] at w ⊢
    exact ⟨w.1, w.2.1, validateAsk_checkValid hask, w.2.2.2⟩
  | finalize hl ho hfin hst hcl hmin hmax =>
    refine .lRep _ _ _ hl rfl rfl fun w => ?_
    rw [wfListing_iff] at w ⊢
    obtain ⟨_, _, hc, hf⟩ := w.2.2.2.1 hst
    exact ⟨w.1, w.2.1, w.2.2.1, nofun, fun _ => ⟨wfTimes_finalize _ _ hmin hmax, hc, hf⟩, nofun⟩
  | deleteListing hl ho hcl hexp => exact .lDel _
  | createBucket hid hfresh hnew ha =>
    exact .bIns u _ _ hfresh rfl (wfBucket_iff.2 ⟨rfl, Asset.wfBal_bal ha, rfl⟩)
  | addToBucket ha hb ho hnf hch hv =>
    refine .bRep _ _ _ hb rfl fun w => ?_
    rw [wfBucket_iff] at w ⊢
    exact ⟨w.1, ((checkValid_iff _).1 hv).1, w.2.2⟩
  | @buy lid bid k l b lfee bfee lbal bbal fb fl ra s1 s2 msgs1 msgs2 hb hl ho hcmp hst hwl hcl hexp
      hlfee hbfee hra hr1 hr2 =>
    obtain ⟨hid, hmem⟩ := findById_some hl
    -- `hid : (k, l).2.id = lid`: write the id the model erases by as `l.id`, as `Shape.trade` does
    dsimp only at hid
    subst hid
    refine .trade k l _ (u, bid) b _ u l.creator hmem hb rfl rfl rfl fun w1 w2 => ?_
    -- the royalties cross: those of the listing's collections are taken from the bucket's balance
    -- after the fee (`hr1`), those of the bucket's collections from the listing's (`hr2`)
    obtain ⟨_, wfs, wa, _⟩ := wfListing_iff.1 w1
    obtain ⟨_, wfb, _⟩ := wfBucket_iff.1 w2
    exact ⟨wfListing_iff.2 ⟨rfl, C11_wf_fee_then_roy wfs hlfee (sideRoyalties_ok_royalties hr2), wa,
        nofun, nofun,
        fun _ => ⟨(wfListing_finalized w1 hst).1, rfl, calcFeeCoin_wfFee hlfee⟩⟩,
      wfBucket_iff.2 ⟨rfl, C11_wf_fee_then_roy wfb hbfee (sideRoyalties_ok_royalties hr1),
        calcFeeCoin_wfFee hbfee⟩⟩
  | removeBucket hb ho => exact .bDel _
  | withdrawPurchased hl hcl hst => exact .lDel _
  | feeCycle hdue => exact .fee _ _

theorem execute_shape {m m' : Market} {env : Env} {sender : Nat} {funds : List Coin} {msg : ExecMsg}
    {out : List OutMsg} (h : execute m env sender funds msg = .ok (m', out)) :
    Shape env.junoD env.usdcD m m' :=
  let ⟨_, _, _, _, _, e⟩ := execute_effect h
  e.shape

theorem stepF_failed_eq {fail : Nat → Bool} {w : World} {op : Op} {c : Nat} {f : List Coin}
    {msg : ExecMsg} (ho : op.asExec = some (c, f, msg)) (hok : (stepF fail w op).2.ok = false) :
    (stepF fail w op).1 = w :=
  (stepF_ok_cases ho).elim (·.2) fun h => nomatch h.1.symm.trans hok

/-! ### creation: which id is logged -/

/-- the listing id a message asks to create (directly, or through the CW20 / CW721 hook) -/
def ExecMsg.createsListing : ExecMsg → Option Nat
  | .createListing id _ => some id
  | .receive _ _ (some (.createListing id _)) => some id
  | .receiveNft _ _ (some (.createListing id _)) => some id
  | _ => none

/-- the bucket id a message asks to create (directly, or through the CW20 / CW721 hook) -/
def ExecMsg.createsBucket : ExecMsg → Option Nat
  | .createBucket id => some id
  | .receive _ _ (some (.createBucket id)) => some id
  | .receiveNft _ _ (some (.createBucket id)) => some id
  | _ => none

/-- the listing / bucket id an operation asks to create (a `Send` / `SendNft` of an honest token
    contract included: `Op.asExec`) -/
def Op.createsListing (op : Op) : Option Nat :=
  match op.asExec with
  | some (_, _, msg) => msg.createsListing
  | none => none

def Op.createsBucket (op : Op) : Option Nat :=
  match op.asExec with
  | some (_, _, msg) => msg.createsBucket
  | none => none

theorem ExecMsg.unwrap_creates {msg msg' : ExecMsg} {s u : Nat} {f : List Coin} {a : Asset}
    (h : msg.unwrap s f = some (u, a, msg')) :
    msg.createsListing = msg'.createsListing ∧ msg.createsBucket = msg'.createsBucket := by
  rcases ExecMsg.unwrap_cases h with ⟨_, im, rfl, _, rfl⟩ | ⟨_, im, rfl, _, rfl⟩ | ⟨rfl, _⟩
  · cases im <;> exact ⟨rfl, rfl⟩
  · cases im <;> exact ⟨rfl, rfl⟩
  · exact ⟨rfl, rfl⟩

/-- a creation, on whichever path, is accepted only for a legal id that is not in the log, and
    logs it -/
theorem execute_creates {m m' : Market} {env : Env} {s : Nat} {f : List Coin} {msg : ExecMsg}
    {out : List OutMsg} (h : execute m env s f msg = .ok (m', out)) {id : Nat} :
    (msg.createsListing = some id →
      id < MAX_SAFE_INT ∧ id ∉ m.listingUsed ∧ m'.listingUsed = id :: m.listingUsed) ∧
    (msg.createsBucket = some id →
      id < MAX_SAFE_INT ∧ id ∉ m.bucketUsed ∧ m'.bucketUsed = id :: m.bucketUsed) := by
  obtain ⟨_, u, a, msg', hu, e⟩ := execute_effect h
  rw [(ExecMsg.unwrap_creates hu).1, (ExecMsg.unwrap_creates hu).2]
  induction e with
  | createListing hid _ hfresh => exact ⟨fun hc => by cases hc; exact ⟨hid, hfresh, rfl⟩, nofun⟩
  | createBucket hid hfresh => exact ⟨nofun, fun hc => by cases hc; exact ⟨hid, hfresh, rfl⟩⟩
  | _ => exact ⟨nofun, nofun⟩

theorem step_creates {w : World} {op : Op} {id : Nat} (h : (step w op).2.ok = true) :
    (op.createsListing = some id →
      id < MAX_SAFE_INT ∧ id ∉ w.mkt.listingUsed ∧
      (step w op).1.mkt.listingUsed = id :: w.mkt.listingUsed) ∧
    (op.createsBucket = some id →
      id < MAX_SAFE_INT ∧ id ∉ w.mkt.bucketUsed ∧
      (step w op).1.mkt.bucketUsed = id :: w.mkt.bucketUsed) := by
  unfold Op.createsListing Op.createsBucket
  cases ho : op.asExec with
  | none => exact ⟨nofun, nofun⟩
  | some t =>
    obtain ⟨c, f, msg⟩ := t
    exact execute_creates (stepF_ok_execute ho h).1

/-! ### payout messages the bank and the token contracts accept -/

/-- a message the bank / a token contract cannot reject for being empty, zero or duplicated -/
def OutMsg.wellFormed : OutMsg → Prop
  | .bankSend _ coins => coins ≠ [] ∧ (∀ c ∈ coins, c.amount ≠ 0) ∧ (keys coins).Nodup
  | .cw20Transfer _ _ amt => amt ≠ 0
  | .nftTransfer _ _ _ => True
  | .fundPool _ c => c.amount ≠ 0

theorem sendTokens_wellFormed {to : Nat} {g : GBal} (wf : wfBal g = true) :
    ∀ msg ∈ sendTokens to g, msg.wellFormed := by
  obtain ⟨w1, w2, _, w4, _, _⟩ := (wfBal_iff g).1 wf
  intro msg hm
  obtain ⟨hne, rfl⟩ | ⟨c, hc, rfl⟩ | ⟨n, _, rfl⟩ := mem_sendTokens.1 hm
  · exact ⟨hne, w1, w4⟩
  · exact w2 c hc
  · trivial

theorem feeMsg_wellFormed {j u self : Nat} {fee : Option Coin} (wff : wfFee j u fee = true) :
    ∀ msg ∈ feeMsg self fee, msg.wellFormed := by
  intro msg hm
  obtain ⟨f, rfl, rfl⟩ := mem_feeMsg.1 hm
  exact (wfFee_some.1 wff).1

theorem withdrawMsgs_wellFormed {j u self to : Nat} {g : GBal} {fee : Option Coin}
    (wf : wfBal g = true) (wff : wfFee j u fee = true) :
    ∀ msg ∈ withdrawMsgs self to g fee, msg.wellFormed :=
  List.forall_mem_append.2 ⟨sendTokens_wellFormed wf, feeMsg_wellFormed wff⟩

theorem royalties_wellFormed {g g' : GBal} {resp : List (Option RoyaltyInfo)} {ms : List OutMsg}
    {s : Nat} (h : royalties g resp = .ok g' ms s) : ∀ x ∈ ms, x.wellFormed := by
  intro x hx
  obtain ⟨_, _, _, _, hz, rfl⟩ | ⟨_, _, _, _, hz, rfl⟩ := (mem_royalties h).1 hx
  · exact ⟨nofun, fun c hc => List.mem_singleton.1 hc ▸ hz, List.pairwise_singleton _ _⟩
  · exact hz

/-- the three paying-out handlers send a stored balance (and its pending fee), a purchase the
    pending fee of the paying bucket and the royalty payouts of both sides; the rest emit nothing -/
theorem Effect.wellFormed {j k : Nat} {m m' : Market} {env : Env} {u : Nat} {a : Asset}
    {msg : ExecMsg} {out : List OutMsg} (hw : WFInv j k m) (e : Effect m env u a msg m' out) :
    ∀ x ∈ out, x.wellFormed := by
  induction e with
  | deleteListing hl => exact sendTokens_wellFormed (wfListing_iff.1 (hw.listing hl)).2.1
  | removeBucket hb =>
    have h := wfBucket_iff.1 (hw.bucket hb)
    exact withdrawMsgs_wellFormed h.2.1 h.2.2
  | withdrawPurchased hl =>
    have h := hw.lwf _ (findById_some hl).2
    exact withdrawMsgs_wellFormed (wfListing_iff.1 h).2.1 (wfListing_wfFee h)
  | buy hb _ _ _ _ _ _ _ _ _ _ hr1 hr2 =>
    -- `pendingFeeMsgs` (Handlers) and `feeMsg` (Arith) are one function; the lemmas speak of `feeMsg`
    simp only [List.forall_mem_append, ← feeMsg_eq_pendingFeeMsgs]
    exact ⟨⟨feeMsg_wellFormed (wfBucket_iff.1 (hw.bucket hb)).2.2,
      royalties_wellFormed (sideRoyalties_ok_royalties hr1)⟩,
      royalties_wellFormed (sideRoyalties_ok_royalties hr2)⟩
  | _ => exact List.forall_mem_nil _

end Fuzion
