/-
  Fuzion.Lemmas.ExitLemmas — behind C05 ("deposits and payouts move exactly the stated assets to the
  right party") and C07 ("nothing gets stuck"): when the chain accepts the messages of a payout and
  what their dispatch does to every account; what a deposit does to the record tables; and the
  invariant that the records name admissible token contracts only and that none is owned by the
  marketplace itself.
-/
import Fuzion.Lemmas.AcctLemmas
namespace Fuzion

/-- no asset of `g` was recorded through a forged hook call (finding C18): such assets may refuse
    to move -/
def HonestAssets (w : World) (g : GBal) : Prop :=
  (∀ c ∈ g.cw20, w.isHonest20 c.key = true) ∧ (∀ n ∈ g.nfts, w.isHonest721 n.coll = true)

instance (w : World) (g : GBal) : Decidable (HonestAssets w g) := by
  unfold HonestAssets; exact inferInstance

theorem HonestAssets.of_coreEq {w w' : World} (h : CoreEq w w') {g : GBal} (hh : HonestAssets w g) :
    HonestAssets w' g :=
  ⟨fun c hc => by rw [h.isHonest20]; exact hh.1 c hc, fun n hn => by rw [h.isHonest721]; exact hh.2 n hn⟩

structure Covers (w : World) (g : GBal) (fee : Option Coin) : Prop where
  bank : ∀ d, coinAmt g.native d + feeAmt fee d ≤ lget w.bank (w.self, d)
  cw20 : ∀ c ∈ g.cw20, c.amount ≤ lget w.cw20 (c.key, w.self)
  nft : ∀ n ∈ g.nfts, alookup (n.coll, n.tid) w.nft = some w.self

/-! ## the payout messages -/

/-- The budget argument.  `Covers.bank` adds the fee to the native part because the fee deposit is the
    last message and its denomination may be one of those just sent; `hfz` because the bank refuses a
    `fundPool` of zero (a stored fee is non-zero: `wfListing_fee`, `wfBucket_fee`).  `m'` is the
    record table the handler stored (irrelevant to the chain). -/
theorem withdraw_dispatch_ok {w : World} {m' : Market} {to : Nat} {g : GBal} {fee : Option Coin}
    (hwf : wfBal g = true) (hfz : ∀ f, fee = some f → f.amount ≠ 0) (hc : Covers w g fee)
    (hh : HonestAssets w g) :
    ∃ w2, dispatchAll noFault { w with mkt := m' } (withdrawMsgs w.self to g fee) 0 = some w2 := by
  obtain ⟨z1, z2, _, _, n2, n3⟩ := (wfBal_iff g).1 hwf
  refine dispatchAll_ok_of_budget (w := { w with mkt := m' }) 0 (fun x hx => ?_)
    (fun d => paidNative_withdrawMsgs .. ▸ hc.bank d)
    (fun t _ => paidCw20_withdrawMsgs .. ▸
      (coinAmt_le_iff_of_nodup n2 (f := fun t => lget w.cw20 (t, w.self))).2 hc.cw20 t)
    (sentNfts_withdrawMsgs .. ▸ n3) (sentNfts_withdrawMsgs .. ▸ hc.nft)
  rcases List.mem_append.1 hx with hx | hx
  · obtain ⟨hne, rfl⟩ | ⟨c, hc, rfl⟩ | ⟨n, hn, rfl⟩ := mem_sendTokens.1 hx
    · obtain ⟨c, hc⟩ := List.exists_mem_of_ne_nil _ hne
      exact ⟨c, hc, z1 c hc⟩
    · exact ⟨hh.1 c hc, z2 c hc⟩
    · exact hh.2 n hn
  · obtain ⟨f, rfl, rfl⟩ := mem_feeMsg.1 hx
    exact ⟨rfl, hfz f rfl⟩

theorem outBy_rNat_withdrawMsgs (pool a d self to : Nat) (g : GBal) (fee : Option Coin) :
    outBy (rNat pool a d) (withdrawMsgs self to g fee) =
      (if a = to then coinAmt g.native d else 0) + (if a = pool then feeAmt fee d else 0) := by
  rw [withdrawMsgs_eq, outBy_append, outBy_feeMsg, outBy_sendTokens fun _ => ite_self 0]
  -- `rNat pool a d` evaluated on the three kinds of message of `outBy_sendTokens`
  show (if a = to then coinAmt g.native d else 0) + (g.cw20.map fun _ => 0).sum +
    (g.nfts.map fun _ => 0).sum + _ = _
  rw [sum_map_zero, sum_map_zero]
  cases fee with
  | none => exact (ite_self 0).symm ▸ rfl
  | some f => rfl

theorem outBy_r20_withdrawMsgs (h t self to : Nat) (g : GBal) (fee : Option Coin) :
    outBy (r20 h t) (withdrawMsgs self to g fee) = if h = to then coinAmt g.cw20 t else 0 := by
  rw [withdrawMsgs_eq, outBy_append, outBy_feeMsg, outBy_sendTokens fun _ => rfl]
  have hfee : (fee.elim 0 fun c => r20 h t (.fundPool self c)) = 0 := by cases fee <;> rfl
  rw [hfee]
  -- `r20 h t` on the same three kinds of message
  show 0 + (g.cw20.map fun c => if c.key = t ∧ h = to then c.amount else 0).sum +
    (g.nfts.map fun _ => 0).sum + 0 = _
  rw [sum_map_zero, coinAmt_eq_sum]
  by_cases e : h = to
  · simp [e]
  · simp [e, sum_map_zero]

/-- The exact effect of paying the balance `g` with pending fee `fee` out to `x`, between the worlds
    `w` (before) and `w'` (after).  The fields do not overlap only if `x`, the pool and the
    marketplace are three addresses: a payout to the pool address is not described. -/
structure PaidOut (w w' : World) (x : Nat) (g : GBal) (fee : Option Coin) : Prop where
  bankOwner : ∀ d, lget w'.bank (x, d) = lget w.bank (x, d) + coinAmt g.native d
  bankPool : ∀ d, lget w'.bank (w.pool, d) = lget w.bank (w.pool, d) + feeAmt fee d
  bankSelf : ∀ d, lget w'.bank (w.self, d) + coinAmt g.native d + feeAmt fee d = lget w.bank (w.self, d)
  bankOthers : ∀ a d, a ≠ x → a ≠ w.pool → a ≠ w.self → lget w'.bank (a, d) = lget w.bank (a, d)
  cw20Owner : ∀ t, w.isHonest20 t = true → lget w'.cw20 (t, x) = lget w.cw20 (t, x) + coinAmt g.cw20 t
  cw20Self : ∀ t, w.isHonest20 t = true →
    lget w'.cw20 (t, w.self) + coinAmt g.cw20 t = lget w.cw20 (t, w.self)
  cw20Others : ∀ t h, (h ≠ x ∧ h ≠ w.self) ∨ w.isHonest20 t = false →
    lget w'.cw20 (t, h) = lget w.cw20 (t, h)
  nftOwner : ∀ n ∈ g.nfts, w.isHonest721 n.coll = true →
    alookup (n.coll, n.tid) w.nft = some w.self ∧ alookup (n.coll, n.tid) w'.nft = some x
  nftOthers : ∀ c tid, (⟨c, tid⟩ : Nft) ∉ g.nfts ∨ w.isHonest721 c = false →
    alookup (c, tid) w'.nft = alookup (c, tid) w.nft
  core : CoreEq w w'

theorem PaidOut.nft_kept {w w' : World} {x : Nat} {g : GBal} {fee : Option Coin}
    (h : PaidOut w w' x g fee) {c tid : Nat} (ho : alookup (c, tid) w.nft = some x) :
    alookup (c, tid) w'.nft = some x := by
  by_cases e : (⟨c, tid⟩ : Nft) ∈ g.nfts ∧ w.isHonest721 c = true
  · exact (h.nftOwner _ e.1 e.2).2
  · rw [h.nftOthers c tid ((Decidable.not_and_iff_not_or_not.1 e).imp_right Bool.eq_false_iff.2)]
    exact ho

/-- per account, `dispatchAll_bank` / `_cw20` give "new + paid = old + received"; with what the payout
    pays (`paid…_withdrawMsgs`) and what each account receives (`outBy_…_withdrawMsgs`) in closed form
    this is a transfer from `self` (`transfer_cases`); the NFTs all go to `x` (`dispatchAll_nft_exact`) -/
theorem paidOut_of_dispatch {w w2 : World} {m' : Market} {x : Nat} {g : GBal} {fee : Option Coin}
    (hd : dispatchAll noFault { w with mkt := m' } (withdrawMsgs w.self x g fee) 0 = some w2)
    (hx : x ≠ w.self) (hxp : x ≠ w.pool) (hp : w.pool ≠ w.self) : PaidOut w w2 x g fee := by
  have hbank : ∀ a d, lget w2.bank (a, d) + (if a = w.self then coinAmt g.native d + feeAmt fee d else 0) =
      lget w.bank (a, d) + ((if a = x then coinAmt g.native d else 0) +
        (if a = w.pool then feeAmt fee d else 0)) := fun a d => by
    have := dispatchAll_bank hd a d
    rwa [paidNative_withdrawMsgs, outBy_rNat_withdrawMsgs] at this
  have hcw := fun t (ht : w.isHonest20 t = true) => transfer_cases (fun h => by
    have := (dispatchAll_cw20 hd t h).1 ht
    rwa [paidCw20_withdrawMsgs, outBy_r20_withdrawMsgs] at this) (Ne.symm hx)
  have hnft := fun c tid => dispatchAll_nft_exact (to := x) hd (fun c t to' hm => by
    rcases List.mem_append.1 (withdrawMsgs_eq .. ▸ hm) with hm | hm
    · rcases mem_sendTokens.1 hm with ⟨_, e⟩ | ⟨_, _, e⟩ | ⟨_, _, e⟩ <;> cases e
      rfl
    · obtain ⟨_, _, e⟩ := mem_feeMsg.1 hm
      cases e) hx c tid
  rw [sentNfts_withdrawMsgs] at hnft
  refine ⟨fun d => ?_, fun d => ?_, fun d => ?_, fun a d h1 h2 h3 => ?_, fun t ht => (hcw t ht).2.1,
    fun t ht => (hcw t ht).1, fun t h hh => ?_, fun n hn hh => ((hnft n.coll n.tid).1 ⟨hh, hn⟩).symm,
    fun c tid hh => ?_, (CoreEq.setMkt w m').trans (dispatchAll_frame hd).1⟩
  · have := hbank x d
    rwa [if_neg hx, if_pos rfl, if_neg hxp] at this
  · have := hbank w.pool d
    rwa [if_neg hp, if_neg (Ne.symm hxp), if_pos rfl, Nat.zero_add] at this
  · have := hbank w.self d
    rwa [if_pos rfl, if_neg (Ne.symm hx), if_neg (Ne.symm hp), ← Nat.add_assoc] at this
  · have := hbank a d
    rwa [if_neg h3, if_neg h1, if_neg h2] at this
  · cases ht : w.isHonest20 t with
    | false => exact (dispatchAll_cw20 hd t h).2 ht
    | true =>
      obtain ⟨h1, h2⟩ := hh.resolve_right (ht ▸ Bool.noConfusion)
      exact (hcw t ht).2.2 h h2 h1
  · exact (hnft c tid).2 fun ⟨h1, h2⟩ => hh.elim (· h2) fun hh => Bool.noConfusion (h1.symm.trans hh)

/-- `withdraw_dispatch_ok` for the whole transaction -/
theorem step_payout_ok {w : World} {x : Nat} {msg : ExecMsg} {m' : Market} {g : GBal}
    {fee : Option Coin} (hx : execute w.mkt w.env x [] msg = .ok (m', withdrawMsgs w.self x g fee))
    (hwf : wfBal g = true) (hfz : ∀ f, fee = some f → f.amount ≠ 0) (hc : Covers w g fee)
    (hh : HonestAssets w g) :
    (step w (.exec x [] msg)).2.ok = true ∧
    (step w (.exec x [] msg)).2.msgs = withdrawMsgs w.self x g fee ∧
    (step w (.exec x [] msg)).1.mkt = m' ∧ CoreEq w (step w (.exec x [] msg)).1 := by
  obtain ⟨w2, hd⟩ := withdraw_dispatch_ok (m' := m') (to := x) hwf hfz hc hh
  rw [step_exec_nil_of hx hd]
  exact ⟨rfl, rfl, (dispatchAll_frame hd).2, (CoreEq.setMkt _ _).trans (dispatchAll_frame hd).1⟩

/-! ## deposits -/

/-- What an accepted deposit `i` of depositor `x` does to the record tables (`m` before, `m'`
    after).  `g0` is the deposit as a balance of its own (what a created record holds); `P g nf`
    relates the old balance `g` of a topped-up record to its new balance `nf`. -/
def DepositRecords (m m' : Market) (x : Nat) (g0 : GBal) (P : GBal → GBal → Prop) : Inner → Prop
  | .createBucket id =>
    alookup (x, id) m.buckets = none ∧ id ∉ m.bucketUsed ∧
    m' = { m with buckets := ainsert (x, id) ⟨x, g0, none⟩ m.buckets, bucketUsed := id :: m.bucketUsed }
  | .addToBucket id =>
    ∃ r nf, alookup (x, id) m.buckets = some r ∧ r.owner = x ∧ P r.funds nf ∧
      m' = { m with buckets := ainsert (x, id) { r with funds := nf } m.buckets }
  | .createListing id c =>
    ∃ wl ask, findById id m.listings = none ∧ id ∉ m.listingUsed ∧
      checkWhitelist x c.whitelist = some wl ∧ validateAsk c.ask = some ask ∧
      m' = { m with listings := ainsert (x, id) (newListing x id wl g0 ask) m.listings,
                    listingUsed := id :: m.listingUsed }
  | .addToListing id =>
    ∃ l nf, alookup (x, id) m.listings = some l ∧ l.creator = x ∧ l.status = .preparing ∧
      l.claimant = none ∧ P l.forSale nf ∧
      m' = { m with listings := ainsert (x, id) { l with forSale := nf } m.listings }

theorem DepositRecords.mono {m m' : Market} {x : Nat} {g0 : GBal} {P Q : GBal → GBal → Prop}
    (hPQ : ∀ g nf, P g nf → Q g nf) {i : Inner} (h : DepositRecords m m' x g0 P i) :
    DepositRecords m m' x g0 Q i := by
  cases i with
  | createBucket id => exact h
  | createListing id c => exact h
  | addToBucket id =>
    obtain ⟨r, nf, h1, h2, h3, h4⟩ := h
    exact ⟨r, nf, h1, h2, hPQ _ _ h3, h4⟩
  | addToListing id =>
    obtain ⟨l, nf, h1, h2, h3, h4, h5, h6⟩ := h
    exact ⟨l, nf, h1, h2, h3, h4, hPQ _ _ h5, h6⟩

theorem Effect.depositRecords {m m' : Market} {env : Env} {u : Nat} {a : Asset} {i : Inner}
    {out : List OutMsg} (e : Effect m env u a i.toExec m' out) :
    out = [] ∧ a.ok = true ∧ DepositRecords m m' u a.bal (fun g nf => a.addTo g = some nf) i := by
  cases i with
  | createListing id c =>
    cases e with
    | createListing hid ha hfresh hnew hwl hask => exact ⟨rfl, ha, _, _, hnew, hfresh, hwl, hask, rfl⟩
  | addToListing id =>
    cases e with
    | addToListing ha hl ho hst hcl hnf hch hv => exact ⟨rfl, ha, _, _, hl, ho.symm, hst, hcl, hnf, rfl⟩
  | createBucket id =>
    cases e with
    | createBucket hid hfresh hnew ha => exact ⟨rfl, ha, hnew, hfresh, rfl⟩
  | addToBucket id =>
    cases e with
    | addToBucket ha hb ho hnf hch hv => exact ⟨rfl, ha, _, _, hb, ho.symm, hnf, rfl⟩

def Inner.id : Inner → Nat
  | .createListing id _ => id
  | .addToListing id => id
  | .createBucket id => id
  | .addToBucket id => id

/-! ## which token contracts and collections the records name, and who owns the records

An invariant of the record tables that every accepted message preserves, as long as hook calls
come from contracts satisfying `H20` / `H721` (used with "is an honest token / collection"): every
CW20 entry of every record names a contract satisfying `H20`, every NFT a collection satisfying
`H721`, and no record is owned by `self`. -/

structure GBal.keysOk (H20 H721 : Nat → Prop) (g : GBal) : Prop where
  cw20 : ∀ c ∈ g.cw20, H20 c.key
  nfts : ∀ n ∈ g.nfts, H721 n.coll

/-- `RecInv` per table entry, as predicates for `forall_mem_ainsert` / `forall_mem_aerase` -/
abbrev LOk (H20 H721 : Nat → Prop) (me : Nat) : (Nat × Nat) × Listing → Prop :=
  fun p => GBal.keysOk H20 H721 p.2.forSale ∧ p.2.creator ≠ me
abbrev BOk (H20 H721 : Nat → Prop) (me : Nat) : (Nat × Nat) × Bucket → Prop :=
  fun p => GBal.keysOk H20 H721 p.2.funds ∧ p.2.owner ≠ me

structure RecInv (H20 H721 : Nat → Prop) (me : Nat) (m : Market) : Prop where
  lst : ∀ p ∈ m.listings, LOk H20 H721 me p
  bkt : ∀ p ∈ m.buckets, BOk H20 H721 me p

section recinv
variable {H20 H721 : Nat → Prop}

theorem Asset.keysOk_bal {a : Asset} : GBal.keysOk H20 H721 a.bal ↔
    match a with
    | .funds (.native _) => True
    | .funds (.cw20 c) => H20 c.key
    | .nft n => H721 n.coll := by
  cases a with
  | nft n =>
    exact ⟨fun h => h.2 n (.head _),
      fun h => ⟨nofun, fun n' hn' => by cases List.mem_singleton.1 hn'; exact h⟩⟩
  | funds F =>
    cases F with
    | native cs => exact ⟨fun _ => trivial, fun _ => ⟨nofun, nofun⟩⟩
    | cw20 c =>
      exact ⟨fun h => h.1 c (.head _),
        fun h => ⟨fun c' hc' => by cases List.mem_singleton.1 hc'; exact h, nofun⟩⟩

theorem Asset.addTo_keysOk {a : Asset} {g nf : GBal} (h : a.addTo g = some nf)
    (hg : GBal.keysOk H20 H721 g) (ha : GBal.keysOk H20 H721 a.bal) : GBal.keysOk H20 H721 nf := by
  cases a with
  | nft n =>
    cases h
    refine ⟨hg.1, fun n' hn' => ?_⟩
    rcases List.mem_append.1 hn' with hn' | hn'
    · exact hg.2 n' hn'
    · exact ha.2 n' hn'
  | funds F =>
    cases F with
    | native cs =>
      obtain ⟨n, _, rfl⟩ := addTokens_native_iff.1 h
      exact ⟨hg.1, hg.2⟩
    | cw20 c =>
      obtain ⟨n, hn, rfl⟩ := addTokens_cw20_iff.1 h
      have hold : ∀ k ∈ keys g.cw20, H20 k := List.forall_mem_map.2 hg.1
      refine ⟨List.forall_mem_map.1 fun k (hk : k ∈ keys n) => ?_, hg.2⟩
      rw [addCoin_keys hn] at hk
      split at hk
      · exact hold k hk
      · exact (List.mem_append.1 hk).elim (hold k) fun hk =>
          List.mem_singleton.1 hk ▸ ha.1 c List.mem_cons_self

theorem calcFeeCoin_keysOk {fd : Nat} {g g' : GBal} {fee : Option Coin}
    (h : calcFeeCoin fd g = some (fee, g')) (hg : GBal.keysOk H20 H721 g) :
    GBal.keysOk H20 H721 g' :=
  ⟨calcFeeCoin_cw20 h ▸ hg.1, calcFeeCoin_nfts h ▸ hg.2⟩

theorem sideRoyalties_keysOk {env : Env} {ra : Nat} {cols : List Nat} {bal g : GBal}
    {ms : List OutMsg} {s : Nat} (h : sideRoyalties env ra cols bal = .ok g ms s)
    (hg : GBal.keysOk H20 H721 bal) : GBal.keysOk H20 H721 g := by
  obtain ⟨_, _, rfl, _⟩ := royalties_closed (sideRoyalties_ok_royalties h)
  exact ⟨List.forall_mem_map.2 hg.1, hg.2⟩

theorem Effect.recInv {m m' : Market} {env : Env} {u self : Nat} {a : Asset} {msg : ExecMsg}
    {out : List OutMsg} (e : Effect m env u a msg m' out) (hR : RecInv H20 H721 self m)
    (hu : u ≠ self) (ha : GBal.keysOk H20 H721 a.bal) : RecInv H20 H721 self m' := by
  induction e with
  | createListing hid _ hfresh hnew hwl hask => exact ⟨forall_mem_ainsert hR.lst ⟨ha, hu⟩, hR.bkt⟩
  | addToListing _ hl ho hst hcl hnf hch hv =>
    have t := hR.lst _ (alookup_some_mem hl)
    exact ⟨forall_mem_ainsert hR.lst ⟨Asset.addTo_keysOk hnf t.1 ha, t.2⟩, hR.bkt⟩
  | changeAsk hl ho hfin hst hcl hask =>
    have t := hR.lst _ (alookup_some_mem hl)
    exact ⟨forall_mem_ainsert hR.lst t, hR.bkt⟩
  | finalize hl ho hfin hst hcl hmin hmax =>
    have t := hR.lst _ (alookup_some_mem hl)
    exact ⟨forall_mem_ainsert hR.lst t, hR.bkt⟩
  | deleteListing hl ho hcl hexp => exact ⟨forall_mem_aerase hR.lst _, hR.bkt⟩
  | createBucket hid hfresh hnew _ => exact ⟨hR.lst, forall_mem_ainsert hR.bkt ⟨ha, hu⟩⟩
  | addToBucket _ hb ho hnf hch hv =>
    have t := hR.bkt _ (alookup_some_mem hb)
    exact ⟨hR.lst, forall_mem_ainsert hR.bkt ⟨Asset.addTo_keysOk hnf t.1 ha, t.2⟩⟩
  | removeBucket hb ho => exact ⟨hR.lst, forall_mem_aerase hR.bkt _⟩
  | buy hb hl ho hcmp hst hwl hcl hexp hlfee hbfee hra hr1 hr2 =>
    have hL := hR.lst _ (findById_some hl).2
    have hB := hR.bkt _ (alookup_some_mem hb)
    -- the listing is re-filed under the buyer `u`, the bucket under the listing's creator
    exact ⟨forall_mem_ainsert (forall_mem_aerase hR.lst _) ⟨sideRoyalties_keysOk hr2 (calcFeeCoin_keysOk hlfee hL.1), hu⟩,
      forall_mem_ainsert (forall_mem_aerase hR.bkt _) ⟨sideRoyalties_keysOk hr1 (calcFeeCoin_keysOk hbfee hB.1), hL.2⟩⟩
  | withdrawPurchased hl hcl hst => exact ⟨forall_mem_aerase hR.lst _, hR.bkt⟩
  | feeCycle hdue => exact ⟨hR.lst, hR.bkt⟩

end recinv

end Fuzion
