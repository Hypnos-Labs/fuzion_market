/-
  Fuzion.Lemmas.EntitlementLemmas — entitlements as record sums.

  The entitlement of account `a` in a valuation `V` (Lemmas/AcctLemmas.lean §5: a valuation assigns
  a number to a balance, a fee, a message, a deposit; the three asset classes are `natV d`, `cwV t`,
  `nftV n`) is the `V`-value of all goods filed under `a`:  `entV V m a`.  `pendV V m` is the
  `V`-value of all recorded, not yet paid fees.  Both are record sums (`rsum φ`, AcctLemmas §4: as
  far as they go a record is its holder, its goods and its recorded fee), so what a change of the two
  tables does to them is said once, for every `φ`, and read off for `Val.own V a` and for the fee.
-/
import Fuzion.Lemmas.AcctLemmas
namespace Fuzion

def Val.wlOf (V : Val) (a : Nat) (l : Listing) : Nat := if a = l.creator then V.bal l.forSale else 0
def Val.wbOf (V : Val) (a : Nat) (b : Bucket) : Nat := if a = b.owner then V.bal b.funds else 0

def entV (V : Val) (m : Market) (a : Nat) : Nat := wsum (V.wlOf a) (V.wbOf a) m
def pendV (V : Val) (m : Market) : Nat := wsum (fun l => V.fee l.fee) (fun b => V.fee b.fee) m

/-- the weight whose record sum is `entV V · a`: `wlOf`, `wbOf` (one weight per table, the form
    `entNative`, `entCw20` of Props/Entitlement.lean unfold to) as one function of owner, goods and
    fee, the form `rsum` takes -/
def Val.own (V : Val) (a : Nat) : Nat → GBal → Option Coin → Nat :=
  fun o g _ => if a = o then V.bal g else 0

theorem entV_eq_rsum (V : Val) (m : Market) (a : Nat) : entV V m a = rsum (V.own a) m := rfl

/-- a record of `u` whose goods grow by `x`, as account `a` sees it -/
theorem entV_toppedUp {m m' : Market} {V : Val} {u x : Nat} {g g' : GBal} {fee : Option Coin}
    (hg : V.bal g' = V.bal g + x)
    (h : ∀ φ, rsum φ m' + φ u g fee = rsum φ m + φ u g' fee) (a : Nat) :
    entV V m' a = entV V m a + if a = u then x else 0 := by
  have := h (V.own a)
  rw [entV_eq_rsum, entV_eq_rsum]
  by_cases hau : a = u
  · have e : ∀ g, V.own a u g fee = V.bal g := fun _ => if_pos hau
    rw [e, e, hg, ← Nat.add_assoc, Nat.add_right_comm] at this
    rw [if_pos hau]
    exact Nat.add_right_cancel this
  · have e : ∀ g, V.own a u g fee = 0 := fun _ => if_neg hau
    rw [e, e] at this
    rw [if_neg hau]
    exact this

theorem entV_eq_zero {V : Val} {m : Market} {a : Nat} (hl : ∀ p ∈ m.listings, p.2.creator ≠ a)
    (hb : ∀ p ∈ m.buckets, p.2.owner ≠ a) : entV V m a = 0 :=
  wsum_eq_zero (fun p hp => if_neg (Ne.symm (hl p hp))) fun p hp => if_neg (Ne.symm (hb p hp))

/-- a record counts for `a` with its goods at most, and its fee is no goods -/
theorem entV_add_pendV_le (V : Val) (m : Market) (a : Nat) : entV V m a + pendV V m ≤ owed V m := by
  have := Nat.add_le_add
    (asum_le_asum (κ := Nat × Nat) (f := fun l => V.wlOf a l + V.fee l.fee) (g := V.wl)
      (fun _ => Nat.add_le_add_right (ite_zero_le _ _) _) m.listings)
    (asum_le_asum (κ := Nat × Nat) (f := fun b => V.wbOf a b + V.fee b.fee) (g := V.wb)
      (fun _ => Nat.add_le_add_right (ite_zero_le _ _) _) m.buckets)
  rw [asum_add, asum_add, Nat.add_add_add_comm] at this
  exact this

/-- everything the records promise = Σ over accounts of their entitlements + pending fees -/
theorem owed_eq_ent (V : Val) (m : Market) {L : List Nat} (hn : L.Nodup)
    (hl : ∀ p ∈ m.listings, p.2.creator ∈ L) (hb : ∀ p ∈ m.buckets, p.2.owner ∈ L) :
    owed V m = (L.map (entV V m)).sum + pendV V m := by
  have e1 := sum_asum_owner (·.creator) (fun l : Listing => V.bal l.forSale) hn m.listings hl
  have e2 := sum_asum_owner (·.owner) (fun b : Bucket => V.bal b.funds) hn m.buckets hb
  calc owed V m
      = asum (fun l => V.bal l.forSale) m.listings + asum (fun b => V.bal b.funds) m.buckets +
          pendV V m := by
        unfold pendV wsum
        rw [Nat.add_add_add_comm, ← asum_add, ← asum_add]
        rfl
    _ = _ := by
        rw [← e1, ← e2, ← sum_map_add_nat]
        rfl

end Fuzion
