/-
  Fuzion.Lemmas.FrameLemmas — for the frame / ownership properties C04 and C08: the wallet a message
  acts for (`actor`) and what one accepted message does to the listing stored under a given id
  (`LFate`, `execute_fate`).
-/
import Fuzion.Inv.MInv
import Fuzion.Lemmas.InvLemmas
namespace Fuzion

/-- the wallet on whose behalf a message acts: the sender of a direct message, the wallet a
    token contract names in its receive hook -/
def actor : ExecMsg → Nat → Nat
  | .receive (.valid a) _ _, _ => a
  | .receiveNft (.valid a) _ _, _ => a
  | _, s => s

theorem ExecMsg.unwrap_actor {msg msg' : ExecMsg} {s u : Nat} {f : List Coin} {a : Asset}
    (h : msg.unwrap s f = some (u, a, msg')) : actor msg s = u := by
  cases msg with
  | receive sender _ inner | receiveNft sender _ inner =>
    cases sender <;> cases inner <;> cases h
    rfl
  | _ =>
    cases h
    rfl

/-- What an accepted message does to the listing stored under id `lid` (found as `(k, l)` in
    the pre-state `m`, which no constructor reads: what is needed of it is in `l`): nothing; an
    edit by its owner while it is preparing (it stays preparing, or is finalized at the block
    time with the same goods and ask); deletion by its owner
    (unclaimed, not finalized or already expired); a purchase (finalized, unclaimed, not yet
    expired) that re-files it under the buyer, closed; withdrawal by the claimant — who is by then
    also its `creator` (`withdrawn.hown`), because `buy` stores the sold record with
    `creator := buyer`. -/
inductive LFate (m : Market) (env : Env) (s : Nat) (msg : ExecMsg) (m' : Market) (lid : Nat)
    (k : Nat × Nat) (l : Listing) : Prop
  | kept (h : findById lid m'.listings = some (k, l))
  | edited (l' : Listing) (hst : l.status = .preparing) (hcl : l.claimant = none)
      (hact : actor msg s = l.creator)
      (h : findById lid m'.listings = some (k, l')) (hid : l'.id = l.id)
      (hcr : l'.creator = l.creator) (hwl : l'.whitelist = l.whitelist)
      (hst' : l'.status = .preparing ∨ l'.status = .finalized ∧ l'.finalizedAt = some env.nowNs ∧
        l'.forSale = l.forSale ∧ l'.ask = l.ask)
      (hcl' : l'.claimant = none)
  | deleted (hmsg : msg = .deleteListing lid) (hown : s = l.creator) (hcl : l.claimant = none)
      (hexp : ∀ e, l.expiresAt = some e → e ≤ env.nowNs) (h : findById lid m'.listings = none)
  | bought (bid : Nat) (l' : Listing) (hmsg : msg = .buy lid bid) (hst : l.status = .finalized)
      (hcl : l.claimant = none) (hexp : ∀ e, l.expiresAt = some e → env.nowNs ≤ e)
      (h : findById lid m'.listings = some ((s, lid), l'))
      (hid : l'.id = l.id) (hask : l'.ask = l.ask) (hwl : l'.whitelist = l.whitelist)
      (hex : l'.expiresAt = l.expiresAt) (hfin : l'.finalizedAt = l.finalizedAt)
      (hst' : l'.status = .closed) (hcr' : l'.creator = s) (hcl' : l'.claimant = some s)
  | withdrawn (hmsg : msg = .withdrawPurchased lid) (hcl : l.claimant = some s)
      (hst : l.status = .closed) (hown : s = l.creator) (h : findById lid m'.listings = none)

/-- the owner replaces his preparing listing `(u, id)` by a record of the same id and creator:
    the listing found under `lid` is edited if it is that one, and untouched otherwise -/
theorem LFate.of_edit {m : Market} {env : Env} {s : Nat} {msg : ExecMsg} {lid : Nat} {k : Nat × Nat}
    {l : Listing} (hI : IdsInv m) (hfind : findById lid m.listings = some (k, l)) {u id : Nat}
    {l0 l' : Listing} (hl : alookup (u, id) m.listings = some l0) (ho : actor msg s = l0.creator)
    (hst : l0.status = .preparing) (hcl : l0.claimant = none) (hid : l'.id = l0.id)
    (hcr : l'.creator = l0.creator) (hwl : l'.whitelist = l0.whitelist)
    (hst' : l'.status = .preparing ∨ l'.status = .finalized ∧ l'.finalizedAt = some env.nowNs ∧
      l'.forSale = l0.forSale ∧ l'.ask = l0.ask)
    (hcl' : l'.claimant = none) :
    LFate m env s msg { m with listings := ainsert (u, id) l' m.listings } lid k l := by
  obtain ⟨hlid, hmem⟩ := findById_some hfind
  by_cases hkk : (u, id) = k
  · subst hkk
    have hll := mem_nodup_alookup hI.lkeys hmem
    rw [hl] at hll
    cases hll
    exact .edited l' hst hcl ho ((findById_ainsert ..).trans (if_pos (hid.trans hlid))) hid hcr hwl
      hst' hcl'
  · have hne : l'.id ≠ lid := fun e =>
      hkk (hI.lidInj _ (alookup_some_mem hl) _ hmem (hid.symm.trans (e.trans hlid.symm)))
    refine .kept ?_
    rw [findById_ainsert, if_neg hne, hI.lids.findById_aerase hfind, if_neg hkk]

/-- For each handler that stores or erases a listing: is the key it touches the key of `lid`?  Under
    `IdsInv` the id determines the key (`findById_key`), so a message for another id, or for the
    same id on behalf of a wallet that does not hold it, leaves `findById lid` as it was
    (`findById_ainsert`, `LIds.findById_aerase`). -/
theorem execute_fate {m m' : Market} {env : Env} {s : Nat} {f : List Coin} {msg : ExecMsg}
    {out : List OutMsg} {lid : Nat} {k : Nat × Nat} {l : Listing} (hI : IdsInv m)
    (hfind : findById lid m.listings = some (k, l)) (hx : execute m env s f msg = .ok (m', out)) :
    LFate m env s msg m' lid k l := by
  obtain ⟨_, u, a, msg', hu, e⟩ := execute_effect hx
  have hact := ExecMsg.unwrap_actor hu
  obtain ⟨hk, hlid, hlook⟩ := hI.findById_key hfind
  have hL := hI.lids
  -- a key with another id is not the key of `lid`
  have hne : ∀ {id : Nat}, id ≠ lid → ∀ x, (x, id) ≠ k :=
    fun h x e => h (by rw [hk] at e; exact (Prod.mk.inj e).2)
  induction e with
  | createBucket | addToBucket | removeBucket | feeCycle => exact .kept hfind
  | @createListing id c wl ask _ _ _ hnew =>
    have hid : id ≠ lid := fun e => by rw [e, hfind] at hnew; cases hnew
    exact .kept (((findById_ainsert ..).trans (if_neg hid)).trans
      ((hL.findById_aerase hfind _).trans (if_neg (hne hid u))))
  | addToListing ha hl ho hst hcl =>
    exact .of_edit hI hfind hl (hact.trans ho) hst hcl rfl rfl rfl (.inl hst) hcl
  | changeAsk hl ho hfin hst hcl =>
    exact .of_edit hI hfind hl (hact.trans ho) hst hcl rfl rfl rfl (.inl hst) hcl
  | finalize hl ho hfin hst hcl =>
    exact .of_edit hI hfind hl (hact.trans ho) hst hcl rfl rfl rfl (.inr ⟨rfl, rfl, rfl, rfl⟩) hcl
  | @deleteListing id l0 hl ho hcl hexp =>
    obtain ⟨rfl, rfl⟩ := ExecMsg.unwrap_direct hu rfl
    by_cases hkk : (s, id) = k
    · subst hkk
      rw [hlook] at hl
      cases hl
      cases hk
      exact .deleted rfl rfl hcl hexp ((hL.findById_aerase hfind _).trans (if_pos rfl))
    · exact .kept ((hL.findById_aerase hfind _).trans (if_neg hkk))
  | @buy lid' bid kl l2 b lfee bfee lbal bbal fb fl ra s1 s2 msgs1 msgs2 hb hl ho hcmp hst hwl hcl hexp =>
    obtain ⟨rfl, rfl⟩ := ExecMsg.unwrap_direct hu rfl
    by_cases hll : lid' = lid
    · subst hll
      rw [hfind] at hl
      cases hl
      exact .bought bid _ rfl hst hcl hexp ((findById_ainsert ..).trans (if_pos hlid)) rfl rfl rfl rfl
        rfl rfl rfl rfl
    · -- another id: the erased key is not `k`, and the record inserted does not carry `lid`
      have h1 := (hL.findById_aerase hfind (l2.creator, lid')).trans (if_neg (hne hll _))
      exact .kept (((findById_ainsert ..).trans (if_neg ((hI.findById_key hl).2.1 ▸ hll))).trans
        (((hL.erase _).findById_aerase h1 _).trans (if_neg (hne hll _))))
  | @withdrawPurchased lid' kl l2 hl hcl hst =>
    obtain ⟨rfl, rfl⟩ := ExecMsg.unwrap_direct hu rfl
    by_cases hkk : (s, lid') = k
    · subst hkk
      cases hk
      rw [hfind] at hl
      cases hl
      exact .withdrawn rfl hcl hst rfl ((hL.findById_aerase hfind _).trans (if_pos rfl))
    · exact .kept ((hL.findById_aerase hfind _).trans (if_neg hkk))

theorem run_idsInv
    (hpres : ∀ m env s f msg m' out, IdsInv m → execute m env s f msg = .ok (m', out) → IdsInv m')
    {w : World} (ops : List Op) (hI : IdsInv w.mkt) : IdsInv (run w ops).mkt :=
  run_preserves hpres ops hI

end Fuzion
