/-
  Fuzion.Lemmas.AList — seven facts of `AListBasic` under `al_*` names with implicit arguments,
  each proved by the lemma it restates.  No proof of the development uses them.
-/
import Fuzion.Lemmas.AListBasic
namespace Fuzion

variable {κ ν : Type} [DecidableEq κ]

theorem al_mem_ainsert {k : κ} {v : ν} {l : List (κ × ν)} {p : κ × ν} :
    p ∈ ainsert k v l ↔ p = (k, v) ∨ (p ∈ l ∧ p.1 ≠ k) := mem_ainsert

theorem al_lookup_mem {k : κ} {v : ν} {l : List (κ × ν)} (h : alookup k l = some v) : (k, v) ∈ l :=
  alookup_some_mem h

theorem al_mem_lookup {k : κ} {v : ν} {l : List (κ × ν)} (hn : (akeys l).Nodup) (h : (k, v) ∈ l) :
    alookup k l = some v := mem_nodup_alookup hn h

theorem al_lookup_ainsert_self {k : κ} {v : ν} {l : List (κ × ν)} : alookup k (ainsert k v l) = some v :=
  alookup_ainsert_self k v l

theorem al_lookup_aerase_self {k : κ} {l : List (κ × ν)} : alookup k (aerase k l) = none :=
  alookup_aerase_self k l

theorem al_lookup_ainsert_ne {k k' : κ} {v : ν} {l : List (κ × ν)} (h : k' ≠ k) :
    alookup k' (ainsert k v l) = alookup k' l := alookup_ainsert_ne h v l

theorem al_nodup_ainsert {k : κ} {v : ν} {l : List (κ × ν)} (h : (akeys l).Nodup) :
    (akeys (ainsert k v l)).Nodup := nodup_akeys_ainsert k v h

end Fuzion
