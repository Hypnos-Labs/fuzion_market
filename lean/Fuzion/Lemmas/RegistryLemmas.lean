/-
  Fuzion.Lemmas.RegistryLemmas — for the registry (C14): the guards every registry handler starts
  with.  For the fee cycle (C13, C05): which marketplace messages write the fee configuration
  (`Effect.feeCfg`; which transactions: `stepF_feeCfg`).  Both
  compare against a saturating `u64` sum.  No handler rewrites the stored registry address (a
  hypothesis of C02): `run_registry_real`.
-/
import Fuzion.Lemmas.ChainLemmas
namespace Fuzion

theorem bpsOk_iff (b : Nat) : bpsOk b = true ↔ MIN_BPS ≤ b ∧ b ≤ MAX_BPS := by
  simp [bpsOk]

theorem isAdmin_iff (env : RegEnv) (sender c : Nat) :
    isAdmin env sender c = true ↔ env.adminOf c = some (some sender) := by
  unfold isAdmin
  cases env.adminOf c with
  | none => simp
  | some o =>
    cases o with
    | none => simp
    | some a => simp

theorem isAdmin_isNone {env : RegEnv} {sender c : Nat} (h : isAdmin env sender c = true) :
    (env.adminOf c).isNone = false := by
  rw [isAdmin_iff] at h; simp [h]

theorem regEnv_adminOf_iff (w : World) (c a : Nat) :
    w.regEnv.adminOf c = some (some a) ↔ ∃ ci, alookup c w.contracts = some ci ∧ ci.admin = some a := by
  simp only [World.regEnv, World.kindOf]
  cases alookup c w.contracts with
  | none => simp
  | some ci => simp

/-- the two admin tests every registry handler starts with, together -/
theorem adminTests_ok {α : Type} {env : RegEnv} {sender c : Nat} {t : Except Err α} {x : α} :
    (if (env.adminOf c).isNone then .error .noSuchContract
      else if !isAdmin env sender c then .error .notAdmin else t) = .ok x ↔
    env.adminOf c = some (some sender) ∧ t = .ok x := by
  rw [ite_error_ok, ite_error_ok, ← and_assoc, Bool.not_eq_true', Bool.not_eq_false, ← isAdmin_iff]
  -- the first test is implied by the second
  exact and_congr_left' (and_iff_right_of_imp fun h => by simp [isAdmin_isNone h])

theorem coolingDown_false_iff (e : RoyaltyInfo) (h : Nat) :
    coolingDown e h = false ↔ min (e.lastUpdated + COOLDOWN) U64MAX ≤ h := by
  simp [coolingDown]

/-- what `Update` and `Remove` test before anything else: the sender is the collection's admin, an
    entry is stored and is out of its cooldown; `k` is the rest of the handler -/
theorem regGuard_ok {α : Type} {reg : Registry} {env : RegEnv} {sender c : Nat}
    {k : RoyaltyInfo → Except Err α} {x : α} :
    (if (env.adminOf c).isNone then Except.error Err.noSuchContract
      else if !isAdmin env sender c then .error .notAdmin
      else match alookup c reg with
        | none => .error .notRegistered
        | some e => if coolingDown e env.height then .error .cooldown else k e) = .ok x ↔
    env.adminOf c = some (some sender) ∧ ∃ e, alookup c reg = some e ∧
      min (e.lastUpdated + COOLDOWN) U64MAX ≤ env.height ∧ k e = .ok x := by
  rw [adminTests_ok]
  refine and_congr_right fun _ => ?_
  cases alookup c reg with
  | none => simp
  | some e =>
    simp only [ite_error_ok, Bool.not_eq_true, coolingDown_false_iff, Option.some.injEq,
      exists_eq_left']

/-- the saturating `u64` sum is invisible as soon as either side of the comparison is a `u64` -/
theorem sat_gt_iff {a n : Nat} (hU : a ≤ U64MAX ∨ n ≤ U64MAX) : n > min a U64MAX ↔ n > a := by
  refine ⟨fun h => ?_, Nat.lt_of_le_of_lt (Nat.min_le_left _ _)⟩
  rcases hU with ha | hn
  · rwa [Nat.min_eq_left ha] at h
  · exact Nat.lt_of_not_le fun hna => Nat.not_le.2 h (Nat.le_min.2 ⟨hna, hn⟩)

/-- the same for `≤ h`, read as `< h + 1` -/
theorem min_sat_le_iff {a h : Nat} (hU : a ≤ U64MAX ∨ h < U64MAX) : min a U64MAX ≤ h ↔ a ≤ h :=
  Nat.lt_succ_iff.symm.trans ((sat_gt_iff hU).trans Nat.lt_succ_iff)

theorem sat_lt_iff_of_le {a n : Nat} (ha : a ≤ U64MAX) : ¬ n ≤ min a U64MAX ↔ n > a :=
  Nat.not_le.trans (sat_gt_iff (.inl ha))

theorem sat_lt_iff_of_now {a n : Nat} (hn : n ≤ U64MAX) : ¬ n ≤ min a U64MAX ↔ n > a :=
  Nat.not_le.trans (sat_gt_iff (.inr hn))

theorem div_gt_iff_ns (x a : Nat) : x / NS > a ↔ x ≥ (a + 1) * NS := by
  have hNS : 0 < NS := by decide
  show a + 1 ≤ x / NS ↔ (a + 1) * NS ≤ x
  exact Nat.le_div_iff_mul_le hNS

/-- the collection a registry message is about (`nft_contract`) -/
def RoyMsg.nft : RoyMsg → RawAddr
  | .register n _ _ => n
  | .update n _ _ => n
  | .remove n => n

/-- the payout address an accepted `Update` stores: the new one if one is given, else the
    stored one (`None => Ok(entry.payout_addr)`).  The catch-all also covers `some .invalid`, which
    `regUpdate` refuses, so the value there is never looked at. -/
def updPayout (payout : Option RawAddr) (old : Nat) : Nat :=
  match payout with
  | some (.valid p) => p
  | _ => old

@[simp] theorem updPayout_none (old : Nat) : updPayout none old = old := rfl
@[simp] theorem updPayout_valid (p old : Nat) : updPayout (some (.valid p)) old = p := rfl

def FeeCfgEq (m m' : Market) : Prop :=
  m'.feeKind = m.feeKind ∧ m'.feeSince = m.feeSince ∧ m'.registry = m.registry

/-- every handler other than `cycleFee` returns `{ m with listings := …, buckets := …, …Used := … }`:
    the fee denomination, its time stamp and the registry address are never written -/
theorem Effect.feeCfg {m m' : Market} {env : Env} {u : Nat} {a : Asset} {msg : ExecMsg}
    {out : List OutMsg} (e : Effect m env u a msg m' out) : msg = .feeCycle ∨ FeeCfgEq m m' := by
  induction e with
  | feeCycle => exact .inl rfl
  | _ => exact .inr ⟨rfl, rfl, rfl⟩

theorem execute_feeCfg {m m' : Market} {env : Env} {sender : Nat} {funds : List Coin}
    {msg : ExecMsg} {out : List OutMsg} (hne : msg ≠ .feeCycle)
    (h : execute m env sender funds msg = .ok (m', out)) : FeeCfgEq m m' := by
  obtain ⟨_, u, a, msg', hu, e⟩ := execute_effect h
  refine e.feeCfg.resolve_left fun hm => hne ?_
  subst hm
  -- no hook call stands for the cycle message
  exact (ExecMsg.unwrap_direct hu rfl).1

theorem execute_feeCycle_ok {m : Market} {env : Env} {s : Nat} {f : List Coin} {r : Market × List OutMsg}
    (h : execute m env s f .feeCycle = .ok r) : f = [] ∧ cycleFee m env = .ok r := by
  cases execute_ok_nil rfl h
  exact ⟨rfl, (execute_nil_feeCycle m env s).symm.trans h⟩

/-- the fee item across a transaction, accepted or not, whatever the fault: it stays, or the
    operation is an accepted direct cycle call and the new record is `cycleFee`'s -/
theorem stepF_feeCfg (fail : Nat → Bool) (w : World) (op : Op) :
    FeeCfgEq w.mkt (stepF fail w op).1.mkt ∨
    ∃ c, op = .exec c [] .feeCycle ∧ (stepF fail w op).2.ok = true ∧
      cycleFee w.mkt w.env = .ok ((stepF fail w op).1.mkt, (stepF fail w op).2.msgs) := by
  rcases stepF_mkt_cases fail w op with ⟨h, -⟩ | ⟨c, f, msg, ho, hok, hx, -⟩
  · exact .inl (h ▸ ⟨rfl, rfl, rfl⟩)
  · by_cases hm : msg = .feeCycle
    · subst hm
      obtain ⟨rfl, hcy⟩ := execute_feeCycle_ok hx
      exact .inr ⟨c, asExec_of_noCoins ho rfl, hok, hcy⟩
    · exact .inl (execute_feeCfg hm hx)

theorem execute_registry {m m' : Market} {env : Env} {s : Nat} {f : List Coin} {msg : ExecMsg}
    {out : List OutMsg} (h : execute m env s f msg = .ok (m', out)) : m'.registry = m.registry := by
  obtain ⟨_, u, a, msg', _, e⟩ := execute_effect h
  induction e <;> rfl

theorem stepF_registry (fail : Nat → Bool) (w : World) (op : Op) :
    (stepF fail w op).1.mkt.registry = w.mkt.registry :=
  stepF_mkt_inv (P := fun m => m.registry = w.mkt.registry) rfl execute_registry

theorem run_registry (ops : List Op) (w : World) : (run w ops).mkt.registry = w.mkt.registry :=
  run_preserves (P := fun m => m.registry = w.mkt.registry)
    (fun _ _ _ _ _ _ _ h hx => (execute_registry hx).trans h) ops rfl

theorem run_registry_real {w0 : World} (hreg : w0.mkt.registry = some w0.regAddr) (ops : List Op) :
    (run w0 ops).mkt.registry = some (run w0 ops).env.regAddr := by
  rw [run_registry, hreg]
  exact congrArg some (run_regAddr w0 ops).symm

end Fuzion
