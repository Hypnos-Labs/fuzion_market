/-
  Fuzion.Lemmas.ProtoLemmas — the writing side of the byte-level model of the community-pool
  message (`Fuzion.Model.Proto`): what `varint`, `field` and `digits` produce.  What the reference
  reader gets back from it is in `Props/C10Proto`.
-/
import Fuzion.Model.Proto
namespace Fuzion.Proto

theorem varint_lt {n : Nat} (h : n < 128) : varint n = [n] := by
  rw [varint, dif_pos h]

theorem varint_ge {n : Nat} (h : ¬ n < 128) : varint n = (n % 128 + 128) :: varint (n / 128) := by
  rw [varint, dif_neg h]

theorem varint_ne_nil (n : Nat) : varint n ≠ [] := by
  rw [varint]; split <;> exact List.cons_ne_nil _ _

theorem varint_bytes (n : Nat) : ∀ b ∈ varint n, b < 256 := by
  induction n using varint.induct with
  | case1 n h => rw [varint_lt h, List.forall_mem_singleton]; omega
  | case2 n h ih => rw [varint_ge h, List.forall_mem_cons]; exact ⟨by omega, ih⟩

@[simp] theorem field_nil (num : Nat) : field num [] = [] := rfl

theorem field_of_ne_nil {num : Nat} {data : List Nat} (h : data ≠ []) :
    field num data = varint (num * 8 + 2) ++ varint data.length ++ data := by
  cases data with
  | nil => exact absurd rfl h
  | cons a as => rfl

theorem field_eq_nil_iff {num : Nat} {data : List Nat} : field num data = [] ↔ data = [] := by
  cases data with
  | nil => exact ⟨fun _ => rfl, fun _ => rfl⟩
  | cons a as =>
    refine ⟨fun h => ?_, fun h => nomatch h⟩
    rw [field_of_ne_nil (List.cons_ne_nil a as), List.append_assoc] at h
    exact absurd (List.append_eq_nil_iff.1 h).1 (varint_ne_nil _)

theorem encodeCoin_ne_nil {denom : List Nat} (amount : List Nat) (h : denom ≠ []) :
    encodeCoin denom amount ≠ [] :=
  fun hc => h (field_eq_nil_iff.1 (List.append_eq_nil_iff.1 hc).1)

theorem field_bytes {num : Nat} {data : List Nat} (h : ∀ b ∈ data, b < 256) :
    ∀ b ∈ field num data, b < 256 := by
  cases data with
  | nil => exact h
  | cons a as =>
    rw [field_of_ne_nil (List.cons_ne_nil a as), List.forall_mem_append, List.forall_mem_append]
    exact ⟨⟨varint_bytes _, varint_bytes _⟩, h⟩

theorem digit_ascii {m : Nat} (h : m < 10) : 48 ≤ 48 + m ∧ 48 + m ≤ 57 :=
  ⟨Nat.le_add_right 48 m, Nat.add_le_add_left (Nat.le_of_lt_succ h) 48⟩

theorem digitsAux_ascii (fuel n : Nat) {acc : List Nat} (h : ∀ d ∈ acc, 48 ≤ d ∧ d ≤ 57) :
    ∀ d ∈ digitsAux fuel n acc, 48 ≤ d ∧ d ≤ 57 := by
  induction fuel generalizing n acc with
  | zero => exact h
  | succ fuel ih =>
    rw [digitsAux]
    split
    · exact List.forall_mem_cons.2 ⟨digit_ascii ‹n < 10›, h⟩
    · exact ih _ (List.forall_mem_cons.2 ⟨digit_ascii (Nat.mod_lt n (by decide)), h⟩)

/-- `digitsAux` writes the digits of `n` in front of `acc`, so reading the result from 0 is reading
    `acc` from `n`; at `acc = []` this is `ofDigits (digits n) = n`.  Fuel above `n` never runs
    out: a round that does not stop goes on with `n / 10 < n`. -/
theorem ofDigits_digitsAux (fuel n : Nat) (acc : List Nat) (h : n < fuel) :
    ofDigits (digitsAux fuel n acc) = acc.foldl (fun a d => a * 10 + (d - 48)) n := by
  induction fuel generalizing n acc with
  | zero => exact absurd h (Nat.not_lt_zero n)
  | succ fuel ih =>
    rw [digitsAux]
    split
    · rw [ofDigits, List.foldl_cons, Nat.zero_mul, Nat.zero_add, Nat.add_sub_cancel_left]
    · rw [ih _ _ (by omega), List.foldl_cons, Nat.add_sub_cancel_left, Nat.div_add_mod']

theorem length_digitsAux_ge (fuel n : Nat) (acc : List Nat) :
    acc.length ≤ (digitsAux fuel n acc).length := by
  induction fuel generalizing n acc with
  | zero => exact Nat.le_refl _
  | succ fuel ih =>
    rw [digitsAux]
    split
    · exact Nat.le_succ _
    · exact Nat.le_trans (Nat.le_succ _) (ih _ (_ :: acc))

theorem length_digitsAux_succ (fuel n : Nat) (acc : List Nat) :
    acc.length < (digitsAux (fuel + 1) n acc).length := by
  rw [digitsAux]
  split
  · exact Nat.lt_succ_self _
  · exact length_digitsAux_ge _ _ (_ :: acc)

/-- `Uint128::to_string` never yields the empty string (so the amount field is never omitted). -/
theorem digits_ne_nil (n : Nat) : digits n ≠ [] :=
  List.ne_nil_of_length_pos (Nat.lt_of_le_of_lt (Nat.zero_le _) (length_digitsAux_succ n n []))

theorem ofDigits_digits (n : Nat) : ofDigits (digits n) = n :=
  ofDigits_digitsAux (n + 1) n [] (Nat.lt_succ_self n)

/-- 48 … 57 are ASCII `'0'` … `'9'` -/
theorem digits_ascii (n : Nat) : ∀ d ∈ digits n, 48 ≤ d ∧ d ≤ 57 :=
  digitsAux_ascii (n + 1) n (fun _ h => nomatch h)

theorem digits_injective {a b : Nat} (h : digits a = digits b) : a = b := by
  rw [← ofDigits_digits a, ← ofDigits_digits b, h]

end Fuzion.Proto
