/-
  Fuzion.Lemmas.ForgeLemmas — what a call of the CW20 / CW721 receive hooks does, as a relation
  `HookChange` between the markets before and after that has the deposited balance and the top-up
  relation as parameters, so that both hooks share every consequence (C18: what a forged call still
  cannot do).
-/
import Fuzion.Lemmas.ExitLemmas
namespace Fuzion

/-! ### the state update of a receive hook -/

/-- What an accepted receive hook does, for the wallet `user` it names: a new listing in
    preparation / a new bucket holding exactly `fresh` under an unused id, or a top-up (`top old
    new`) of `user`'s own listing in preparation / own bucket.  Nothing else is written.
    Against `DepositRecords` the message is no index (no consequence below depends on which of the
    four it was, and the hooks' `inner` is whatever the caller sent), and what matters to the
    depositor only is dropped: that the record found is owned / created by `user`, and how
    whitelist and ask validated. -/
inductive HookChange (m : Market) (user : Nat) (fresh : GBal) (top : GBal → GBal → Prop)
    (m' : Market) : Prop
  | lcreate (id : Nat) (wl : Option Nat) (ask : GBal)
      (hnew : findById id m.listings = none) (hunused : id ∉ m.listingUsed)
      (hm : m' = { m with
        listings := ainsert (user, id) (newListing user id wl fresh ask) m.listings,
        listingUsed := id :: m.listingUsed })
  | ledit (id : Nat) (l : Listing) (nf : GBal) (hl : alookup (user, id) m.listings = some l)
      (hst : l.status = .preparing) (hcl : l.claimant = none) (htop : top l.forSale nf)
      (hm : m' = { m with listings := ainsert (user, id) { l with forSale := nf } m.listings })
  | bcreate (id : Nat) (hnew : alookup (user, id) m.buckets = none) (hunused : id ∉ m.bucketUsed)
      (hm : m' = { m with
        buckets := ainsert (user, id) ⟨user, fresh, none⟩ m.buckets,
        bucketUsed := id :: m.bucketUsed })
  | bedit (id : Nat) (b : Bucket) (nf : GBal) (hb : alookup (user, id) m.buckets = some b)
      (htop : top b.funds nf)
      (hm : m' = { m with buckets := ainsert (user, id) { b with funds := nf } m.buckets })

theorem DepositRecords.hookChange {m m' : Market} {x : Nat} {g0 : GBal} {P : GBal → GBal → Prop}
    {i : Inner} (h : DepositRecords m m' x g0 P i) : HookChange m x g0 P m' := by
  cases i with
  | createBucket id => exact .bcreate id h.1 h.2.1 h.2.2
  | addToBucket id =>
    obtain ⟨r, nf, hb, _, htop, hm⟩ := h
    exact .bedit id r nf hb htop hm
  | createListing id c =>
    obtain ⟨wl, ask, hnew, hunused, _, _, hm⟩ := h
    exact .lcreate id wl ask hnew hunused hm
  | addToListing id =>
    obtain ⟨l, nf, hl, _, hst, hcl, htop, hm⟩ := h
    exact .ledit id l nf hl hst hcl htop hm

section hooks
variable {m m' : Market} {env : Env} {caller : Nat} {funds : List Coin} {sender : RawAddr}
  {inner : Option Inner} {out : List OutMsg}

theorem receive_effect {amount : Nat}
    (h : receive m env caller funds sender amount inner = .ok (m', out)) :
    funds = [] ∧ env.isToken20 caller = true ∧ ∃ user, ∃ im : Inner, sender = .valid user ∧
      Effect m env user (.funds (.cw20 ⟨caller, amount⟩)) im.toExec m' out := by
  obtain ⟨⟨hf, ht⟩, u, a, msg', hu, e⟩ := execute_effect (execute_receive .. ▸ h)
  rcases ExecMsg.unwrap_cases hu with ⟨amt, im, hm, rfl, rfl⟩ | ⟨tid, im, hm, _⟩ | ⟨rfl, _⟩
  · cases hm
    exact ⟨hf, ht, u, im, rfl, e⟩
  · cases hm
  · cases e

theorem receiveNft_effect {tid : Nat}
    (h : receiveNft m env caller funds sender tid inner = .ok (m', out)) :
    funds = [] ∧ env.isContract caller = true ∧ ∃ user, ∃ im : Inner, sender = .valid user ∧
      Effect m env user (.nft ⟨caller, tid⟩) im.toExec m' out := by
  obtain ⟨⟨hf, ht⟩, u, a, msg', hu, e⟩ := execute_effect (execute_receiveNft .. ▸ h)
  rcases ExecMsg.unwrap_cases hu with ⟨amt, im, hm, _⟩ | ⟨t, im, hm, rfl, rfl⟩ | ⟨rfl, _⟩
  · cases hm
  · cases hm
    exact ⟨hf, ht, u, im, rfl, e⟩
  · cases e

theorem receive_hook {amount : Nat}
    (h : receive m env caller funds sender amount inner = .ok (m', out)) :
    funds = [] ∧ env.isToken20 caller = true ∧ out = [] ∧ ∃ user, sender = .valid user ∧
      HookChange m user (fromBalance (.cw20 ⟨caller, amount⟩))
        (fun g nf => addTokens g (.cw20 ⟨caller, amount⟩) = some nf) m' := by
  obtain ⟨hf, ht, user, im, hs, e⟩ := receive_effect h
  exact ⟨hf, ht, e.depositRecords.1, user, hs, e.depositRecords.2.2.hookChange⟩

theorem receiveNft_hook {tid : Nat}
    (h : receiveNft m env caller funds sender tid inner = .ok (m', out)) :
    funds = [] ∧ env.isContract caller = true ∧ out = [] ∧ ∃ user, sender = .valid user ∧
      HookChange m user (fromNft ⟨caller, tid⟩) (fun g nf => nf = addNft g ⟨caller, tid⟩) m' := by
  obtain ⟨hf, ht, user, im, hs, e⟩ := receiveNft_effect h
  exact ⟨hf, ht, e.depositRecords.1, user, hs,
    (e.depositRecords.2.2.mono fun _ _ h => (Option.some.inj h).symm).hookChange⟩

end hooks

/-! ### consequences of `HookChange` -/

section conseq
variable {m m' : Market} {user : Nat} {fresh : GBal} {top : GBal → GBal → Prop}

theorem HookChange.cfg (h : HookChange m user fresh top m') :
    m'.feeKind = m.feeKind ∧ m'.feeSince = m.feeSince ∧ m'.registry = m.registry ∧
    (∀ i ∈ m.listingUsed, i ∈ m'.listingUsed) ∧ (∀ i ∈ m.bucketUsed, i ∈ m'.bucketUsed) := by
  cases h with
  | lcreate id wl ask _ _ hm =>
    subst hm; exact ⟨rfl, rfl, rfl, fun i hi => List.mem_cons_of_mem _ hi, fun i hi => hi⟩
  | ledit id l nf _ _ _ _ hm => subst hm; exact ⟨rfl, rfl, rfl, fun i hi => hi, fun i hi => hi⟩
  | bcreate id _ _ hm =>
    subst hm; exact ⟨rfl, rfl, rfl, fun i hi => hi, fun i hi => List.mem_cons_of_mem _ hi⟩
  | bedit id b nf _ _ hm => subst hm; exact ⟨rfl, rfl, rfl, fun i hi => hi, fun i hi => hi⟩

theorem HookChange.one (h : HookChange m user fresh top m') :
    ∃ k0 : Nat × Nat, k0.1 = user ∧
      (∀ k, k ≠ k0 → alookup k m'.listings = alookup k m.listings ∧
        alookup k m'.buckets = alookup k m.buckets) ∧
      (m'.listings = m.listings ∨ m'.buckets = m.buckets) := by
  cases h with
  | lcreate id wl ask _ _ hm =>
    subst hm
    exact ⟨(user, id), rfl, fun k hk => ⟨alookup_ainsert_ne hk _ _, rfl⟩, .inr rfl⟩
  | ledit id l nf _ _ _ _ hm =>
    subst hm
    exact ⟨(user, id), rfl, fun k hk => ⟨alookup_ainsert_ne hk _ _, rfl⟩, .inr rfl⟩
  | bcreate id _ _ hm =>
    subst hm
    exact ⟨(user, id), rfl, fun k hk => ⟨rfl, alookup_ainsert_ne hk _ _⟩, .inl rfl⟩
  | bedit id b nf _ _ hm =>
    subst hm
    exact ⟨(user, id), rfl, fun k hk => ⟨rfl, alookup_ainsert_ne hk _ _⟩, .inl rfl⟩

theorem HookChange.others (h : HookChange m user fresh top m') (k : Nat × Nat) (hk : k.1 ≠ user) :
    alookup k m'.listings = alookup k m.listings ∧ alookup k m'.buckets = alookup k m.buckets := by
  obtain ⟨k0, h0, hne, _⟩ := h.one
  exact hne k (fun e => hk (e ▸ h0))

theorem HookChange.listing (hI : IdsInv m) (h : HookChange m user fresh top m') {k : Nat × Nat}
    {l : Listing} (hl : alookup k m.listings = some l) :
    alookup k m'.listings = some l ∨
    (k.1 = user ∧ l.status = .preparing ∧ l.claimant = none ∧ ∃ nf, top l.forSale nf ∧
      alookup k m'.listings = some { l with forSale := nf }) := by
  cases h with
  | lcreate id wl ask hnew _ hm =>
    subst hm
    have hne : k ≠ (user, id) := by
      intro e; subst e
      rw [hI.findById_eq_none_iff.1 hnew user] at hl; cases hl
    exact .inl ((alookup_ainsert_ne hne ..).trans hl)
  | ledit id l0 nf hl0 hst hcl htop hm =>
    subst hm
    by_cases hk : k = (user, id)
    · subst hk
      rw [hl0] at hl; cases hl
      exact .inr ⟨rfl, hst, hcl, nf, htop, alookup_ainsert_self _ _ _⟩
    · exact .inl ((alookup_ainsert_ne hk ..).trans hl)
  | bcreate id _ _ hm => subst hm; exact .inl hl
  | bedit id b nf _ _ hm => subst hm; exact .inl hl

theorem HookChange.bucket (h : HookChange m user fresh top m') {k : Nat × Nat}
    {b : Bucket} (hb : alookup k m.buckets = some b) :
    alookup k m'.buckets = some b ∨
    (k.1 = user ∧ ∃ nf, top b.funds nf ∧ alookup k m'.buckets = some { b with funds := nf }) := by
  cases h with
  | lcreate id wl ask _ _ hm => subst hm; exact .inl hb
  | ledit id l0 nf _ _ _ _ hm => subst hm; exact .inl hb
  | bcreate id hnew _ hm =>
    subst hm
    have hne : k ≠ (user, id) := by
      intro e; subst e; rw [hnew] at hb; cases hb
    exact .inl ((alookup_ainsert_ne hne ..).trans hb)
  | bedit id b0 nf hb0 htop hm =>
    subst hm
    by_cases hk : k = (user, id)
    · subst hk
      rw [hb0] at hb; cases hb
      exact .inr ⟨rfl, nf, htop, alookup_ainsert_self _ _ _⟩
    · exact .inl ((alookup_ainsert_ne hk ..).trans hb)

/-- `listing` with the two cases merged: `R` is whatever the user claims of the record found
    afterwards (it may mention `l' = l`, so it is a predicate on listings, not on goods), to be shown
    of the old record and of each of its top-ups -/
theorem HookChange.listing_ext (hI : IdsInv m) (h : HookChange m user fresh top m')
    {k : Nat × Nat} {l : Listing} (hl : alookup k m.listings = some l) {R : Listing → Prop}
    (h0 : R l) (h1 : ∀ nf, top l.forSale nf → R { l with forSale := nf }) :
    ∃ l', alookup k m'.listings = some l' ∧ (l.status ≠ .preparing → l' = l) ∧
      l'.creator = l.creator ∧ l'.id = l.id ∧ l'.status = l.status ∧ l'.ask = l.ask ∧
      l'.whitelist = l.whitelist ∧ l'.claimant = l.claimant ∧ l'.finalizedAt = l.finalizedAt ∧
      l'.expiresAt = l.expiresAt ∧ l'.fee = l.fee ∧ R l' := by
  rcases h.listing hI hl with e | ⟨_, hst, _, nf, ht, e⟩
  · exact ⟨l, e, fun _ => rfl, rfl, rfl, rfl, rfl, rfl, rfl, rfl, rfl, rfl, h0⟩
  · exact ⟨_, e, fun hne => absurd hst hne, rfl, rfl, rfl, rfl, rfl, rfl, rfl, rfl, rfl, h1 nf ht⟩

theorem HookChange.bucket_ext (h : HookChange m user fresh top m') {k : Nat × Nat} {b : Bucket}
    (hb : alookup k m.buckets = some b) {R : Bucket → Prop}
    (h0 : R b) (h1 : ∀ nf, top b.funds nf → R { b with funds := nf }) :
    ∃ b', alookup k m'.buckets = some b' ∧ b'.owner = b.owner ∧ b'.fee = b.fee ∧ R b' := by
  rcases h.bucket hb with e | ⟨_, nf, ht, e⟩
  · exact ⟨b, e, rfl, rfl, h0⟩
  · exact ⟨_, e, rfl, rfl, h1 nf ht⟩

theorem HookChange.new_listing (h : HookChange m user fresh top m') {k : Nat × Nat} {l' : Listing}
    (hnone : alookup k m.listings = none) (hl' : alookup k m'.listings = some l') :
    k.1 = user ∧ k.2 ∉ m.listingUsed ∧ k.2 ∈ m'.listingUsed ∧ l'.creator = user ∧ l'.id = k.2 ∧
    l'.status = .preparing ∧ l'.claimant = none ∧ l'.fee = none ∧ l'.forSale = fresh := by
  cases h with
  | lcreate id wl ask hnew hun hm =>
    subst hm
    obtain ⟨rfl, rfl⟩ := alookup_ainsert_new hnone hl'
    exact ⟨rfl, hun, List.mem_cons_self, rfl, rfl, rfl, rfl, rfl, rfl⟩
  | ledit id l0 nf hl0 _ _ _ hm =>
    subst hm
    obtain ⟨rfl, _⟩ := alookup_ainsert_new hnone hl'
    rw [hl0] at hnone; cases hnone
  | bcreate id _ _ hm => subst hm; rw [hnone] at hl'; cases hl'
  | bedit id b nf _ _ hm => subst hm; rw [hnone] at hl'; cases hl'

theorem HookChange.new_bucket (h : HookChange m user fresh top m') {k : Nat × Nat} {b' : Bucket}
    (hnone : alookup k m.buckets = none) (hb' : alookup k m'.buckets = some b') :
    k.1 = user ∧ k.2 ∉ m.bucketUsed ∧ k.2 ∈ m'.bucketUsed ∧ b' = ⟨user, fresh, none⟩ := by
  cases h with
  | lcreate id wl ask _ _ hm => subst hm; rw [hnone] at hb'; cases hb'
  | ledit id l0 nf _ _ _ _ hm => subst hm; rw [hnone] at hb'; cases hb'
  | bcreate id hnew hun hm =>
    subst hm
    obtain ⟨rfl, rfl⟩ := alookup_ainsert_new hnone hb'
    exact ⟨rfl, hun, List.mem_cons_self, rfl⟩
  | bedit id b nf hb0 _ hm =>
    subst hm
    obtain ⟨rfl, _⟩ := alookup_ainsert_new hnone hb'
    rw [hb0] at hnone; cases hnone

end conseq

/-! ### what a top-up adds -/

/-- what either hook deposits for a caller `c` — `x` of the token `c`, or the NFT `x` of the
    collection `c` — is keyed by `c`, as a fresh balance and as a top-up -/
theorem hookAsset_keyed {a : Asset} {c x : Nat} (ha : a = .funds (.cw20 ⟨c, x⟩) ∨ a = .nft ⟨c, x⟩) :
    (a.bal.native = [] ∧ (∀ k ∈ a.bal.cw20, k.key = c) ∧ ∀ n ∈ a.bal.nfts, n.coll = c) ∧
    ∀ g nf, a.addTo g = some nf → nf.native = g.native ∧
      (∀ t, t ≠ c → coinAmt nf.cw20 t = coinAmt g.cw20 t) ∧
      coinAmt g.cw20 c ≤ coinAmt nf.cw20 c ∧ (nf.nfts = g.nfts ∨ nf.nfts = g.nfts ++ [⟨c, x⟩]) := by
  rcases ha with rfl | rfl
  · refine ⟨⟨rfl, fun k hk => by rw [List.mem_singleton.1 hk], fun _ h => (List.not_mem_nil h).elim⟩,
      fun g nf h => ?_⟩
    obtain ⟨g1, g2, g3, g4⟩ := addTokens_cw20_confined h
    exact ⟨g1, g3, g4 ▸ Nat.le_add_right .., .inl g2⟩
  · refine ⟨⟨rfl, fun _ h => (List.not_mem_nil h).elim, fun n hn => by rw [List.mem_singleton.1 hn]⟩,
      fun g nf h => ?_⟩
    cases h
    exact ⟨rfl, fun _ _ => rfl, Nat.le_refl _, .inr rfl⟩

/-! ### a direct call of a hook, at world level -/

theorem forged_step_cases (w : World) (c : Nat) (f : List Coin) (s : RawAddr) (x : Nat)
    (i : Option Inner) :
    (∃ e, step w (.exec c f (.receive s x i)) = (w, .fail e)) ∨
    (f = [] ∧ ∃ m', receive w.mkt w.env c f s x i = .ok (m', []) ∧
      step w (.exec c f (.receive s x i)) = ({ w with mkt := m' }, ⟨true, none, []⟩)) :=
  stepF_exec_silent fun hx => have h := receive_hook hx; ⟨h.1, h.2.2.1⟩

theorem forged_step_cases_nft (w : World) (c : Nat) (f : List Coin) (s : RawAddr) (x : Nat)
    (i : Option Inner) :
    (∃ e, step w (.exec c f (.receiveNft s x i)) = (w, .fail e)) ∨
    (f = [] ∧ ∃ m', receiveNft w.mkt w.env c f s x i = .ok (m', []) ∧
      step w (.exec c f (.receiveNft s x i)) = ({ w with mkt := m' }, ⟨true, none, []⟩)) :=
  stepF_exec_silent fun hx => have h := receiveNft_hook hx; ⟨h.1, h.2.2.1⟩

/-- both hooks at once: `a` is the asset the hook books for its caller -/
theorem forged_step_accepted {w : World} {op : Op} {caller : Nat} {funds : List Coin}
    {sender : RawAddr} {x : Nat} {inner : Option Inner} {a : Asset}
    (hop : op = .exec caller funds (.receive sender x inner) ∧ a = .funds (.cw20 ⟨caller, x⟩) ∨
      op = .exec caller funds (.receiveNft sender x inner) ∧ a = .nft ⟨caller, x⟩)
    (hok : (step w op).2.ok = true) :
    funds = [] ∧ ∃ user m', sender = .valid user ∧
      HookChange w.mkt user a.bal (fun g nf => a.addTo g = some nf) m' ∧
      step w op = ({ w with mkt := m' }, ⟨true, none, []⟩) := by
  rcases hop with ⟨rfl, rfl⟩ | ⟨rfl, rfl⟩
  · rcases forged_step_cases w caller funds sender x inner with ⟨e, h1⟩ | ⟨hf, m', hx, hs⟩
    · rw [h1] at hok; cases hok
    · obtain ⟨_, _, user, im, hu, e⟩ := receive_effect hx
      exact ⟨hf, user, m', hu, e.depositRecords.2.2.hookChange, hs⟩
  · rcases forged_step_cases_nft w caller funds sender x inner with ⟨e, h1⟩ | ⟨hf, m', hx, hs⟩
    · rw [h1] at hok; cases hok
    · obtain ⟨_, _, user, im, hu, e⟩ := receiveNft_effect hx
      exact ⟨hf, user, m', hu, e.depositRecords.2.2.hookChange, hs⟩

end Fuzion
