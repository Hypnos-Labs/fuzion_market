/-
  Fuzion.Lemmas.Ledgers — the three token ledgers of `Model/Chain.lean` (bank, CW20, CW721) under
  `bankSend`, `ledgerMove`, `dispatch1`, `dispatchAll` and the deposit of an operation.

  A fact crosses a transaction in one of two ways.  What survives one move on behalf of one account
  (`LedgerStep`) survives every operation (`stepF_ledgers`): nobody but the source is debited, the
  ledgers stay maps.  What a message list does to every account is said exactly, one equation per
  ledger (`dispatchAll_bank`, `dispatchAll_cw20`; `dispatchAll_held`, `dispatchAll_nft_exact` for
  the NFTs); the marketplace's holdings, the pool and a bystander are instances, and the budget
  argument (`dispatchAll_ok_of_budget`) is the converse.  Sums over a message list are `outBy` of a
  summand (`Lemmas/Arith`), coin totals `coinAmt` (`Lemmas/Coins`).  Under a fault predicate a
  transaction is the fault-free one or fails as a whole (`stepF_faults`; read off it:
  `stepF_fault_hit`, `stepF_fault_miss`, `stepF_ok_eq_step`, `stepF_refused_of_step`).
-/
import Fuzion.Lemmas.ChainLemmas
import Fuzion.Lemmas.Arith
namespace Fuzion

theorem bankSub_lget {bank b : Ledger} {a : Nat} {cs : List Coin} (h : bankSub bank a cs = some b)
    (x d : Nat) : lget b (x, d) + (if x = a then coinAmt cs d else 0) = lget bank (x, d) := by
  induction cs generalizing bank with
  | nil => cases h; simp [coinAmt_nil]
  | cons c cs ih =>
    simp only [bankSub] at h
    split at h
    · cases h
    · have := ih h
      rw [coinAmt_cons]
      by_cases hx : x = a
      · subst hx
        rw [if_pos rfl] at this ⊢
        by_cases hd : c.key = d
        · subst hd
          rw [lget_lset_self] at this
          rw [if_pos rfl, Nat.add_left_comm, this, Nat.add_sub_cancel' (Nat.not_lt.1 ‹_›)]
        · rw [lget_lset_ne _ fun e => hd (Prod.mk.inj e).2.symm] at this
          rwa [if_neg hd, Nat.zero_add]
      · rw [if_neg hx] at this ⊢
        rwa [lget_lset_ne _ fun e => hx (Prod.mk.inj e).1] at this

theorem bankSub_isSome_iff {a : Nat} {cs : List Coin} {bank : Ledger} :
    (bankSub bank a cs).isSome = true ↔ ∀ d, coinAmt cs d ≤ lget bank (a, d) := by
  constructor
  · intro h d
    obtain ⟨b, hb⟩ := Option.isSome_iff_exists.1 h
    have := bankSub_lget hb a d
    rw [if_pos rfl] at this
    exact this ▸ Nat.le_add_left _ _
  · induction cs generalizing bank with
    | nil => intro _; rfl
    | cons c cs ih =>
      intro h
      have hc := h c.key
      rw [coinAmt_cons, if_pos rfl] at hc
      simp only [bankSub]
      rw [if_neg (Nat.not_lt.2 (Nat.le_trans (Nat.le_add_right _ _) hc))]
      refine ih fun d => ?_
      have hd := h d
      rw [coinAmt_cons] at hd
      by_cases e : c.key = d
      · subst e
        rw [if_pos rfl] at hd
        rw [lget_lset_self]
        omega
      · rw [if_neg e, Nat.zero_add] at hd
        rwa [lget_lset_ne _ fun e' => e (Prod.mk.inj e').2.symm]

theorem bankSub_nodup {a : Nat} {cs : List Coin} {bank b : Ledger} (h : bankSub bank a cs = some b)
    (hn : (akeys bank).Nodup) : (akeys b).Nodup := by
  induction cs generalizing bank with
  | nil => cases h; exact hn
  | cons c cs ih =>
    simp only [bankSub] at h
    split at h
    · cases h
    · exact ih h (nodup_lset _ _ hn)

theorem bankAdd_lget (bank : Ledger) (a : Nat) (cs : List Coin) (x d : Nat) :
    lget (bankAdd bank a cs) (x, d) = lget bank (x, d) + (if x = a then coinAmt cs d else 0) := by
  induction cs generalizing bank with
  | nil => simp [bankAdd, coinAmt_nil]
  | cons c cs ih =>
    rw [bankAdd, ih, coinAmt_cons]
    by_cases hx : x = a
    · subst hx
      rw [if_pos rfl, if_pos rfl]
      by_cases hd : c.key = d
      · subst hd
        rw [lget_lset_self, if_pos rfl]
        omega
      · rw [lget_lset_ne _ fun e => hd (Prod.mk.inj e).2.symm, if_neg hd, Nat.zero_add]
    · rw [if_neg hx, if_neg hx, lget_lset_ne _ fun e => hx (Prod.mk.inj e).1]

theorem bankAdd_nodup (a : Nat) (cs : List Coin) {bank : Ledger} (hn : (akeys bank).Nodup) :
    (akeys (bankAdd bank a cs)).Nodup := by
  induction cs generalizing bank with
  | nil => exact hn
  | cons c cs ih => exact ih (nodup_lset _ _ hn)

/-- `BankKeeper::send`: zero coins are dropped, an empty transfer is an error, the rest is
    subtracted from the sender and then added to the recipient -/
theorem bankSend_eq_some {bank b : Ledger} {src dst : Nat} {coins : List Coin} :
    bankSend bank src dst coins = some b ↔
      (coins.filter fun c => decide (c.amount ≠ 0)) ≠ [] ∧
      ∃ b0, bankSub bank src (coins.filter fun c => decide (c.amount ≠ 0)) = some b0 ∧
        bankAdd b0 dst (coins.filter fun c => decide (c.amount ≠ 0)) = b := by
  unfold bankSend
  generalize coins.filter (fun c => decide (c.amount ≠ 0)) = fs
  cases fs with
  | nil => simp
  | cons c t => cases h : bankSub bank src (c :: t) <;> simp [h]

theorem bankSend_lget {bank b : Ledger} {src dst : Nat} {coins : List Coin}
    (h : bankSend bank src dst coins = some b) (x d : Nat) :
    lget b (x, d) + (if x = src then coinAmt coins d else 0) =
      lget bank (x, d) + (if x = dst then coinAmt coins d else 0) := by
  obtain ⟨_, b0, h0, rfl⟩ := bankSend_eq_some.1 h
  have := bankSub_lget h0 x d
  rw [coinAmt_filter_nonzero] at this
  rw [bankAdd_lget, coinAmt_filter_nonzero]
  omega

theorem bankSend_isSome_iff {bank : Ledger} {src dst : Nat} {cs : List Coin} :
    (bankSend bank src dst cs).isSome = true ↔
      (∃ c ∈ cs, c.amount ≠ 0) ∧ ∀ d, coinAmt cs d ≤ lget bank (src, d) := by
  have hsub := bankSub_isSome_iff (a := src) (cs := cs.filter fun c => decide (c.amount ≠ 0))
    (bank := bank)
  simp only [coinAmt_filter_nonzero, Option.isSome_iff_exists] at hsub
  have hex : (∃ c ∈ cs, c.amount ≠ 0) ↔ (cs.filter fun c => decide (c.amount ≠ 0)) ≠ [] :=
    ⟨fun ⟨c, hc, hz⟩ => List.ne_nil_of_mem (List.mem_filter.2 ⟨hc, decide_eq_true hz⟩),
     fun h => let ⟨c, hc⟩ := List.exists_mem_of_ne_nil _ h
       ⟨c, (List.mem_filter.1 hc).1, of_decide_eq_true (List.mem_filter.1 hc).2⟩⟩
  rw [Option.isSome_iff_exists, ← hsub, hex]
  exact ⟨fun ⟨_, h⟩ => let ⟨hne, b0, h0, _⟩ := bankSend_eq_some.1 h; ⟨hne, b0, h0⟩,
    fun ⟨hne, b0, h0⟩ => ⟨_, bankSend_eq_some.2 ⟨hne, b0, h0, rfl⟩⟩⟩

/-- for a deposit that passes `normalized_check` (non-empty, no zero amount, no repeated
    denomination) the bank moves the coins iff the payer holds each of them -/
theorem canPay_iff {bank : Ledger} {src dst : Nat} {cs : List Coin}
    (hn : normalizedCheck (.native cs) = true) :
    (bankSend bank src dst cs).isSome = true ↔ ∀ c ∈ cs, c.amount ≤ lget bank (src, c.key) := by
  obtain ⟨hne, hz, nd⟩ := normalizedCheck_native hn
  rw [bankSend_isSome_iff, coinAmt_le_iff_of_nodup nd]
  obtain ⟨c, hc⟩ := List.exists_mem_of_ne_nil cs hne
  exact and_iff_right ⟨c, hc, hz c hc⟩

theorem bankSend_nodup {bank b : Ledger} {src dst : Nat} {coins : List Coin}
    (h : bankSend bank src dst coins = some b) (hn : (akeys bank).Nodup) : (akeys b).Nodup := by
  obtain ⟨_, b0, h0, rfl⟩ := bankSend_eq_some.1 h
  exact bankAdd_nodup _ _ (bankSub_nodup h0 hn)

theorem ledgerMove_lget {l l' : Ledger} {g src dst amt : Nat} (h : ledgerMove l g src dst amt = some l')
    (k : Nat × Nat) :
    lget l' k + (if k = (g, src) then amt else 0) = lget l k + (if k = (g, dst) then amt else 0) := by
  unfold ledgerMove at h
  split at h
  · cases h
  · next hle =>
    cases h
    have hle := Nat.not_lt.1 hle
    by_cases h1 : k = (g, dst)
    · subst h1
      rw [lget_lset_self, if_pos rfl]
      by_cases h2 : dst = src
      · subst h2
        rw [lget_lset_self, if_pos rfl, Nat.sub_add_cancel hle]
      · rw [lget_lset_ne _ fun e => h2 (Prod.mk.inj e).2, if_neg fun e => h2 (Prod.mk.inj e).2]
        rfl
    · rw [lget_lset_ne _ h1, if_neg h1]
      by_cases h2 : k = (g, src)
      · subst h2
        rw [lget_lset_self, if_pos rfl, Nat.sub_add_cancel hle]
        rfl
      · rw [lget_lset_ne _ h2, if_neg h2]

/-- a transfer of `amt` from `src` to `dst`, given as one equation over all accounts, read account
    by account (the form `bankSend_lget`, `ledgerMove_lget` give) -/
theorem transfer_cases {α : Type} [DecidableEq α] {f f' : α → Nat} {src dst : α} {amt : Nat}
    (h : ∀ a, f' a + (if a = src then amt else 0) = f a + (if a = dst then amt else 0))
    (hne : src ≠ dst) :
    f' src + amt = f src ∧ f' dst = f dst + amt ∧ ∀ a, a ≠ src → a ≠ dst → f' a = f a := by
  refine ⟨?_, ?_, fun a h1 h2 => ?_⟩
  · have := h src
    rwa [if_pos rfl, if_neg hne] at this
  · have := h dst
    rwa [if_neg (Ne.symm hne), if_pos rfl] at this
  · have := h a
    rwa [if_neg h1, if_neg h2] at this

theorem ledgerMove_isSome_iff {l : Ledger} {g src dst amt : Nat} :
    (ledgerMove l g src dst amt).isSome = true ↔ amt ≤ lget l (g, src) := by
  unfold ledgerMove
  split <;> simp <;> omega

theorem ledgerMove_nodup {l l' : Ledger} {g src dst amt : Nat}
    (h : ledgerMove l g src dst amt = some l') (hn : (akeys l).Nodup) : (akeys l').Nodup := by
  unfold ledgerMove at h
  split at h
  · cases h
  · cases h
    exact nodup_lset _ _ (nodup_lset _ _ hn)

/-- account `y` loses nothing between `w` and `w'`: no bank balance and no CW20 balance of `y`
    decreases and every NFT `y` owns it still owns -/
structure NoDebit (y : Nat) (w w' : World) : Prop where
  bank : ∀ d, lget w.bank (y, d) ≤ lget w'.bank (y, d)
  cw20 : ∀ t, lget w.cw20 (t, y) ≤ lget w'.cw20 (t, y)
  nft : ∀ k, alookup k w.nft = some y → alookup k w'.nft = some y

theorem NoDebit.refl (y : Nat) (w : World) : NoDebit y w w :=
  ⟨fun _ => Nat.le_refl _, fun _ => Nat.le_refl _, fun _ h => h⟩

theorem NoDebit.trans {y : Nat} {a b c : World} (h1 : NoDebit y a b) (h2 : NoDebit y b c) :
    NoDebit y a c :=
  ⟨fun d => Nat.le_trans (h1.bank d) (h2.bank d), fun t => Nat.le_trans (h1.cw20 t) (h2.cw20 t),
   fun k h => h2.nft k (h1.nft k h)⟩

/-- the three token ledgers are maps: no key occurs twice (the harness dumps maps; `lset` keeps
    this, see `stepF_ledgersNodup`) -/
structure LedgersNodup (w : World) : Prop where
  bank : (akeys w.bank).Nodup
  cw20 : (akeys w.cw20).Nodup
  nft : (akeys w.nft).Nodup

/-- the NFT ledger has one entry per NFT and only knows honest collections.  The first half is
    `LedgersNodup.nft` again; it is repeated here because this much of the ledgers, and no more, is
    what the soundness of the executable accounting check (`C01_check`) assumes. -/
def NftLedgerOk (w : World) : Prop :=
  (akeys w.nft).Nodup ∧ ∀ p ∈ w.nft, w.isHonest721 p.1.1 = true

section
variable {src : Nat} {w w' : World}

theorem LedgerStep.noDebit (h : LedgerStep src w w') {y : Nat} (hy : y ≠ src) : NoDebit y w w' := by
  cases h with
  | same => exact .refl _ _
  | bank hb =>
    refine ⟨fun d => ?_, fun _ => Nat.le_refl _, fun _ hk => hk⟩
    have := bankSend_lget hb y d
    rw [if_neg hy, Nat.add_zero] at this
    exact this ▸ Nat.le_add_right _ _
  | cw20 hl =>
    refine ⟨fun _ => Nat.le_refl _, fun t => ?_, fun _ hk => hk⟩
    have := ledgerMove_lget hl (t, y)
    rw [if_neg fun e => hy (Prod.mk.inj e).2, Nat.add_zero] at this
    exact this ▸ Nat.le_add_right _ _
  | nft dst _ ho =>
    refine ⟨fun _ => Nat.le_refl _, fun _ => Nat.le_refl _, fun k hk => ?_⟩
    have hne : k ≠ _ := fun e => hy (by rw [e, ho] at hk; exact (Option.some.inj hk).symm)
    exact ((alookup_lset ..).trans (if_neg hne)).trans hk

theorem LedgerStep.ledgersNodup (h : LedgerStep src w w') (hl : LedgersNodup w) :
    LedgersNodup w' := by
  cases h with
  | same => exact hl
  | bank hb => exact ⟨bankSend_nodup hb hl.bank, hl.cw20, hl.nft⟩
  | cw20 hm => exact ⟨hl.bank, ledgerMove_nodup hm hl.cw20, hl.nft⟩
  | nft dst _ _ => exact ⟨hl.bank, hl.cw20, nodup_lset _ _ hl.nft⟩

theorem LedgerStep.nftLedgerOk (h : LedgerStep src w w') (hl : NftLedgerOk w) : NftLedgerOk w' := by
  cases h with
  | nft dst hc _ =>
    exact ⟨nodup_lset _ _ hl.1, forall_mem_ainsert hl.2 hc⟩
  | _ => exact hl

end

theorem dispatchAll_noDebit {fail : Nat → Bool} {msgs : List OutMsg} {w w' : World} {i : Nat}
    (h : dispatchAll fail w msgs i = some w') {a : Nat} (ha : a ≠ w.self) : NoDebit a w w' :=
  dispatchAll_rel (R := fun w _ w' => a ≠ w.self → NoDebit a w w') (fun _ _ => .refl _ _)
    (fun h1 ih ha => ((dispatch1_step h1).noDebit ha).trans
      (ih ((dispatch1_step h1).core.1.self ▸ ha))) h ha

/-- A transaction is a sequence of moves: at most one out of the payer's account (the deposit), then
    one per message out of the marketplace's.  So what every such move keeps, and what reads nothing
    of the world but the three ledgers and the static fields, is kept by every operation, accepted or
    not, whatever the injected fault. -/
theorem stepF_ledgers {P : World → Prop} {fail : Nat → Bool} {w : World} {op : Op}
    (hmove : ∀ {src w1 w2}, op.payer = some src ∨ src = w.self → LedgerStep src w1 w2 → P w1 → P w2)
    (hframe : ∀ {w1 w2}, w2.bank = w1.bank → w2.cw20 = w1.cw20 → w2.nft = w1.nft → StaticEq w1 w2 →
      P w1 → P w2)
    (h : P w) : P (stepF fail w op).1 := by
  cases ho : op.asExec with
  | some t =>
    obtain ⟨c, f, msg⟩ := t
    rcases stepF_market_full (fail := fail) (w := w) ho with
      ⟨e, hs⟩ | ⟨w1, m', msgs, w2, hd, _, hdd, hs⟩ <;> rw [hs]
    · exact h
    · have h1 : P w1 := by
        rcases deposit_step hd with rfl | ⟨s, hp, st⟩
        · exact h
        · exact hmove (.inl hp) st h
      exact dispatchAll_rel (R := fun w1 _ w2 => w1.self = w.self → P w1 → P w2) (fun _ _ => id)
        (fun hx ih hs hp =>
          ih ((dispatch1_step hx).core.1.self.trans hs) (hmove (.inr hs) (dispatch1_step hx) hp))
        hdd (deposit_core hd).1.self
        -- `hframe` also takes `P` across the write of the new record into `w1`
        (hframe (w1 := w1) rfl rfl rfl ⟨rfl, rfl, rfl, rfl, fun _ => rfl, fun _ => rfl⟩ h1)
  | none =>
    obtain ⟨hb, hc, hn, _, hst⟩ := stepF_nonmarket (fail := fail) (w := w) ho
    exact hframe hb hc hn hst h

/-- One transaction, successful or not, with or without injected faults: the only accounts that
    can lose a coin, a CW20 unit or an NFT are the operation's payer and the marketplace. -/
theorem stepF_noDebit (fail : Nat → Bool) (w : World) (op : Op) {y : Nat}
    (hy : op.payer ≠ some y) (hs : y ≠ w.self) : NoDebit y w (stepF fail w op).1 :=
  stepF_ledgers (P := NoDebit y w)
    (fun hsrc st h => h.trans (st.noDebit fun e =>
      hsrc.elim (fun hp => hy (e ▸ hp)) fun e' => hs (e.trans e')))
    (fun hb hc hn _ h => ⟨fun d => hb ▸ h.bank d, fun t => hc ▸ h.cw20 t, fun k hk => hn ▸ h.nft k hk⟩)
    (.refl y w)

/-- a direct call without attached coins debits nobody but the marketplace, whatever its kind and
    outcome: the messages a handler emits are paid by the marketplace -/
theorem stepF_exec_nil_noDebit (fail : Nat → Bool) {w : World} (s : Nat) (msg : ExecMsg) {y : Nat}
    (hy : y ≠ w.self) : NoDebit y w (stepF fail w (.exec s [] msg)).1 := by
  rcases stepF_exec_nil fail w s msg with ⟨e, h⟩ | ⟨m', msgs, w2, _, hdd, h⟩ <;> rw [h]
  · exact .refl _ _
  · have h2 : NoDebit y { w with mkt := m' } w2 := dispatchAll_noDebit hdd hy
    exact ⟨h2.bank, h2.cw20, h2.nft⟩

theorem stepF_ledgersNodup {fail : Nat → Bool} {w : World} {op : Op} (hl : LedgersNodup w) :
    LedgersNodup (stepF fail w op).1 :=
  stepF_ledgers (fun _ st => st.ledgersNodup)
    (fun hb hc hn _ hl => ⟨hb ▸ hl.bank, hc ▸ hl.cw20, hn ▸ hl.nft⟩) hl

theorem run_ledgersNodup {w : World} (hl : LedgersNodup w) (ops : List Op) :
    LedgersNodup (run w ops) :=
  run_invariant (fun _ _ h => stepF_ledgersNodup h) ops hl

theorem stepF_nftLedger {fail : Nat → Bool} {w : World} {op : Op} (hl : NftLedgerOk w) :
    NftLedgerOk (stepF fail w op).1 :=
  stepF_ledgers (fun _ st => st.nftLedgerOk)
    (fun _ _ hn hs hl => ⟨hn ▸ hl.1, fun p hp => (hs.honest721 _).trans (hl.2 p (hn ▸ hp))⟩) hl

/-- native coins leaving the marketplace through a message list, per denom (bank sends AND
    community-pool deposits) -/
def paidNative (ms : List OutMsg) (d : Nat) : Nat :=
  (ms.map fun m => match m with
    | .bankSend _ cs => coinAmt cs d
    | .fundPool _ c => if c.key = d then c.amount else 0
    | _ => 0).sum

def paidCw20 (ms : List OutMsg) (t : Nat) : Nat :=
  (ms.map fun m => match m with | .cw20Transfer t' _ a => if t' = t then a else 0 | _ => 0).sum

def poolPaid (ms : List OutMsg) (d : Nat) : Nat :=
  (ms.map fun m => match m with | .fundPool _ c => if c.key = d then c.amount else 0 | _ => 0).sum

def sentNfts (ms : List OutMsg) : List Nft :=
  ms.filterMap fun m => match m with | .nftTransfer c t _ => some ⟨c, t⟩ | _ => none

/-! The summands by name.  `p…` is what one message pays out: `pNat d` in native denomination `d`,
`pPool d` of that to the community pool, `pNft n` 1 iff it transfers NFT `n` (for CW20 token `t`
it is `fCw20 t` of `Lemmas/Arith`).  `r…` is what one account receives: `rNat pool a d`, `r20 h t`.
The sums above are written with the summand inline and the lemmas about message sums are about
`outBy` of a function; `paidNative_eq`, `paidCw20_eq`, `poolPaid_eq` pass from one to the other
(`rfl`: it is the same `match`, up to unfolding the matcher). -/

def pNat (d : Nat) : OutMsg → Nat := fun m => match m with
  | .bankSend _ cs => coinAmt cs d
  | .fundPool _ c => if c.key = d then c.amount else 0
  | _ => 0
def pPool (d : Nat) : OutMsg → Nat := fun m => match m with
  | .fundPool _ c => if c.key = d then c.amount else 0
  | _ => 0
def pNft (n : Nft) : OutMsg → Nat := fun m => match m with
  | .nftTransfer c t _ => if (⟨c, t⟩ : Nft) = n then 1 else 0
  | _ => 0

def rNat (pool a d : Nat) : OutMsg → Nat := fun x => match x with
  | .bankSend to cs => if a = to then coinAmt cs d else 0
  | .fundPool _ c => if a = pool then (if c.key = d then c.amount else 0) else 0
  | _ => 0
def r20 (h t : Nat) : OutMsg → Nat := fun x => match x with
  | .cw20Transfer t' to a => if t' = t ∧ h = to then a else 0
  | _ => 0

theorem paidNative_eq (ms : List OutMsg) (d : Nat) : paidNative ms d = outBy (pNat d) ms := rfl
theorem paidCw20_eq (ms : List OutMsg) (t : Nat) : paidCw20 ms t = outBy (fCw20 t) ms := rfl
theorem poolPaid_eq (ms : List OutMsg) (d : Nat) : poolPaid ms d = outBy (pPool d) ms := rfl

@[simp] theorem paidNative_nil (d : Nat) : paidNative [] d = 0 := rfl
@[simp] theorem paidCw20_nil (t : Nat) : paidCw20 [] t = 0 := rfl
@[simp] theorem poolPaid_nil (d : Nat) : poolPaid [] d = 0 := rfl
@[simp] theorem sentNfts_nil : sentNfts [] = [] := rfl

def OutMsg.nfts1 : OutMsg → List Nft
  | .nftTransfer c t _ => [⟨c, t⟩]
  | _ => []

theorem sentNfts_cons (x : OutMsg) (ms : List OutMsg) :
    sentNfts (x :: ms) = x.nfts1 ++ sentNfts ms := by
  cases x <;> rfl

/-- counting an NFT among the transferred ones is a message sum too -/
theorem count_sentNfts (n : Nft) (ms : List OutMsg) : (sentNfts ms).count n = outBy (pNft n) ms := by
  induction ms with
  | nil => rfl
  | cons m ms ih =>
    rw [outBy_cons, ← ih, sentNfts_cons, List.count_append]
    congr 1
    cases m with
    | nftTransfer c t to =>
      simp only [OutMsg.nfts1, pNft, List.count_cons, List.count_nil, beq_iff_eq, Nat.zero_add]
    | _ => rfl

def OutMsg.dest (pool : Nat) : OutMsg → Nat
  | .bankSend to _ => to
  | .cw20Transfer _ to _ => to
  | .nftTransfer _ _ to => to
  | .fundPool _ _ => pool

theorem outBy_rNat_zero {pool a d : Nat} {ms : List OutMsg} (h : ∀ x ∈ ms, x.dest pool ≠ a) :
    outBy (rNat pool a d) ms = 0 :=
  outBy_eq_zero fun x hx => by
    have := Ne.symm (h x hx)
    cases x <;> first | rfl | exact if_neg this

theorem outBy_r20_zero {pool a t : Nat} {ms : List OutMsg} (h : ∀ x ∈ ms, x.dest pool ≠ a) :
    outBy (r20 a t) ms = 0 :=
  outBy_eq_zero fun x hx => by
    have := Ne.symm (h x hx)
    cases x <;> first | rfl | exact if_neg fun e => this e.2

/-- 1 iff the marketplace owns NFT `n` on chain; the list of these NFTs is `heldNfts` in
    `Inv/Defs.lean` (`mem_heldNfts` in `AcctLemmas`) -/
def held (w : World) (n : Nft) : Nat := if alookup (n.coll, n.tid) w.nft = some w.self then 1 else 0

section
variable {w w' : World} {x : OutMsg}

/-- the bank: every account loses what the message pays, if it is the marketplace, and gains what
    is addressed to it -/
theorem dispatch1_bank (h : dispatch1 w x = some w') (a d : Nat) :
    lget w'.bank (a, d) + (if a = w.self then pNat d x else 0) =
      lget w.bank (a, d) + rNat w.pool a d x := by
  cases x with
  | bankSend to coins =>
    obtain ⟨b, hb, rfl⟩ := dispatch1_bankSend.1 h
    exact bankSend_lget hb a d
  | fundPool dep coin =>
    obtain ⟨_, b, hb, rfl⟩ := dispatch1_fundPool.1 h
    have := bankSend_lget hb a d
    simp only [coinAmt_cons, coinAmt_nil, Nat.add_zero] at this
    exact this
  -- not a bank message: `pNat` and `rNat` compute to 0, the goal is `v + (if _ then 0 else 0) = v + 0`
  | cw20Transfer token to amt =>
    obtain ⟨ci, _, ⟨_, _, l, _, rfl⟩ | ⟨_, _, rfl⟩⟩ := dispatch1_cw20Transfer.1 h <;>
      exact congrArg _ (ite_self 0)
  | nftTransfer coll tid to =>
    obtain ⟨ci, _, ⟨_, _, rfl⟩ | ⟨_, _, rfl⟩⟩ := dispatch1_nftTransfer.1 h <;>
      exact congrArg _ (ite_self 0)

/-- the CW20 ledger: in an honest token every holder loses what the message pays, if it is the
    marketplace, and gains what is addressed to it; the entries of any other contract are never
    written (a hostile contract's `Transfer` is a no-op of the model) -/
theorem dispatch1_cw20 (h : dispatch1 w x = some w') (t hd : Nat) :
    (w.isHonest20 t = true →
      lget w'.cw20 (t, hd) + (if hd = w.self then fCw20 t x else 0) =
        lget w.cw20 (t, hd) + r20 hd t x) ∧
    (w.isHonest20 t = false → lget w'.cw20 (t, hd) = lget w.cw20 (t, hd)) := by
  have nop : ∀ {v : Nat}, v + (if hd = w.self then 0 else 0) = v + 0 := congrArg _ (ite_self 0)
  cases x with
  | cw20Transfer token to amt =>
    obtain ⟨ci, hci, ⟨hk, _, l, hl, rfl⟩ | ⟨h3, _, rfl⟩⟩ := dispatch1_cw20Transfer.1 h
    · -- an honest token moved `amt`: `ledgerMove_lget`, which says "no change" for any other token
      have := ledgerMove_lget hl (t, hd)
      by_cases e : token = t
      · subst e
        refine ⟨fun _ => ?_, fun hf => ?_⟩
        · simpa only [fCw20, r20, Prod.mk.injEq, true_and, if_true] using this
        · rw [isHonest20_iff.2 ⟨ci, hci, hk⟩] at hf
          cases hf
      · rw [if_neg fun e' => e (Prod.mk.inj e').1.symm, if_neg fun e' => e (Prod.mk.inj e').1.symm] at this
        refine ⟨fun _ => ?_, fun _ => this⟩
        simp only [fCw20, r20, e, false_and, if_false]
        exact nop.trans this
    · -- a hostile contract swallowed the call and nothing is written; it is not `t`, which is honest
      refine ⟨fun ht => ?_, fun _ => rfl⟩
      obtain ⟨ci0, hk0, hk1⟩ := isHonest20_iff.1 ht
      have e : token ≠ t := by
        rintro rfl
        rw [hk0] at hci
        cases hci
        omega
      simp only [fCw20, r20, e, false_and, if_false]
      exact nop
  | bankSend to coins =>
    obtain ⟨b, _, rfl⟩ := dispatch1_bankSend.1 h
    exact ⟨fun _ => nop, fun _ => rfl⟩
  | fundPool dep coin =>
    obtain ⟨_, b, _, rfl⟩ := dispatch1_fundPool.1 h
    exact ⟨fun _ => nop, fun _ => rfl⟩
  | nftTransfer coll tid to =>
    obtain ⟨ci, _, ⟨_, _, rfl⟩ | ⟨_, _, rfl⟩⟩ := dispatch1_nftTransfer.1 h <;>
      exact ⟨fun _ => nop, fun _ => rfl⟩

/-- the NFT ledger: one dispatched message either leaves it alone (and is no transfer in an honest
    collection) or is a transfer, in an honest collection, of an NFT the marketplace owns -/
theorem dispatch1_nft (h : dispatch1 w x = some w') :
    (w'.nft = w.nft ∧ ∀ n ∈ x.nfts1, w.isHonest721 n.coll = false) ∨
    (∃ c t to, x = .nftTransfer c t to ∧ w.isHonest721 c = true ∧
      alookup (c, t) w.nft = some w.self ∧ w'.nft = lset w.nft (c, t) to) := by
  cases x with
  | bankSend to coins =>
    obtain ⟨b, _, rfl⟩ := dispatch1_bankSend.1 h
    exact .inl ⟨rfl, fun _ hn => nomatch hn⟩
  | fundPool dep coin =>
    obtain ⟨_, b, _, rfl⟩ := dispatch1_fundPool.1 h
    exact .inl ⟨rfl, fun _ hn => nomatch hn⟩
  | cw20Transfer token to amt =>
    obtain ⟨ci, _, ⟨_, _, l, _, rfl⟩ | ⟨_, _, rfl⟩⟩ := dispatch1_cw20Transfer.1 h <;>
      exact .inl ⟨rfl, fun _ hn => nomatch hn⟩
  | nftTransfer coll tid to =>
    obtain ⟨ci, hci, ⟨hk, hown, rfl⟩ | ⟨hk, _, rfl⟩⟩ := dispatch1_nftTransfer.1 h
    · exact .inr ⟨coll, tid, to, rfl, isHonest721_iff.2 ⟨ci, hci, hk⟩, hown, rfl⟩
    · refine .inl ⟨rfl, fun n hn => ?_⟩
      cases List.mem_singleton.1 hn
      simp [World.isHonest721, hci, hk]

/-- a message not addressed to the marketplace takes the NFT it names, if its collection is honest,
    out of the marketplace's holdings -/
theorem dispatch1_held (h : dispatch1 w x = some w') (hd : x.dest w.pool ≠ w.self) {n : Nft}
    (hn : w.isHonest721 n.coll = true) : held w' n + pNft n x = held w n := by
  unfold held
  rw [(dispatch1_step h).core.1.self]
  rcases dispatch1_nft h with ⟨e, hx⟩ | ⟨c, t, to, rfl, _, hown, e⟩ <;> rw [e]
  · have : pNft n x = 0 := by
      cases x with
      | nftTransfer c t to =>
        refine if_neg fun e' => ?_
        rw [hx _ (List.mem_singleton.2 e'.symm)] at hn
        cases hn
      | _ => rfl
    rw [this]
    rfl
  · have hp : pNft n (.nftTransfer c t to) = if (⟨c, t⟩ : Nft) = n then 1 else 0 := rfl
    have hto : some to ≠ some w.self := fun e2 => hd (Option.some.inj e2)
    rw [alookup_lset, hp]
    by_cases e' : (⟨c, t⟩ : Nft) = n
    · -- the NFT that is transferred: held before, `to`'s afterwards
      subst e'
      rw [if_pos rfl, if_pos rfl, if_neg hto, if_pos hown]
    · -- any other NFT: its entry is not written
      have e2 : (n.coll, n.tid) ≠ (c, t) := fun e2 => e' (by cases n; cases e2; rfl)
      rw [if_neg e2, if_neg e', Nat.add_zero]

end

section
variable {fail : Nat → Bool} {ms : List OutMsg} {w w' : World} {i : Nat}

theorem dispatchAll_bank (h : dispatchAll fail w ms i = some w') : ∀ a d,
      lget w'.bank (a, d) + (if a = w.self then paidNative ms d else 0) =
        lget w.bank (a, d) + outBy (rNat w.pool a d) ms := by
  refine dispatchAll_rel (R := fun w ms w' => ∀ a d,
    lget w'.bank (a, d) + (if a = w.self then paidNative ms d else 0) =
      lget w.bank (a, d) + outBy (rNat w.pool a d) ms) (fun w a d => by simp) ?_ h
  intro w w1 w' x ms h1 ih a d
  have f1 := (dispatch1_step h1).core.1
  have s1 := dispatch1_bank h1 a d
  have s2 := ih a d
  rw [f1.self, f1.pool, paidNative_eq] at s2
  rw [paidNative_eq, outBy_cons, outBy_cons, ite_add_zero]
  omega

theorem dispatchAll_cw20 (h : dispatchAll fail w ms i = some w') (t hd : Nat) :
    (w.isHonest20 t = true →
      lget w'.cw20 (t, hd) + (if hd = w.self then paidCw20 ms t else 0) =
        lget w.cw20 (t, hd) + outBy (r20 hd t) ms) ∧
    (w.isHonest20 t = false → lget w'.cw20 (t, hd) = lget w.cw20 (t, hd)) := by
  refine dispatchAll_rel (R := fun w ms w' =>
    (w.isHonest20 t = true →
      lget w'.cw20 (t, hd) + (if hd = w.self then paidCw20 ms t else 0) =
        lget w.cw20 (t, hd) + outBy (r20 hd t) ms) ∧
    (w.isHonest20 t = false → lget w'.cw20 (t, hd) = lget w.cw20 (t, hd)))
    (fun w => ⟨fun _ => by simp, fun _ => rfl⟩) ?_ h
  intro w w1 w' x ms h1 ih
  have f1 := (dispatch1_step h1).core.1
  obtain ⟨s1, s1'⟩ := dispatch1_cw20 h1 t hd
  rw [f1.isHonest20, f1.self] at ih
  refine ⟨fun ht => ?_, fun ht => (ih.2 ht).trans (s1' ht)⟩
  have s1 := s1 ht
  have s2 := ih.1 ht
  rw [paidCw20_eq] at s2
  rw [paidCw20_eq, outBy_cons, outBy_cons, ite_add_zero]
  omega

theorem dispatchAll_held (h : dispatchAll fail w ms i = some w') :
      (∀ x ∈ ms, x.dest w.pool ≠ w.self) → ∀ {n : Nft}, w.isHonest721 n.coll = true →
      held w' n + (sentNfts ms).count n = held w n := by
  refine dispatchAll_rel (R := fun w ms w' => (∀ x ∈ ms, x.dest w.pool ≠ w.self) → ∀ {n : Nft},
    w.isHonest721 n.coll = true → held w' n + (sentNfts ms).count n = held w n)
    (fun w _ n _ => rfl) ?_ h
  intro w w1 w' x ms h1 ih hd n hn
  have f1 := (dispatch1_step h1).core.1
  have s1 := dispatch1_held h1 (hd x List.mem_cons_self) hn
  have s2 := ih (fun y hy => by rw [f1.self, f1.pool]; exact hd y (List.mem_cons_of_mem _ hy))
    (n := n) (by rw [f1.isHonest721]; exact hn)
  rw [count_sentNfts] at s2
  rw [count_sentNfts, outBy_cons]
  omega

/-- `dispatchAll` changes the marketplace's holdings by exactly what the messages say
    (no message addressed to the marketplace itself) -/
theorem dispatchAll_acct (h : dispatchAll fail w ms i = some w')
    (hd : ∀ x ∈ ms, x.dest w.pool ≠ w.self) :
    (∀ d, lget w'.bank (w.self, d) + paidNative ms d = lget w.bank (w.self, d)) ∧
    (∀ t, w.isHonest20 t = true → lget w'.cw20 (t, w.self) + paidCw20 ms t = lget w.cw20 (t, w.self)) ∧
    (∀ n : Nft, w.isHonest721 n.coll = true → held w' n + (sentNfts ms).count n = held w n) := by
  refine ⟨fun d => ?_, fun t ht => ?_, fun n hn => dispatchAll_held h hd hn⟩
  · simpa [outBy_rNat_zero hd] using dispatchAll_bank h w.self d
  · simpa [outBy_r20_zero hd] using (dispatchAll_cw20 h t w.self).1 ht

/-- solvency form without any side condition: a message to the marketplace itself only moves
    coins from it to it -/
theorem dispatchAll_solvent (h : dispatchAll fail w ms i = some w') (d : Nat) :
    lget w.bank (w.self, d) ≤ lget w'.bank (w.self, d) + paidNative ms d := by
  have := dispatchAll_bank h w.self d
  simp only [if_true] at this
  omega

/-- the community pool's balance after dispatch, if no bank send is addressed to it -/
theorem dispatchAll_pool (h : dispatchAll fail w ms i = some w') (hp : w.pool ≠ w.self)
    (hb : ∀ x ∈ ms, ∀ to cs, x = .bankSend to cs → to ≠ w.pool) (d : Nat) :
    lget w'.bank (w.pool, d) = lget w.bank (w.pool, d) + poolPaid ms d := by
  have := dispatchAll_bank h w.pool d
  rw [if_neg hp, outBy_congr (g := pPool d) fun x hx => ?_] at this
  · exact this
  · cases x with
    | bankSend to cs => exact if_neg (Ne.symm (hb _ hx to cs rfl))
    | fundPool dep c => exact if_pos rfl
    | _ => rfl

/-- a dispatched message list touches the coins and CW20 units of the marketplace and of the
    destinations of its messages only (any token, honest or not) -/
theorem dispatchAll_other (h : dispatchAll fail w ms i = some w') {y : Nat} (hs : y ≠ w.self)
    (hd : ∀ x ∈ ms, x.dest w.pool ≠ y) :
    (∀ d, lget w'.bank (y, d) = lget w.bank (y, d)) ∧
    (∀ t, lget w'.cw20 (t, y) = lget w.cw20 (t, y)) := by
  refine ⟨fun d => ?_, fun t => ?_⟩
  · have := dispatchAll_bank h y d
    rwa [if_neg hs, outBy_rNat_zero hd, Nat.add_zero, Nat.add_zero] at this
  · cases ht : w.isHonest20 t with
    | false => exact (dispatchAll_cw20 h t y).2 ht
    | true =>
      have := (dispatchAll_cw20 h t y).1 ht
      rwa [if_neg hs, outBy_r20_zero hd, Nat.add_zero, Nat.add_zero] at this

theorem dispatchAll_nft_eq (h : dispatchAll fail w ms i = some w')
    (hn : ∀ x ∈ ms, ∀ c t to, x ≠ .nftTransfer c t to) : w'.nft = w.nft := by
  refine dispatchAll_rel (R := fun w ms w' => (∀ x ∈ ms, ∀ c t to, x ≠ .nftTransfer c t to) →
    w'.nft = w.nft) (fun _ _ => rfl) ?_ h hn
  intro w w1 w' x ms h1 ih hn
  refine (ih fun z hz => hn z (List.mem_cons_of_mem _ hz)).trans ?_
  rcases dispatch1_nft h1 with ⟨e, _⟩ | ⟨c, t, to, e, _⟩
  · exact e
  · exact absurd e (hn x List.mem_cons_self c t to)

end

/-- All NFT transfers of the list go to `to` (not the marketplace).  An NFT of an honest collection
    named by the list was owned by the marketplace and is owned by `to` afterwards; every other
    entry of the ledger is unchanged.
    The induction is written out: the step needs `dispatchAll` of the tail itself (for
    `dispatchAll_noDebit`), which `dispatchAll_rel` does not hand on. -/
theorem dispatchAll_nft_exact {fail : Nat → Bool} {to : Nat} {ms : List OutMsg} :
    ∀ {w w' : World} {i : Nat}, dispatchAll fail w ms i = some w' →
      (∀ c t to', OutMsg.nftTransfer c t to' ∈ ms → to' = to) → to ≠ w.self → ∀ c tid,
      ((w.isHonest721 c = true ∧ (⟨c, tid⟩ : Nft) ∈ sentNfts ms) →
        alookup (c, tid) w'.nft = some to ∧ alookup (c, tid) w.nft = some w.self) ∧
      (¬ (w.isHonest721 c = true ∧ (⟨c, tid⟩ : Nft) ∈ sentNfts ms) →
        alookup (c, tid) w'.nft = alookup (c, tid) w.nft) := by
  induction ms with
  | nil =>
    intro w w' i h _ _ c tid
    cases h
    exact ⟨fun hh => (nomatch hh.2), fun _ => rfl⟩
  | cons x ms ih =>
    intro w w' i h hto hself c tid
    obtain ⟨_, w1, h1, ht⟩ := dispatchAll_cons.1 h
    have f1 := (dispatch1_step h1).core.1
    obtain ⟨ih1, ih2⟩ := ih ht (fun c t to' hm => hto c t to' (List.mem_cons_of_mem _ hm))
      (by rw [f1.self]; exact hself) c tid
    rw [f1.isHonest721] at ih1 ih2
    rw [f1.self] at ih1
    rw [sentNfts_cons, List.mem_append]
    by_cases hx : w.isHonest721 c = true ∧ (⟨c, tid⟩ : Nft) ∈ x.nfts1
    · -- `x` transfers this very entry; `to` owns it from now on and is not debited
      rcases dispatch1_nft h1 with ⟨_, hnh⟩ | ⟨c0, t0, to0, rfl, _, hown, hnft⟩
      · have := hnh _ hx.2
        rw [hx.1] at this
        cases this
      · cases List.mem_singleton.1 hx.2
        obtain rfl : to0 = to := hto _ _ _ List.mem_cons_self
        have hl : alookup (c, tid) w1.nft = some to0 := by rw [hnft, alookup_lset, if_pos rfl]
        have hself1 : to0 ≠ w1.self := by rw [f1.self]; exact hself
        exact ⟨fun _ => ⟨(dispatchAll_noDebit ht hself1).nft _ hl, hown⟩,
          fun hn => absurd ⟨hx.1, .inl hx.2⟩ hn⟩
    · -- `x` leaves this entry alone
      have e : alookup (c, tid) w1.nft = alookup (c, tid) w.nft := by
        rcases dispatch1_nft h1 with ⟨hnft, _⟩ | ⟨c0, t0, to0, rfl, hh0, _, hnft⟩
        · rw [hnft]
        · rw [hnft, alookup_lset, if_neg]
          intro e
          cases e
          exact hx ⟨hh0, List.mem_singleton.2 rfl⟩
      rw [e] at ih1 ih2
      exact ⟨fun ⟨hc, hm⟩ => ih1 ⟨hc, hm.resolve_left fun hm => hx ⟨hc, hm⟩⟩,
        fun hn => ih2 fun ⟨hc, hm⟩ => hn ⟨hc, .inr hm⟩⟩

/-- what the chain checks of a message besides solvency: a bank send carries a non-zero coin; a
    CW20 transfer is a non-zero amount of an honest token; a pool deposit is a non-zero coin
    deposited by the marketplace itself.  NFT transfers are excluded (royalty lists have none);
    `sendable` admits them. -/
def OutMsg.deliverable (w : World) : OutMsg → Prop
  | .bankSend _ cs => ∃ c ∈ cs, c.amount ≠ 0
  | .cw20Transfer t _ amt => w.isHonest20 t = true ∧ amt ≠ 0
  | .nftTransfer _ _ _ => False
  | .fundPool dep c => dep = w.self ∧ c.amount ≠ 0

/-- `deliverable`, or the transfer of an NFT of an honest collection -/
def OutMsg.sendable (w : World) : OutMsg → Prop
  | .nftTransfer c _ _ => w.isHonest721 c = true
  | x => x.deliverable w

theorem OutMsg.deliverable.sendable {w : World} {x : OutMsg} (h : x.deliverable w) : x.sendable w := by
  cases x with
  | nftTransfer c t to => exact h.elim
  | _ => exact h

theorem sentNfts_of_deliverable {w : World} {ms : List OutMsg} (h : ∀ x ∈ ms, x.deliverable w) :
    sentNfts ms = [] :=
  List.filterMap_eq_nil_iff.2 fun x hx => by
    cases x with
    | nftTransfer c t to => exact (h _ hx).elim
    | _ => rfl

theorem OutMsg.sendable_coreEq {w w' : World} (h : CoreEq w w') {x : OutMsg}
    (hx : x.sendable w) : x.sendable w' := by
  cases x with
  | bankSend to cs => exact hx
  | cw20Transfer t to amt => exact ⟨by rw [h.isHonest20]; exact hx.1, hx.2⟩
  | nftTransfer c t to => exact (h.isHonest721 c).trans hx
  | fundPool dep c => exact ⟨by rw [h.self]; exact hx.1, hx.2⟩

theorem dispatch1_ok_of_budget {w : World} {x : OutMsg} (hx : x.sendable w)
    (hb : ∀ d, pNat d x ≤ lget w.bank (w.self, d))
    (hc : ∀ t, w.isHonest20 t = true → fCw20 t x ≤ lget w.cw20 (t, w.self))
    (hn : ∀ n ∈ x.nfts1, alookup (n.coll, n.tid) w.nft = some w.self) :
    ∃ w', dispatch1 w x = some w' := by
  cases x with
  | bankSend to cs =>
    obtain ⟨b, hs⟩ := Option.isSome_iff_exists.1 (bankSend_isSome_iff.2 ⟨hx, hb⟩)
    exact ⟨_, dispatch1_bankSend.2 ⟨b, hs, rfl⟩⟩
  | cw20Transfer t to amt =>
    obtain ⟨hh, hz⟩ := hx
    obtain ⟨ci, hk, hk1⟩ := isHonest20_iff.1 hh
    obtain ⟨l, hs⟩ := Option.isSome_iff_exists.1
      (ledgerMove_isSome_iff.2 (by simpa [fCw20] using hc t hh))
    exact ⟨_, dispatch1_cw20Transfer.2 ⟨ci, hk, .inl ⟨hk1, hz, l, hs, rfl⟩⟩⟩
  | nftTransfer c t to =>
    obtain ⟨ci, hk, hk2⟩ := isHonest721_iff.1 hx
    exact ⟨_, dispatch1_nftTransfer.2 ⟨ci, hk, .inl ⟨hk2, hn ⟨c, t⟩ (List.mem_singleton.2 rfl), rfl⟩⟩⟩
  | fundPool dep c =>
    obtain ⟨rfl, hz⟩ := hx
    have h : (bankSend w.bank w.self w.pool [c]).isSome = true := bankSend_isSome_iff.2
      ⟨⟨c, List.mem_cons_self, hz⟩, fun d => by simpa [pNat, coinAmt_cons, coinAmt_nil] using hb d⟩
    obtain ⟨b, hs⟩ := Option.isSome_iff_exists.1 h
    exact ⟨_, dispatch1_fundPool.2 ⟨rfl, b, hs, rfl⟩⟩

/-- A message list is dispatched in full, in order, if every message is `sendable`, — per native
    denomination and per honest CW20 token — the total the whole list pays out (`paidNative` /
    `paidCw20`) does not exceed what the marketplace holds, and the NFTs it transfers are distinct
    and owned by the marketplace.
    (Sequential sufficiency: each accepted message lowers the marketplace's balance by at most
    what it pays — exactly that, unless it is addressed to the marketplace itself — and gives away
    the one NFT it names.) -/
theorem dispatchAll_ok_of_budget {ms : List OutMsg} : ∀ {w : World} (i : Nat),
    (∀ x ∈ ms, x.sendable w) →
    (∀ d, paidNative ms d ≤ lget w.bank (w.self, d)) →
    (∀ t, w.isHonest20 t = true → paidCw20 ms t ≤ lget w.cw20 (t, w.self)) →
    (sentNfts ms).Nodup → (∀ n ∈ sentNfts ms, alookup (n.coll, n.tid) w.nft = some w.self) →
    ∃ w', dispatchAll noFault w ms i = some w' := by
  induction ms with
  | nil => intro w i _ _ _ _ _; exact ⟨w, rfl⟩
  | cons x ms ih =>
    intro w i hdel hb hc nd hn
    have hb' : ∀ d, pNat d x + paidNative ms d ≤ lget w.bank (w.self, d) := hb
    have hc' : ∀ t, w.isHonest20 t = true → fCw20 t x + paidCw20 ms t ≤ lget w.cw20 (t, w.self) := hc
    rw [sentNfts_cons] at nd hn
    obtain ⟨_, nd2, ndx⟩ := List.nodup_append.1 nd
    obtain ⟨w1, h1⟩ := dispatch1_ok_of_budget (hdel x List.mem_cons_self)
      (fun d => Nat.le_trans (Nat.le_add_right _ _) (hb' d))
      (fun t ht => Nat.le_trans (Nat.le_add_right _ _) (hc' t ht))
      (fun n hx => hn n (List.mem_append_left _ hx))
    have f1 := (dispatch1_step h1).core.1
    obtain ⟨w2, h2⟩ := ih (w := w1) (i + 1)
      (fun y hy => OutMsg.sendable_coreEq f1 (hdel y (List.mem_cons_of_mem _ hy)))
      (fun d => by
        have e := dispatch1_bank h1 w.self d
        rw [if_pos rfl] at e
        have := hb' d
        rw [f1.self]
        omega)
      (fun t ht => by
        rw [f1.isHonest20] at ht
        have e := (dispatch1_cw20 h1 t w.self).1 ht
        rw [if_pos rfl] at e
        have := hc' t ht
        rw [f1.self]
        omega)
      nd2
      (fun n hm => by
        rw [f1.self]
        rcases dispatch1_nft h1 with ⟨e, _⟩ | ⟨c, t, to, rfl, _, _, e⟩ <;> rw [e]
        · exact hn n (List.mem_append_right _ hm)
        · rw [alookup_lset, if_neg fun e' => ndx ⟨c, t⟩ (List.mem_singleton.2 rfl) n hm
            (by cases n; cases e'; rfl)]
          exact hn n (List.mem_append_right _ hm))
    exact ⟨w2, dispatchAll_cons.2 ⟨rfl, w1, h1, h2⟩⟩

/-- a fault predicate matters only through whether it hits a position of the list: then the whole
    dispatch fails; otherwise it is invisible, wherever the two dispatches start counting -/
theorem dispatchAll_faults (fail : Nat → Bool) (msgs : List OutMsg) : ∀ (w : World) (i j : Nat),
    dispatchAll fail w msgs i =
      if ∃ k, k < msgs.length ∧ fail (i + k) = true then none else dispatchAll noFault w msgs j := by
  induction msgs with
  | nil => intro w i j; exact (if_neg fun ⟨k, hk, _⟩ => Nat.not_lt_zero k hk).symm
  | cons m ms ih =>
    intro w i j
    cases hf : fail i with
    | true => rw [if_pos ⟨0, Nat.zero_lt_succ _, hf⟩, dispatchAll, hf]; rfl
    | false =>
      have hiff : (∃ k, k < (m :: ms).length ∧ fail (i + k) = true) ↔
          ∃ k, k < ms.length ∧ fail (i + 1 + k) = true :=
        ⟨fun ⟨k, hk, h⟩ => by
          cases k with
          | zero => rw [Nat.add_zero, hf] at h; cases h
          | succ k => exact ⟨k, Nat.lt_of_succ_lt_succ hk, by rwa [Nat.add_right_comm, Nat.add_assoc]⟩,
         fun ⟨k, hk, h⟩ => ⟨k + 1, Nat.succ_lt_succ hk, by rwa [Nat.add_right_comm, Nat.add_assoc] at h⟩⟩
      simp only [hiff]
      rw [dispatchAll, dispatchAll, hf]
      cases dispatch1 w m with
      | none => exact (ite_self none).symm
      | some w1 => exact ih w1 (i + 1) (j + 1)

theorem dispatchAll_append {fail : Nat → Bool} (pre post : List OutMsg) :
    ∀ (w : World) (i : Nat), dispatchAll fail w (pre ++ post) i =
      match dispatchAll fail w pre i with
      | none => none
      | some w1 => dispatchAll fail w1 post (i + pre.length) := by
  induction pre with
  | nil => intro w i; simp [dispatchAll]
  | cons m ms ih =>
    intro w i
    simp only [List.cons_append, dispatchAll, List.length_cons]
    split
    · rfl
    · cases dispatch1 w m with
      | none => rfl
      | some w1 =>
        dsimp only
        rw [ih w1 (i + 1)]
        have : i + 1 + ms.length = i + (ms.length + 1) := by omega
        rw [this]

theorem hit_or_spared (fail : Nat → Bool) (n : Nat) :
    (∃ k, k < n ∧ fail k = true) ∨ ∀ k, k < n → fail k = false := by
  by_cases h : ∃ k, k < n ∧ fail k = true
  · exact .inl h
  · exact .inr fun k hk => Bool.eq_false_iff.2 fun hf => h ⟨k, hk, hf⟩

theorem stepF_nonmarket_eq (fail : Nat → Bool) (w : World) {op : Op} (ho : op.asExec = none) :
    stepF fail w op = step w op := by
  cases op with
  | exec | send20 | send721 => cases ho
  | _ => rfl

/-- a faulty transaction is determined by the fault-free one and by whether `fail` hits a position
    of the message list that one emits -/
theorem stepF_faults (fail : Nat → Bool) (w : World) (op : Op) :
    stepF fail w op =
      if ∃ k, k < (step w op).2.msgs.length ∧ fail k = true then (w, .fail .dispatch)
      else step w op := by
  cases ho : op.asExec with
  | none =>
    rw [if_neg fun ⟨k, hk, _⟩ => by rw [step, stepF_msgs_of_asExec_none noFault ho] at hk; cases hk]
    exact stepF_nonmarket_eq fail w ho
  | some t =>
    obtain ⟨c, f, msg⟩ := t
    have none_hit : ∀ e, ¬ ∃ k, k < (Outcome.fail e).msgs.length ∧ fail k = true :=
      fun _ ⟨k, hk, _⟩ => Nat.not_lt_zero k hk
    rcases stepF_market_cases (fail := noFault) (w := w) ho with
      ⟨e, hd, h⟩ | ⟨w1, e, hd, hx, h⟩ | ⟨w1, m', msgs, hd, hx, hdd, h⟩ |
      ⟨w1, m', msgs, w2, hd, hx, hdd, h⟩ <;> rw [step, h, stepF_market_eq ho]
    -- refused without faults: there is no message to hit, and the refusal is the same
    · simp only [hd]
      exact (if_neg (none_hit e)).symm
    · simp only [hd, hx]
      exact (if_neg (none_hit e)).symm
    -- the dispatch already fails without faults: both branches of `dispatchAll_faults` are `none`
    · rw [if_neg (none_hit _)]
      simp only [hd, hx, dispatchAll_faults fail msgs _ 0 0, hdd, ite_self]
    -- accepted without faults: the dispatch under `fail` is `none` or the fault-free one
    · simp only [hd, hx, dispatchAll_faults fail msgs _ 0 0, hdd, Nat.zero_add]
      by_cases hit : ∃ k, k < msgs.length ∧ fail k = true
      · rw [if_pos hit, if_pos hit]
      · rw [if_neg hit, if_neg hit]

theorem stepF_fault_hit {fail : Nat → Bool} {w : World} {op : Op} {k : Nat}
    (hk : k < (step w op).2.msgs.length) (hf : fail k = true) :
    stepF fail w op = (w, .fail .dispatch) :=
  (stepF_faults fail w op).trans (if_pos ⟨k, hk, hf⟩)

theorem stepF_fault_miss {fail : Nat → Bool} {w : World} {op : Op}
    (h : ∀ k, k < (step w op).2.msgs.length → fail k = false) : stepF fail w op = step w op :=
  (stepF_faults fail w op).trans (if_neg fun ⟨k, hk, hf⟩ => by rw [h k hk] at hf; cases hf)

theorem stepF_ok_spared {fail : Nat → Bool} {w : World} {op : Op}
    (h : (stepF fail w op).2.ok = true) {k : Nat} (hk : k < (step w op).2.msgs.length) :
    fail k = false :=
  Bool.eq_false_iff.2 fun hf => by rw [stepF_fault_hit hk hf] at h; cases h

/-- an accepted faulty transaction was spared by the fault, so it IS the fault-free one -/
theorem stepF_ok_eq_step {fail : Nat → Bool} {w : World} {op : Op}
    (h : (stepF fail w op).2.ok = true) : stepF fail w op = step w op :=
  stepF_fault_miss fun _ => stepF_ok_spared h

theorem stepF_refused_of_step {fail : Nat → Bool} {w : World} {op : Op}
    (h : (step w op).2.ok = false) : (stepF fail w op).2.ok = false :=
  Bool.eq_false_iff.2 fun h' => by rw [stepF_ok_eq_step h', h] at h'; cases h'

/-- the account an operation is signed by: `Op.payer` where there is one; `advance` has no signer
    and `0` stands in -/
def Op.sender : Op → Nat
  | .exec s _ _ => s
  | .send20 _ s _ _ => s
  | .send721 _ s _ _ => s
  | .royalty s _ => s
  | .setAdmin s _ _ => s
  | .advance _ _ => 0

section
variable {w w1 : World} {op : Op} {c : Nat} {f : List Coin} {msg : ExecMsg}

/-- the bank after the deposit: the signer pays the attached coins to the marketplace -/
theorem deposit_bank (h : op.deposit w = .ok w1) (ho : op.asExec = some (c, f, msg)) (a d : Nat) :
    lget w1.bank (a, d) + (if a = op.sender then coinAmt f d else 0) =
      lget w.bank (a, d) + (if a = w.self then coinAmt f d else 0) := by
  cases op with
  | exec s fu m =>
    cases ho
    rcases deposit_exec.1 h with ⟨rfl, rfl⟩ | ⟨b, hb, rfl⟩
    · simp [coinAmt_nil]
    · exact bankSend_lget hb a d
  | send20 t s a' i =>
    cases ho
    obtain ⟨_, _, l, _, rfl⟩ := deposit_send20.1 h
    simp [coinAmt_nil]
  | send721 co s t i =>
    cases ho
    obtain ⟨_, _, rfl⟩ := deposit_send721.1 h
    simp [coinAmt_nil]
  | _ => cases ho

variable {x : Nat}

theorem deposit_exec_iff {funds : List Coin} {msg : ExecMsg} :
    (∃ w1, (Op.exec x funds msg).deposit w = .ok w1) ↔
      funds = [] ∨ (bankSend w.bank x w.self funds).isSome = true := by
  simp only [deposit_exec, Option.isSome_iff_exists]
  exact ⟨fun ⟨_, h⟩ => h.imp And.left fun ⟨b, hb, _⟩ => ⟨b, hb⟩,
    fun h => h.elim (fun e => ⟨w, .inl ⟨e, rfl⟩⟩) fun ⟨b, hb⟩ => ⟨_, .inr ⟨b, hb, rfl⟩⟩⟩

theorem deposit_send20_iff {t amount : Nat} {inner : Option Inner} :
    (∃ w1, (Op.send20 t x amount inner).deposit w = .ok w1) ↔
      w.isHonest20 t = true ∧ amount ≠ 0 ∧ amount ≤ lget w.cw20 (t, x) := by
  rw [← ledgerMove_isSome_iff (dst := w.self), Option.isSome_iff_exists]
  simp only [deposit_send20]
  exact ⟨fun ⟨_, a, b, l, hl, _⟩ => ⟨a, b, l, hl⟩, fun ⟨a, b, l, hl⟩ => ⟨_, a, b, l, hl, rfl⟩⟩

theorem deposit_send721_iff {c tid : Nat} {inner : Option Inner} :
    (∃ w1, (Op.send721 c x tid inner).deposit w = .ok w1) ↔
      w.isHonest721 c = true ∧ alookup (c, tid) w.nft = some x := by
  simp only [deposit_send721]
  exact ⟨fun ⟨_, a, b, _⟩ => ⟨a, b⟩, fun ⟨a, b⟩ => ⟨_, a, b, rfl⟩⟩

end

end Fuzion
