/-
  Fuzion.Lemmas.ArithReachLemmas — helper lemmas for the transaction-level forms of C17 ("fee and
  royalty arithmetic is exact and total") and C11 ("royalties never take more than half"): what
  the three "arithmetic" refusals of `buy` mean, the decomposition of an accepted `buy` into the
  fee step (`calcFeeCoin`) and the royalty step (`royalties`) of each side, and the error of a
  purchase transaction.
-/
import Fuzion.Lemmas.TradeLemmas
namespace Fuzion

/-! ### the three "arithmetic" refusals of `buy`

Each proof starts from `buy_error_cases`: either the error is that of a failed test, one of a list
of eight that contains none of the three (`decide`), or both records and a registry address `ra`
exist and the royalty pass `sideRoyalties env ra cols bal` of one side (`cols` = its collections)
answered `panic`, reported as `panic`, or `err`, reported as `royaltyOverHalf`. -/

theorem buy_ne_overflow (m : Market) (env : Env) (buyer lid bid : Nat) :
    buy m env buyer lid bid ≠ .error .overflow := by
  intro h
  -- right case: `k l b ra cols bal`, lookups of `l`, `b`, `ra`, whose side `cols` is, `panic` | `err`
  obtain h | ⟨_, _, _, _, _, _, _, _, _, _, ⟨h, _⟩ | ⟨h, _⟩⟩ := buy_error_cases h
  · exact absurd h (by decide)
  · cases h
  · cases h

/-- `panic` (abort of the `u64` rate sum) only when the registered rates of the collections of
    one side sum to more than `u64::MAX` -/
theorem buy_panic_inv {m : Market} {env : Env} {buyer lid bid : Nat}
    (h : buy m env buyer lid bid = .error .panic) :
    ∃ k l b, findById lid m.listings = some (k, l) ∧ alookup (buyer, bid) m.buckets = some b ∧
      (bpsOf env (collections l.forSale) > U64MAX ∨ bpsOf env (collections b.funds) > U64MAX) := by
  obtain h | ⟨k, l, b, _, _, _, hl, hb, _, hc, ⟨_, hp⟩ | ⟨h, _⟩⟩ := buy_error_cases h
  · exact absurd h (by decide)
  · refine ⟨k, l, b, hl, hb, ?_⟩
    rcases hc with rfl | rfl
    · exact .inl (sideRoyalties_panic hp)
    · exact .inr (sideRoyalties_panic hp)
  · cases h

/-- `royaltyOverHalf` only when the stored registry address is not the registry's, or the
    registered rates of one side sum to more than 5000 bps -/
theorem buy_overHalf_inv {m : Market} {env : Env} {buyer lid bid : Nat}
    (h : buy m env buyer lid bid = .error .royaltyOverHalf) :
    ∃ k l b ra, findById lid m.listings = some (k, l) ∧ alookup (buyer, bid) m.buckets = some b ∧
      m.registry = some ra ∧
      (ra ≠ env.regAddr ∨ bpsOf env (collections l.forSale) > 5000 ∨
        bpsOf env (collections b.funds) > 5000) := by
  obtain h | ⟨k, l, b, ra, _, _, hl, hb, hra, hc, ⟨h, _⟩ | ⟨_, he⟩⟩ := buy_error_cases h
  · exact absurd h (by decide)
  · cases h
  · refine ⟨k, l, b, ra, hl, hb, hra, (sideRoyalties_err he).imp_right fun this => ?_⟩
    rcases hc with rfl | rfl
    · exact .inl this
    · exact .inr this

/-! ### an accepted `buy` = fee step, then royalty step, per side -/

/-- An accepted purchase (`m` to `m'`, messages `out`) decomposed into the model's own arithmetic
    functions: `l`, `b` are the traded records of `m`, `l'`, `b'` the re-filed ones of `m'`.  The fee
    recorded on each re-filed record and the balance `lbal` / `bbal` left after it are the result of
    `calcFeeCoin` on the old goods / funds; the goods / funds stored are the result of `royalties`
    on `lbal` / `bbal` with the registry's answers for the collections of the opposite side; the
    messages are the pending fee of the paying bucket followed by the messages of the two royalty
    calls. -/
structure BuySplit (m : Market) (env : Env) (buyer lid bid : Nat) (m' : Market) (out : List OutMsg)
    (l : Listing) (b : Bucket) (l' : Listing) (b' : Bucket) (lbal bbal : GBal)
    (msgsB msgsL : List OutMsg) (sB sL : Nat) : Prop where
  listing : alookup (l.creator, lid) m.listings = some l
  bucket : alookup (buyer, bid) m.buckets = some b
  refiledL : alookup (buyer, lid) m'.listings = some l'
  refiledB : alookup (l.creator, bid) m'.buckets = some b'
  feeL : calcFeeCoin (feeDenomOf env m.feeKind) l.forSale = some (l'.fee, lbal)
  feeB : calcFeeCoin (feeDenomOf env m.feeKind) b.funds = some (b'.fee, bbal)
  royB : royalties bbal ((collections l.forSale).map env.regLookup) = .ok b'.funds msgsB sB
  royL : royalties lbal ((collections b.funds).map env.regLookup) = .ok l'.forSale msgsL sL
  msgs : out = pendingFeeMsgs env.self b.fee ++ msgsB ++ msgsL

theorem buy_split {m : Market} {env : Env} {buyer lid bid : Nat} {r : Market × List OutMsg}
    (hI : IdsInv m) (h : buy m env buyer lid bid = .ok r) :
    ∃ l b l' b' lbal bbal msgsB msgsL sB sL,
      BuySplit m env buyer lid bid r.1 r.2 l b l' b' lbal bbal msgsB msgsL sB sL := by
  obtain ⟨m', out⟩ := r
  cases buy_effect (a := .funds (.native [])) h with
  | buy hb hl _ _ _ _ _ _ hlfee hbfee _ hr1 hr2 =>
  obtain ⟨rfl, -, hal⟩ := hI.findById_key hl
  exact ⟨_, _, _, _, _, _, _, _, _, _, hal, hb, alookup_ainsert_self _ _ _,
    alookup_ainsert_self _ _ _, hlfee, hbfee, sideRoyalties_ok_royalties hr1,
    sideRoyalties_ok_royalties hr2, rfl⟩

/-! ### the purchase transaction -/

theorem step_buy_err {w : World} {buyer lid bid : Nat} {e : Err}
    (h : (step w (.exec buyer [] (.buy lid bid))).2.err = some e) (hd : e ≠ .dispatch) :
    buy w.mkt w.env buyer lid bid = .error e := by
  rcases stepF_market_err (op := .exec buyer [] (.buy lid bid)) rfl h with h | h | h
  · cases h
  · exact h
  · exact absurd h hd

/-- `buy_split` for an accepted purchase TRANSACTION; the goods and the funds of the traded records
    are well-formed balances -/
theorem step_buy_split {w : World} {j u : Nat} (hI : IdsInv w.mkt) (hW : WFInv j u w.mkt)
    {buyer lid bid : Nat} (hok : (step w (.exec buyer [] (.buy lid bid))).2.ok = true) :
    ∃ l b l' b' lbal bbal msgsB msgsL sB sL,
      BuySplit w.mkt w.env buyer lid bid (step w (.exec buyer [] (.buy lid bid))).1.mkt
        (step w (.exec buyer [] (.buy lid bid))).2.msgs l b l' b' lbal bbal msgsB msgsL sB sL ∧
      wfBal l.forSale = true ∧ wfBal b.funds = true := by
  obtain ⟨l, b, l', b', lbal, bbal, msgsB, msgsL, sB, sL, s⟩ := buy_split hI (step_buy_ok hok).1
  exact ⟨l, b, l', b', lbal, bbal, msgsB, msgsL, sB, sL, s,
    (wfListing_iff.1 (hW.listing s.listing)).2.1, (wfBucket_iff.1 (hW.bucket s.bucket)).2.1⟩

end Fuzion
