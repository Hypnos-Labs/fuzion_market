/-
  Fuzion.Lemmas.OracleLemmas — from the model's vocabulary to the Boolean tests of the driver's
  transition oracles (Driver/Oracles.lean, Driver/Compare.lean), for Props/OracleSound.lean.  An
  oracle is a `List.all` over the pre-state's entries, a lookup by id, or a comparison of sorted
  message codes; each lemma here says which fact about an accepted message (`NoDebit`, `LFate`,
  `actor`, the fee pending on the record that leaves, one side of `C06_buy_effect`) makes one of
  these tests answer `true`.
-/
import Fuzion.Driver.Oracles
import Fuzion.Lemmas.TradeLemmas
import Fuzion.Props.C04
namespace Fuzion

theorem walletsKept_of_noDebit {w w' : World} {who : Nat → Bool} (hl : LedgersNodup w)
    (h : ∀ y, who y = true → NoDebit y w w') : Cmp.walletsKept w w' who = true := by
  unfold Cmp.walletsKept
  simp only [Bool.and_eq_true, List.all_eq_true, Bool.or_eq_true, Bool.not_eq_true',
    decide_eq_true_eq, beq_iff_eq]
  refine ⟨⟨fun p hp => ?_, fun p hp => ?_⟩, fun p hp => ?_⟩
  · cases hw : who p.1.1 with
    | false => exact .inl rfl
    | true => right; rw [← lget_of_mem hl.bank hp]; exact (h _ hw).bank p.1.2
  · cases hw : who p.1.2 with
    | false => exact .inl rfl
    | true => right; rw [← lget_of_mem hl.cw20 hp]; exact (h _ hw).cw20 p.1.1
  · cases hw : who p.2 with
    | false => exact .inl rfl
    | true => exact .inr ((h _ hw).nft p.1 (mem_nodup_alookup hl.nft hp))

/-- the monitor accepts every post-state in which each stored listing met one of the five fates
    an accepted message can bring (`LFate`; `kept` for all of them when nothing happened) -/
theorem monotone08_of_fate {a b : World} {s : Nat} {msg : ExecMsg} (hI : IdsInv a.mkt)
    (hW : WFInv a.junoD a.usdcD a.mkt) (hu : ∀ i ∈ a.mkt.listingUsed, i ∈ b.mkt.listingUsed)
    (hf : ∀ k l, findById l.id a.mkt.listings = some (k, l) →
      LFate a.mkt a.env s msg b.mkt l.id k l) : Cmp.monotone08 a b = true := by
  unfold Cmp.monotone08
  rw [List.all_eq_true]
  rintro ⟨k, l⟩ hp
  have hused : l.id ∈ b.mkt.listingUsed := hu _ (hI.lused _ hp)
  have hnow : a.env.nowNs = a.nowNs := rfl
  dsimp only
  cases hf k l (hI.findById_iff.2 ⟨hp, rfl⟩) with
  | kept h =>
    -- a listing compared with itself passes, whatever its status
    rw [h]
    dsimp only
    cases hs : l.status <;> simp [Cmp.statusRank]
  | edited l' hst hcl hact h hid hcr hwl hst' hcl' =>
    -- it was in preparation, and either still is, or was finalized now (`e1`) with the same goods
    -- (`e2`), ask (`e3`) and whitelist (`hwl`)
    rw [h]
    dsimp only
    rw [hst]
    rcases hst' with h1 | ⟨h1, e1, e2, e3⟩
    · rw [h1]; simp [Cmp.statusRank]
    · rw [hnow] at e1
      rw [h1]; simp [Cmp.statusRank, e1, e2, e3, hwl]
  | deleted hmsg hown hcl hexp h =>
    -- gone, its id still logged (`hused`); a finalized listing only after its expiration (`hexp`),
    -- which it has (`hW`)
    rw [h]
    dsimp only
    cases hs : l.status with
    | preparing => simp [hused]
    | closed => simp [hused]
    | finalized =>
      obtain ⟨_, e, _, he, _⟩ := wfTimes_spec (wfListing_finalized (hW.lwf (k, l) hp) hs).1
      dsimp only at he
      have := hexp e he
      rw [hnow] at this
      simp [he, this, hused]
  | bought bid l' hmsg hst hcl hexp h hid hask hwl hex hfin hst' hcr' hcl' =>
    -- finalized → closed with ask, whitelist, expiration and finalization time kept; goods and
    -- creator are compared only while the status stays
    rw [h]
    dsimp only
    rw [hst, hst']
    simp [Cmp.statusRank, hask, hwl, hex, hfin]
  | withdrawn hmsg hcl hst hown h =>
    -- a sold listing is gone, its id still logged
    rw [h]
    dsimp only
    rw [hst]
    simp [hused]

/-- On an accepted marketplace call that is not a hook forged by a contract, the wallet the
    oracle `o04r` holds responsible (`Orc.actorOf`) is the wallet the model acts for (`actor`):
    a hook called directly by a non-contract is refused, so the two can only differ on ops the
    oracle leaves to C18. -/
theorem actorOf_eq_actor {w : World} {op : Op} {c : Nat} {f : List Coin} {msg : ExecMsg}
    {r : Market × List OutMsg} (ho : op.asExec = some (c, f, msg))
    (hx : execute w.mkt w.env c f msg = .ok r)
    (hnf : ∀ caller tag, Orc.isForgedHook w op = some (caller, tag) → (w.kindOf caller).isSome = false) :
    Orc.actorOf w op = some (actor msg c) := by
  cases op with
  | exec s fu m =>
    cases ho
    cases msg with
    | receive a amt i =>
      cases a with
      | invalid => rfl
      | valid u =>
        -- the hook checks that its caller answers `TokenInfo`, so the caller is a contract
        obtain ⟨ci, hk, _⟩ := env_isToken20_iff.1 (execute_effect hx).1.2
        have h1 := hnf c _ rfl
        rw [hk] at h1; cases h1
    | receiveNft a t i =>
      cases a with
      | invalid => rfl
      | valid u =>
        have h2 : (w.kindOf c).isSome = true := (execute_effect hx).1.2
        rw [hnf c _ rfl] at h2; cases h2
    | _ => rfl
  | send20 t s a i => cases ho; rfl
  | send721 co s t i => cases ho; rfl
  | _ => cases ho

theorem actorOf_exec (w : World) (s : Nat) (f : List Coin) (m : ExecMsg) :
    ∃ a, Orc.actorOf w (.exec s f m) = some a := by
  cases m with
  | receive u _ _ =>
    cases u with
    | valid u => exact ⟨if w.isHonest20 s = true then u else s, (apply_ite some ..).symm⟩
    | invalid => exact ⟨s, rfl⟩
  | receiveNft u _ _ =>
    cases u with
    | valid u => exact ⟨if w.isHonest721 s = true then u else s, (apply_ite some ..).symm⟩
    | invalid => exact ⟨s, rfl⟩
  | _ => exact ⟨s, rfl⟩

theorem actorOf_none_iff {w : World} {op : Op} : Orc.actorOf w op = none ↔ op.asExec = none := by
  cases op with
  | exec s fu m =>
    obtain ⟨a, h⟩ := actorOf_exec w s fu m
    rw [h]
    exact ⟨nofun, nofun⟩
  | send20 | send721 => exact ⟨nofun, nofun⟩
  | _ => exact ⟨fun _ => rfl, fun _ => rfl⟩

theorem o04r_listing_entry {m m' : Market} {env : Env} {s : Nat} {f : List Coin} {msg : ExecMsg}
    {out : List OutMsg} {j u : Nat} (hI : IdsInv m) (hW : WFInv j u m)
    (hx : execute m env s f msg = .ok (m', out)) {p : (Nat × Nat) × Listing} (hp : p ∈ m.listings)
    (hne : p.1.1 ≠ actor msg s) :
    alookup p.1 m'.listings = some p.2 ∨
    ((∃ bid, msg = .buy p.2.id bid) ∧ p.2.status = .finalized ∧
      ∃ e, p.2.expiresAt = some e ∧ env.nowNs ≤ e) := by
  obtain ⟨k, l⟩ := p
  have hk : l.creator = k.1 := (congrArg Prod.fst (hI.lfiled _ hp)).symm
  -- of the five fates of a stored listing, three are the owner's doing
  cases execute_fate hI (hI.findById_iff.2 ⟨hp, rfl⟩) hx with
  | kept h => exact .inl (((execute_shape hx).ids hI).findById_key h).2.2
  | edited l' _ _ hact => exact absurd (hk.symm.trans hact.symm) hne
  | deleted hmsg hown =>
    subst hmsg
    exact absurd (hk.symm.trans hown.symm) hne
  | withdrawn hmsg _ _ hown =>
    subst hmsg
    exact absurd (hk.symm.trans hown.symm) hne
  | bought bid l' hmsg hst _ hexp =>
    obtain ⟨_, e, _, he, _⟩ := wfTimes_spec (wfListing_finalized (hW.lwf (k, l) hp) hst).1
    exact .inr ⟨⟨bid, hmsg⟩, hst, e, he, hexp e he⟩

theorem o04r_bucket_entry {m m' : Market} {env : Env} {s : Nat} {f : List Coin} {msg : ExecMsg}
    {out : List OutMsg} (hI : IdsInv m)
    (hx : execute m env s f msg = .ok (m', out)) {p : (Nat × Nat) × Bucket} (hp : p ∈ m.buckets)
    (hne : p.1.1 ≠ actor msg s) : alookup p.1 m'.buckets = some p.2 := by
  obtain ⟨k, b⟩ := p
  have hlook : alookup k m.buckets = some b := mem_nodup_alookup hI.bkeys hp
  -- buckets have no counterpart of `LFate`; what an accepted message does to the buckets of others
  -- is the property theorem of C04: nothing, or a purchase files proceeds under a key free before
  rcases C04_frame_buckets hI hx k hne with h | ⟨lid, bid, kl, l, b', _, _, _, hnone, _⟩
  · rw [h]; exact hlook
  · rw [hlook] at hnone; cases hnone

/-- the first bucket with id `bid` (what the oracle looks up) is the record filed under
    `(s, bid)` (what the handler looks up): at most one live bucket per id -/
theorem IdsInv.find_bucket {m : Market} (hI : IdsInv m) {s bid : Nat} {b : Bucket}
    (h : alookup (s, bid) m.buckets = some b) :
    m.buckets.find? (fun (p : (Nat × Nat) × Bucket) => decide (p.1.2 = bid)) = some ((s, bid), b) := by
  have hm := alookup_some_mem h
  exact find?_eq_some_of_unique hm (decide_eq_true rfl) fun q hq hqid =>
    eq_of_nodup_map hI.bkeys hq hm (hI.bidInj q hq _ hm (of_decide_eq_true hqid))

theorem find_bucket_none {m : Market} {s bid : Nat}
    (h : m.buckets.find? (fun (p : (Nat × Nat) × Bucket) => decide (p.1.2 = bid)) = none) :
    alookup (s, bid) m.buckets = none :=
  Option.eq_none_iff_forall_ne_some.2 fun _ ha =>
    absurd (decide_eq_true rfl) (List.find?_eq_none.1 h _ (alookup_some_mem ha))

theorem oracle10m_eq (cur : World) (op : Op) (codes : List (List Nat)) :
    Orc.oracle10m cur op codes =
      (match Orc.expectPool13 cur op with
       | some e => Cmp.poolCodes codes == Codec.sortCodes e
       | none => true) := rfl

theorem expectPool13_accepted {w : World} {op : Op} {c : Nat} {f : List Coin} {msg : ExecMsg}
    {m' : Market} {out : List OutMsg} (hI : IdsInv w.mkt) (ho : op.asExec = some (c, f, msg))
    (hx : execute w.mkt w.env c f msg = .ok (m', out)) :
    Orc.expectPool13 w op =
      some ((leavingFee w.mkt c msg).toList.map fun fee => [4, w.self, fee.key, fee.amount]) := by
  cases op with
  | exec s fu m =>
    cases ho
    -- a hook carries a deposit, and no deposit makes a record leave
    rcases execute_effect_cases hx with ⟨_, _, _, rfl, _⟩ | ⟨_, _, _, rfl, _⟩ | e
    · rfl
    · rfl
    · cases e with
      | @withdrawPurchased lid k l hl =>
        simp only [Orc.expectPool13, leavingFee, hl, Option.bind_some]
        cases l.fee <;> rfl
      | @removeBucket id b hb =>
        simp only [Orc.expectPool13, leavingFee, hI.find_bucket hb, hb, Option.bind_some]
        cases b.fee <;> rfl
      | @buy lid bid k l b lfee bfee lbal bbal fb fl ra s1 s2 msgs1 msgs2 hb =>
        simp only [Orc.expectPool13, leavingFee, hI.find_bucket hb, hb, Option.bind_some]
        cases b.fee <;> rfl
      | _ => rfl
  | send20 t s a i => cases ho; rfl
  | send721 co s t i => cases ho; rfl
  | _ => cases ho

/-- how the harness reports a message of the model (PROTOCOL.md, OUTMSG): a community-pool deposit,
    a Stargate message whose bytes `decode_fund_community_pool` (harness/src/proto.rs, called from
    shim.rs) reads back, becomes a `P` entry (`ImplMsg.pool`) with its list of coins; everything
    else is carried as it is -/
def toImpl : OutMsg → Codec.ImplMsg
  | .fundPool d c => .pool true d [c]
  | .bankSend to cs => .msg (.bankSend to cs)
  | .cw20Transfer t to a => .msg (.cw20Transfer t to a)
  | .nftTransfer c t to => .msg (.nftTransfer c t to)

theorem implMsgCode_toImpl (m : OutMsg) :
    Codec.implMsgCode (toImpl m) = Codec.implMsgCode (.msg m) := by
  cases m <;> simp [toImpl, Codec.implMsgCode, Codec.outMsgCode]

/-- the code of a pool message starts with 4; no other model message has a code starting with
    4 or 9 -/
theorem poolCodes_map_outMsgCode (out : List OutMsg) :
    Cmp.poolCodes (out.map Codec.outMsgCode) =
      (out.filterMap OutMsg.poolOf).map (fun p => [4, p.1, p.2.key, p.2.amount]) := by
  induction out with
  | nil => rfl
  | cons x t ih =>
    cases x with
    | fundPool d c => exact congrArg (_ :: ·) ih
    | _ => exact ih

/-- with at most one pool message, sorting the codes first does not matter -/
theorem poolCodes_sortCodes_of_le_one {l e : List (List Nat)} (h : Cmp.poolCodes l = e)
    (hlen : e.length ≤ 1) : (Cmp.poolCodes (Codec.sortCodes l) == Codec.sortCodes e) = true := by
  have hp : (Cmp.poolCodes (Codec.sortCodes l)).Perm e :=
    h ▸ (List.mergeSort_perm l Codec.lexLe).filter _
  match e, hlen with
  | [], _ =>
    rw [hp.eq_nil, Codec.sortCodes, List.mergeSort_nil]
    rfl
  | [x], _ =>
    rw [List.perm_singleton.1 hp, Codec.sortCodes, List.mergeSort_singleton, beq_self_eq_true]

/-- the shape of `Cmp.sideFails`: one `if part then [] else [name]` per part, appended -/
theorem sideFails_parts_nil {α : Type} {a b c d : Bool} {x y z t : List α} (ha : a = true)
    (hb : b = true) (hc : c = true) (hd : d = true) :
    ((if a = true then [] else x) ++ (if b = true then [] else y) ++
      (if c = true then [] else z) ++ (if d = true then [] else t)) = [] := by
  subst ha hb hc hd; rfl

/-- One side of a purchase as the model computes it (`C06_buy_effect`: fee `feeOf`, per-key
    remainder `afterFeeAmt − royaltyOn`, CW20 remainder `amount − royaltyOn`, NFTs untouched, and
    royalties of at most one half) passes every part of `sideFails`. -/
theorem sideFails_nil {fd : Nat} {pre post : GBal} {fee : Option Coin} {es : List RoyaltyInfo}
    (wf : wfBal pre = true) (hfee : fee = feeOf fd pre)
    (hn : ∀ k, coinAmt post.native k = afterFeeAmt fd pre k - royaltyOn es (afterFeeAmt fd pre k))
    (hc : ∀ k, coinAmt post.cw20 k = coinAmt pre.cw20 k - royaltyOn es (coinAmt pre.cw20 k))
    (hnft : post.nfts = pre.nfts) (hhalf : ∀ a, 2 * royaltyOn es a ≤ a) :
    Cmp.sideFails fd pre post fee = [] := by
  obtain ⟨nz1, nz2, _, nd1, nd2, _⟩ := (wfBal_iff pre).1 wf
  subst hfee
  -- per key: what is left after the fee is the amount less the fee, and at most half of that goes
  -- to royalties
  have hpost : ∀ k, (1 ≤ coinAmt pre.native k - feeAmt (feeOf fd pre) k → 1 ≤ coinAmt post.native k) ∧
      coinAmt post.native k ≤ coinAmt pre.native k - feeAmt (feeOf fd pre) k ∧
      2 * (coinAmt pre.native k - feeAmt (feeOf fd pre) k - coinAmt post.native k) ≤
        coinAmt pre.native k - feeAmt (feeOf fd pre) k := by
    intro k
    rw [hn, ← Nat.eq_sub_of_add_eq (afterFeeAmt_add_fee fd pre k)]
    exact half_kept (hhalf _)
  have hF : ∀ c ∈ pre.native,
      feeAmt (feeOf fd pre) c.key = (if c.key = fd then c.amount * 5 / 1000 else 0) ∧
      feeAmt (feeOf fd pre) c.key < c.amount := by
    intro c hcm
    have hF : feeAmt (feeOf fd pre) c.key = if c.key = fd then c.amount * 5 / 1000 else 0 := by
      rw [feeAmt_feeOf]
      split
      · next hk => rw [← hk, coinAmt_of_mem nd1 hcm]
      · rfl
    refine ⟨hF, ?_⟩
    rw [hF]
    split
    · exact fee_lt (nz1 c hcm)
    · exact Nat.pos_of_ne_zero (nz1 c hcm)
  unfold Cmp.sideFails
  dsimp only
  apply sideFails_parts_nil
  · rw [Bool.and_eq_true, List.all_eq_true]
    refine ⟨fun c h => decide_eq_true (hF c h).1, ?_⟩
    rcases feeOf_cases fd pre with ⟨hf, hz⟩ | ⟨hf, hz⟩
    · rw [hf]
    · rw [hf]
      simp only [decide_true, Bool.true_and, Bool.and_eq_true, decide_eq_true_eq]
      exact ⟨hz, fun h0 => hz (by rw [h0])⟩
  · rw [Bool.and_eq_true, List.all_eq_true]
    refine ⟨fun c h => decide_eq_true ?_, ?_⟩
    · have := (hpost c.key).2.1
      rw [coinAmt_of_mem nd1 h] at this
      exact Nat.add_le_of_le_sub (Nat.le_of_lt (hF c h).2) this
    · rcases feeOf_cases fd pre with ⟨hf, hz⟩ | ⟨hf, hz⟩
      · rw [hf]
      · have := (hpost fd).2.1
        rw [feeAmt_feeOf, if_pos rfl] at this
        rw [hf]
        exact decide_eq_true (Nat.add_le_of_le_sub (fee_le _) this)
  · simp only [Bool.and_eq_true, List.all_eq_true, decide_eq_true_eq, hnft, beq_self_eq_true,
      and_true]
    refine ⟨fun c h => ?_, fun c h => ?_⟩
    · have := hpost c.key
      rw [coinAmt_of_mem nd1 h] at this
      exact ⟨this.1 (Nat.sub_pos_of_lt (hF c h).2), this.2.2⟩
    · rw [hc, coinAmt_of_mem nd2 h]
      have := half_kept (hhalf c.amount)
      exact ⟨⟨this.1 (Nat.pos_of_ne_zero (nz2 c h)), this.2.1⟩, this.2.2⟩
  · rcases feeOf_cases fd pre with ⟨hf, hz⟩ | ⟨hf, hz⟩
    · rw [hf]
      exact decide_eq_true hz
    · rw [hf]
      exact decide_eq_true rfl
end Fuzion
