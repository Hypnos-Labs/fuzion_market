/-
  Fuzion.Lemmas.Handlers — each handler of `Model/Market.lean` inverted once: `h … = .ok (m', out)`
  holds exactly when every test of the handler passes, `m'` is the stated update and `out` the
  stated message list.  Everything else that is proved about accepted messages starts from these.
-/
import Fuzion.Model.Market
namespace Fuzion

theorem ite_error_ok {ε α : Type} {c : Prop} [Decidable c] {e : ε} {t : Except ε α} {x : α} :
    (if c then Except.error e else t) = .ok x ↔ ¬ c ∧ t = .ok x := by
  split <;> simp [*]

theorem ite_ok_error {ε α : Type} {c : Prop} [Decidable c] {e : ε} {t : Except ε α} {x : α} :
    (if c then t else Except.error e) = .ok x ↔ c ∧ t = .ok x := by
  split <;> simp [*]

theorem ite_error_error {ε α : Type} {c : Prop} [Decidable c] {e e' : ε} {t : Except ε α}
    (h : (if c then Except.error e' else t) = .error e) : e = e' ∨ t = .error e := by
  split at h
  · cases h; exact .inl rfl
  · exact .inr h

theorem error_of_not_ok {ε α : Type} {x : Except ε α} (h : ∀ a, x ≠ .ok a) : ∃ e, x = .error e := by
  cases x with
  | error e => exact ⟨e, rfl⟩
  | ok a => exact absurd rfl (h a)

theorem rawValid_some {a : RawAddr} {u : Nat} (h : rawValid a = some u) : a = .valid u := by
  cases a with
  | valid x => exact congrArg RawAddr.valid (Option.some.inj h)
  | invalid => cases h

section
variable {m m' : Market} {env : Env} {out : List OutMsg}

theorem createBucket_ok_iff {funds : Funds} {u id : Nat} :
    createBucket m funds u id = .ok (m', out) ↔
    id < MAX_SAFE_INT ∧ id ∉ m.bucketUsed ∧ alookup (u, id) m.buckets = none ∧
      normalizedCheck funds = true ∧
      m' = { m with buckets := ainsert (u, id) ⟨u, fromBalance funds, none⟩ m.buckets,
                    bucketUsed := id :: m.bucketUsed } ∧ out = [] := by
  simp [createBucket, ite_error_ok, eq_comm (a := m')]

theorem createBucketNft_ok_iff {u : Nat} {nft : Nft} {id : Nat} :
    createBucketNft m u nft id = .ok (m', out) ↔
    id < MAX_SAFE_INT ∧ id ∉ m.bucketUsed ∧ alookup (u, id) m.buckets = none ∧
      m' = { m with buckets := ainsert (u, id) ⟨u, fromNft nft, none⟩ m.buckets,
                    bucketUsed := id :: m.bucketUsed } ∧ out = [] := by
  simp [createBucketNft, ite_error_ok, eq_comm (a := m')]

theorem addToBucket_ok_iff {funds : Funds} {u id : Nat} :
    addToBucket m funds u id = .ok (m', out) ↔
    ∃ b nf, normalizedCheck funds = true ∧ alookup (u, id) m.buckets = some b ∧ u = b.owner ∧
      addTokens b.funds funds = some nf ∧ genbalCmp b.funds nf = false ∧ checkValid nf = true ∧
      m' = { m with buckets := ainsert (u, id) { b with funds := nf } m.buckets } ∧ out = [] := by
  constructor
  · intro h
    unfold addToBucket at h
    obtain ⟨h1, h⟩ := ite_error_ok.1 h
    split at h
    · cases h
    next b hb =>
    obtain ⟨h2, h⟩ := ite_error_ok.1 h
    split at h
    · cases h
    next nf hnf =>
    obtain ⟨h3, h⟩ := ite_error_ok.1 h
    obtain ⟨h4, h⟩ := ite_error_ok.1 h
    cases h
    exact ⟨b, nf, by simpa using h1, hb, Decidable.not_not.1 h2, hnf, by simpa using h3,
      by simpa using h4, rfl, rfl⟩
  · rintro ⟨b, nf, h1, hb, h2, hnf, h3, h4, rfl, rfl⟩
    simp [addToBucket, h1, hb, ← h2, hnf, h3, h4]

theorem addToBucketNft_ok_iff {u : Nat} {nft : Nft} {id : Nat} :
    addToBucketNft m u nft id = .ok (m', out) ↔
    ∃ b, alookup (u, id) m.buckets = some b ∧ u = b.owner ∧
      genbalCmp b.funds (addNft b.funds nft) = false ∧ checkValid (addNft b.funds nft) = true ∧
      m' = { m with buckets := ainsert (u, id) { b with funds := addNft b.funds nft } m.buckets } ∧
      out = [] := by
  unfold addToBucketNft
  cases hb : alookup (u, id) m.buckets with
  | none => simp
  | some b => simp [ite_error_ok, ite_ok_error, eq_comm (a := m')]

theorem withdrawBucket_ok_iff {u id : Nat} :
    withdrawBucket m env u id = .ok (m', out) ↔
    ∃ b, alookup (u, id) m.buckets = some b ∧ b.owner = u ∧
      m' = { m with buckets := aerase (u, id) m.buckets } ∧
      out = withdrawMsgs env.self b.owner b.funds b.fee := by
  unfold withdrawBucket
  cases hb : alookup (u, id) m.buckets with
  | none => simp
  | some b => simp [ite_ok_error, eq_comm (a := m'), eq_comm (a := out)]

theorem createListing_ok_iff {u : Nat} {funds : Funds} {c : CreateMsg} {id : Nat} :
    createListing m u funds c id = .ok (m', out) ↔
    ∃ wl ask, id < MAX_SAFE_INT ∧ normalizedCheck funds = true ∧ id ∉ m.listingUsed ∧
      findById id m.listings = none ∧ checkWhitelist u c.whitelist = some wl ∧
      validateAsk c.ask = some ask ∧
      m' = { m with listings := ainsert (u, id) (newListing u id wl (fromBalance funds) ask) m.listings,
                    listingUsed := id :: m.listingUsed } ∧ out = [] := by
  constructor
  · intro h
    unfold createListing at h
    obtain ⟨h1, h⟩ := ite_error_ok.1 h
    obtain ⟨h2, h⟩ := ite_error_ok.1 h
    obtain ⟨h3, h⟩ := ite_error_ok.1 h
    obtain ⟨h4, h⟩ := ite_error_ok.1 h
    split at h
    · cases h
    next wl hwl =>
    split at h
    · cases h
    next ask hask =>
    cases h
    exact ⟨wl, ask, Nat.not_le.1 h1, by simpa using h2, h3, by simpa using h4, hwl, hask, rfl, rfl⟩
  · rintro ⟨wl, ask, h1, h2, h3, h4, hwl, hask, rfl, rfl⟩
    simp [createListing, Nat.not_le.2 h1, h2, h3, h4, hwl, hask]

theorem createListingNft_ok_iff {u : Nat} {nft : Nft} {c : CreateMsg} {id : Nat} :
    createListingNft m u nft c id = .ok (m', out) ↔
    ∃ wl ask, id < MAX_SAFE_INT ∧ id ∉ m.listingUsed ∧ findById id m.listings = none ∧
      checkWhitelist u c.whitelist = some wl ∧ validateAsk c.ask = some ask ∧
      m' = { m with listings := ainsert (u, id) (newListing u id wl (fromNft nft) ask) m.listings,
                    listingUsed := id :: m.listingUsed } ∧ out = [] := by
  constructor
  · intro h
    unfold createListingNft at h
    obtain ⟨h1, h⟩ := ite_error_ok.1 h
    obtain ⟨h3, h⟩ := ite_error_ok.1 h
    obtain ⟨h4, h⟩ := ite_error_ok.1 h
    split at h
    · cases h
    next wl hwl =>
    split at h
    · cases h
    next ask hask =>
    cases h
    exact ⟨wl, ask, Nat.not_le.1 h1, h3, by simpa using h4, hwl, hask, rfl, rfl⟩
  · rintro ⟨wl, ask, h1, h3, h4, hwl, hask, rfl, rfl⟩
    simp [createListingNft, Nat.not_le.2 h1, h3, h4, hwl, hask]

theorem changeAsk_ok_iff {u id : Nat} {raw : RawGBal} :
    changeAsk m u id raw = .ok (m', out) ↔
    ∃ l ask, alookup (u, id) m.listings = some l ∧ u = l.creator ∧ l.finalizedAt = none ∧
      l.status = .preparing ∧ l.claimant = none ∧ validateAsk raw = some ask ∧
      m' = { m with listings := ainsert (u, id) { l with ask := ask } m.listings } ∧ out = [] := by
  constructor
  · intro h
    unfold changeAsk at h
    split at h
    · cases h
    next l hl =>
    obtain ⟨h1, h⟩ := ite_error_ok.1 h
    obtain ⟨h2, h⟩ := ite_error_ok.1 h
    obtain ⟨h3, h⟩ := ite_error_ok.1 h
    obtain ⟨h4, h⟩ := ite_error_ok.1 h
    split at h
    · cases h
    next ask hask =>
    cases h
    exact ⟨l, ask, hl, Decidable.not_not.1 h1, by simpa using h2, Decidable.not_not.1 h3,
      by simpa using h4, hask, rfl, rfl⟩
  · rintro ⟨l, ask, hl, h1, h2, h3, h4, hask, rfl, rfl⟩
    simp [changeAsk, hl, ← h1, h2, h3, h4, hask]

theorem addToListing_ok_iff {funds : Funds} {u id : Nat} :
    addToListing m funds u id = .ok (m', out) ↔
    ∃ l nf, normalizedCheck funds = true ∧ alookup (u, id) m.listings = some l ∧ u = l.creator ∧
      l.status = .preparing ∧ l.claimant = none ∧ addTokens l.forSale funds = some nf ∧
      genbalCmp l.forSale nf = false ∧ nf.count ≤ MAX_ASSETS ∧
      m' = { m with listings := ainsert (u, id) { l with forSale := nf } m.listings } ∧ out = [] := by
  constructor
  · intro h
    unfold addToListing at h
    obtain ⟨h1, h⟩ := ite_error_ok.1 h
    split at h
    · cases h
    next l hl =>
    obtain ⟨h2, h⟩ := ite_error_ok.1 h
    obtain ⟨h3, h⟩ := ite_error_ok.1 h
    obtain ⟨h4, h⟩ := ite_error_ok.1 h
    split at h
    · cases h
    next nf hnf =>
    obtain ⟨h5, h⟩ := ite_error_ok.1 h
    obtain ⟨h6, h⟩ := ite_error_ok.1 h
    cases h
    exact ⟨l, nf, by simpa using h1, hl, Decidable.not_not.1 h2, Decidable.not_not.1 h3,
      by simpa using h4, hnf, by simpa using h5, Nat.not_lt.1 h6, rfl, rfl⟩
  · rintro ⟨l, nf, h1, hl, h2, h3, h4, hnf, h5, h6, rfl, rfl⟩
    simp [addToListing, h1, hl, ← h2, h3, h4, hnf, h5, Nat.not_lt.2 h6]

theorem addToListingNft_ok_iff {u : Nat} {nft : Nft} {id : Nat} :
    addToListingNft m u nft id = .ok (m', out) ↔
    ∃ l, alookup (u, id) m.listings = some l ∧ u = l.creator ∧ l.status = .preparing ∧
      l.claimant = none ∧ genbalCmp l.forSale (addNft l.forSale nft) = false ∧
      checkValid (addNft l.forSale nft) = true ∧
      m' = { m with listings := ainsert (u, id) { l with forSale := addNft l.forSale nft } m.listings } ∧
      out = [] := by
  unfold addToListingNft
  cases hl : alookup (u, id) m.listings with
  | none => simp
  | some l => simp [ite_error_ok, ite_ok_error, eq_comm (a := m')]

theorem finalize_ok_iff {u id secs : Nat} :
    finalize m env u id secs = .ok (m', out) ↔
    ∃ l, alookup (u, id) m.listings = some l ∧ u = l.creator ∧ l.finalizedAt = none ∧
      l.status = .preparing ∧ l.claimant = none ∧ MIN_LIFE ≤ secs ∧ secs ≤ TWO_WEEKS ∧
      m' = { m with listings := ainsert (u, id) { l with finalizedAt := some env.nowNs,
                                                         expiresAt := some (env.nowNs + secs * NS),
                                                         status := .finalized } m.listings } ∧
      out = [] := by
  unfold finalize
  cases hl : alookup (u, id) m.listings with
  | none => simp
  | some l => simp [ite_error_ok, ite_ok_error, and_assoc, eq_comm (a := m')]

theorem deleteListing_ok_iff {u id : Nat} :
    deleteListing m env u id = .ok (m', out) ↔
    ∃ l, alookup (u, id) m.listings = some l ∧ u = l.creator ∧ l.claimant = none ∧
      (∀ e, l.expiresAt = some e → e ≤ env.nowNs) ∧
      m' = { m with listings := aerase (u, id) m.listings } ∧ out = sendTokens l.creator l.forSale := by
  constructor
  · intro h
    unfold deleteListing at h
    split at h
    · cases h
    next l hl =>
    obtain ⟨h1, h⟩ := ite_error_ok.1 h
    obtain ⟨h2, h⟩ := ite_error_ok.1 h
    obtain ⟨h3, h⟩ := ite_error_ok.1 h
    cases h
    exact ⟨l, hl, Decidable.not_not.1 h1, by simpa using h2, fun e he => by simpa [he] using h3, rfl, rfl⟩
  · rintro ⟨l, hl, h1, h2, h3, rfl, rfl⟩
    cases he : l.expiresAt with
    | none => simp [deleteListing, hl, ← h1, h2, he]
    | some e => simp [deleteListing, hl, ← h1, h2, he, h3 e he]

/-- `k` is the storage key the id index returns.  The handler drops it (`_pk`) and removes
    `(claimant, lid)`; that this is `k` needs both storage invariants (`IdsInv.findById_key`,
    `wfListing_claimant`). -/
theorem withdrawPurchased_ok_iff {u lid : Nat} :
    withdrawPurchased m env u lid = .ok (m', out) ↔
    ∃ k l, findById lid m.listings = some (k, l) ∧ l.claimant = some u ∧ l.status = .closed ∧
      m' = { m with listings := aerase (u, lid) m.listings } ∧
      out = withdrawMsgs env.self u l.forSale l.fee := by
  constructor
  · intro h
    unfold withdrawPurchased at h
    split at h
    · cases h
    next k l hf =>
    split at h
    · cases h
    next c hc =>
    obtain ⟨huc, h⟩ := ite_error_ok.1 h
    obtain ⟨hst, h⟩ := ite_error_ok.1 h
    cases h
    cases Decidable.not_not.1 huc
    exact ⟨k, l, hf, hc, Decidable.not_not.1 hst, rfl, rfl⟩
  · rintro ⟨k, l, hf, hc, hst, rfl, rfl⟩
    simp only [withdrawPurchased, hf, hc, hst, ne_eq, not_true, if_false]

/-- the three ways the royalty pass of one side ends: nothing to ask the registry about, a stored
    registry address that is not the registry's, or `GenericBalance::royalties` on its answers -/
theorem sideRoyalties_cases (env : Env) (ra : Nat) (cols : List Nat) (bal : GBal) :
    cols = [] ∧ sideRoyalties env ra cols bal = .ok bal [] 0 ∨
    cols ≠ [] ∧ ra ≠ env.regAddr ∧ sideRoyalties env ra cols bal = .err ∨
    cols ≠ [] ∧ ra = env.regAddr ∧
      sideRoyalties env ra cols bal = royalties bal (cols.map env.regLookup) := by
  unfold sideRoyalties
  cases cols with
  | nil => exact .inl ⟨rfl, rfl⟩
  | cons c cs =>
    by_cases hra : ra = env.regAddr
    · exact .inr (.inr ⟨List.cons_ne_nil _ _, hra, by simp [hra]⟩)
    · exact .inr (.inl ⟨List.cons_ne_nil _ _, hra, by simp [hra]⟩)

/-- the fee message an accepted purchase emits for a fee still pending on the paying bucket -/
def pendingFeeMsgs (self : Nat) : Option Coin → List OutMsg
  | some f => [OutMsg.fundPool self f]
  | none => []

/-- Here too the key `k` from the id index is dropped: `execute_buy_listing` removes the listing
    under `(the_listing.creator, lid)`, which is `k` under `IdsInv` (`IdsInv.findById_key`).  `s1`
    and `s2` are the basis-point totals `GenericBalance::royalties` returns; the contract only
    reports them as response attributes. -/
theorem buy_ok_iff {buyer lid bid : Nat} :
    buy m env buyer lid bid = .ok (m', out) ↔
    ∃ k l b lfee lbal bfee bbal ra fb msgs1 s1 fl msgs2 s2,
      alookup (buyer, bid) m.buckets = some b ∧ findById lid m.listings = some (k, l) ∧
      b.owner = buyer ∧ genbalCmp b.funds l.ask = true ∧ l.status = .finalized ∧
      (∀ x, l.whitelist = some x → x = buyer) ∧ l.claimant = none ∧
      (∀ e, l.expiresAt = some e → env.nowNs ≤ e) ∧
      calcFeeCoin (feeDenomOf env m.feeKind) l.forSale = some (lfee, lbal) ∧
      calcFeeCoin (feeDenomOf env m.feeKind) b.funds = some (bfee, bbal) ∧
      m.registry = some ra ∧
      sideRoyalties env ra (collections l.forSale) bbal = .ok fb msgs1 s1 ∧
      sideRoyalties env ra (collections b.funds) lbal = .ok fl msgs2 s2 ∧
      m' = { m with
        listings := ainsert (buyer, lid)
          { l with creator := buyer, claimant := some buyer, status := .closed, fee := lfee, forSale := fl }
          (aerase (l.creator, lid) m.listings),
        buckets := ainsert (l.creator, bid) ⟨l.creator, fb, bfee⟩ (aerase (buyer, bid) m.buckets) } ∧
      out = pendingFeeMsgs env.self b.fee ++ msgs1 ++ msgs2 := by
  constructor
  · intro h
    unfold buy at h
    split at h
    · cases h
    rename_i b hb
    split at h
    · cases h
    rename_i k l hl
    obtain ⟨h1, h⟩ := ite_error_ok.1 h
    obtain ⟨h2, h⟩ := ite_error_ok.1 h
    obtain ⟨h3, h⟩ := ite_error_ok.1 h
    obtain ⟨h4, h⟩ := ite_error_ok.1 h
    obtain ⟨h5, h⟩ := ite_error_ok.1 h
    obtain ⟨h6, h⟩ := ite_error_ok.1 h
    split at h
    · rename_i lfee lbal bfee bbal e1 e2
      split at h
      · cases h
      rename_i ra hra
      split at h
      · cases h
      · cases h
      rename_i fb msgs1 s1 hr1
      split at h
      · cases h
      · cases h
      rename_i fl msgs2 s2 hr2
      simp only [Except.ok.injEq, Prod.mk.injEq] at h
      obtain ⟨rfl, rfl⟩ := h
      refine ⟨k, l, b, lfee, lbal, bfee, bbal, ra, fb, msgs1, s1, fl, msgs2, s2, hb, hl,
        by simpa [eq_comm] using h1, by simpa using h2, by simpa using h3, ?_, by simpa using h5, ?_,
        e1, e2, hra, hr1, hr2, rfl, ?_⟩
      · intro x hx; simpa [hx] using h4
      · intro e he; simpa [he] using h6
      · cases b.fee <;> rfl
    · cases h
  · rintro ⟨k, l, b, lfee, lbal, bfee, bbal, ra, fb, msgs1, s1, fl, msgs2, s2, hb, hl, ho, hc, hs, hw,
      hcl, he, e1, e2, hra, r1, r2, rfl, rfl⟩
    unfold buy
    simp only [hb, hl, e1, e2, hra, r1, r2]
    rw [if_neg (by simp [ho]), if_neg (by simp [hc]), if_neg (by simp [hs]), if_neg, if_neg (by simp [hcl]),
      if_neg, ← hra]
    · cases b.fee <;> rfl
    · cases hx : l.expiresAt with
      | none => simp
      | some e => simpa using he e hx
    · cases hx : l.whitelist with
      | none => simp
      | some w => simpa using hw w hx

/-- the other fee denomination: `cycleFee` has this as an inline `match`, identified in
    `cycleFee_ok_iff` -/
def FeeKind.other : FeeKind → FeeKind
  | .juno => .usdc
  | .usdc => .juno

@[simp] theorem FeeKind.other_ne (k : FeeKind) : k.other ≠ k := by cases k <;> simp [FeeKind.other]
@[simp] theorem FeeKind.other_other (k : FeeKind) : k.other.other = k := by cases k <;> rfl
theorem FeeKind.eq_other_of_ne {k k' : FeeKind} (h : k' ≠ k) : k' = k.other := by
  cases k <;> cases k' <;> first | rfl | exact absurd rfl h

theorem cycleFee_ok_iff :
    cycleFee m env = .ok (m', out) ↔
    min (m.feeSince + WEEK) U64MAX < env.nowNs / NS ∧
      m' = { m with feeKind := m.feeKind.other, feeSince := env.nowNs / NS } ∧ out = [] := by
  cases hk : m.feeKind <;> simp [cycleFee, ite_error_ok, hk, FeeKind.other, eq_comm (a := m')]

end

theorem execute_receive (m : Market) (env : Env) (c : Nat) (f : List Coin) (s : RawAddr) (a : Nat)
    (i : Option Inner) : execute m env c f (.receive s a i) = receive m env c f s a i := rfl

theorem execute_receiveNft (m : Market) (env : Env) (c : Nat) (f : List Coin) (s : RawAddr) (t : Nat)
    (i : Option Inner) : execute m env c f (.receiveNft s t i) = receiveNft m env c f s t i := rfl

section
variable (m : Market) (env : Env) (s : Nat) (f : List Coin)

theorem execute_createListing (id : Nat) (c : CreateMsg) :
    execute m env s f (.createListing id c) = createListing m s (.native f) c id := rfl
theorem execute_addToListing (id : Nat) :
    execute m env s f (.addToListing id) = addToListing m (.native f) s id := rfl
theorem execute_createBucket (id : Nat) :
    execute m env s f (.createBucket id) = createBucket m (.native f) s id := rfl
theorem execute_addToBucket (id : Nat) :
    execute m env s f (.addToBucket id) = addToBucket m (.native f) s id := rfl

-- A message that takes no coins is its handler only when sent without: with coins it is refused,
-- so an accepted one came without (`execute_ok_nil`, used as in `buy_of_execute`).
theorem execute_nil_changeAsk (id : Nat) (raw : RawGBal) :
    execute m env s [] (.changeAsk id raw) = changeAsk m s id raw := rfl
theorem execute_nil_finalize (id secs : Nat) :
    execute m env s [] (.finalize id secs) = finalize m env s id secs := rfl
theorem execute_nil_deleteListing (id : Nat) :
    execute m env s [] (.deleteListing id) = deleteListing m env s id := rfl
theorem execute_nil_removeBucket (id : Nat) :
    execute m env s [] (.removeBucket id) = withdrawBucket m env s id := rfl
theorem execute_nil_buy (lid bid : Nat) :
    execute m env s [] (.buy lid bid) = buy m env s lid bid := rfl
theorem execute_nil_withdrawPurchased (lid : Nat) :
    execute m env s [] (.withdrawPurchased lid) = withdrawPurchased m env s lid := rfl
theorem execute_nil_feeCycle : execute m env s [] .feeCycle = cycleFee m env := rfl

/-- the entry test that repairs D6 -/
theorem execute_fundsAttached {msg : ExecMsg} (ht : msg.takesCoins = false) (hf : f ≠ []) :
    execute m env s f msg = .error .fundsAttached := by
  cases f with
  | nil => exact absurd rfl hf
  | cons c cs => simp [execute, ht]

theorem receive_fundsAttached {sender : RawAddr} {amount : Nat} {inner : Option Inner} (hf : f ≠ []) :
    receive m env s f sender amount inner = .error .fundsAttached := by
  cases f with
  | nil => exact absurd rfl hf
  | cons c cs => rfl

theorem receiveNft_fundsAttached {sender : RawAddr} {tid : Nat} {inner : Option Inner} (hf : f ≠ []) :
    receiveNft m env s f sender tid inner = .error .fundsAttached := by
  cases f with
  | nil => exact absurd rfl hf
  | cons c cs => rfl

end

theorem execute_ok_nil {m : Market} {env : Env} {s : Nat} {f : List Coin} {msg : ExecMsg}
    {r : Market × List OutMsg} (ht : msg.takesCoins = false) (h : execute m env s f msg = .ok r) :
    f = [] := by
  cases f with
  | nil => rfl
  | cons c cs => rw [execute_fundsAttached m env s _ ht (List.cons_ne_nil c cs)] at h; cases h

theorem buy_of_execute {m : Market} {env : Env} {s : Nat} {f : List Coin} {lid bid : Nat}
    {r : Market × List OutMsg} (h : execute m env s f (.buy lid bid) = .ok r) :
    buy m env s lid bid = .ok r := by
  cases execute_ok_nil rfl h
  exact h

end Fuzion
