/-
  Fuzion.Lemmas.Effect — what an accepted message does, said once.

  `execute` reaches its fifteen handlers along nineteen paths (four deposit messages arrive directly
  with native coins, through the CW20 hook and through the CW721 hook).  `ExecMsg.unwrap` names, for
  every path, the wallet the message acts for, the asset it deposits and the direct message it
  stands for; `Effect` then has one constructor per direct message, carrying every test the handler
  passed and the exact new state and message list.  `execute_effect` is the only place where the
  dispatch is taken apart: a fact about all accepted messages is proved by `cases` on an `Effect`.
  An `Effect` is for reading an accepted message; that a message IS accepted is shown with
  `X_ok_iff.2` and the dispatcher equations of `Handlers` (for the two hooks, `execute_receive_eq`
  and `execute_receiveNft_eq` below).
-/
import Fuzion.Lemmas.Handlers
namespace Fuzion

/-- What a deposit message brings: the attached native coins or the CW20 amount a token contract
    reports (`Funds`), or the NFT a collection reports. -/
inductive Asset
  | funds (f : Funds)
  | nft (n : Nft)

/-- `normalized_check` (an NFT is not checked) -/
def Asset.ok : Asset → Bool
  | .funds f => normalizedCheck f
  | .nft _ => true

/-- `from_balance` / `from_nft`: the deposit as the balance of a new record -/
def Asset.bal : Asset → GBal
  | .funds f => fromBalance f
  | .nft n => fromNft n

/-- `add_tokens` / `add_nft`: the balance of a topped-up record (`none` = the `u128` sum aborts) -/
def Asset.addTo (g : GBal) : Asset → Option GBal
  | .funds f => addTokens g f
  | .nft n => some (addNft g n)

/-- the last test of a listing top-up: `execute_add_to_listing` only caps the item count,
    `execute_add_to_listing_cw721` runs `check_valid` -/
def Asset.listingOk : Asset → GBal → Bool
  | .funds _, nf => decide (nf.count ≤ MAX_ASSETS)
  | .nft _, nf => checkValid nf

/-- the four deposit messages, as sent directly with native coins attached -/
def Inner.toExec : Inner → ExecMsg
  | .createListing id c => .createListing id c
  | .addToListing id => .addToListing id
  | .createBucket id => .createBucket id
  | .addToBucket id => .addToBucket id

/-- the wallet a message acts for, what it deposits, and the direct message it stands for: a hook
    call acts for the wallet the calling contract names, with the contract's own token -/
def ExecMsg.unwrap (caller : Nat) (funds : List Coin) : ExecMsg → Option (Nat × Asset × ExecMsg)
  | .receive (.valid u) amt (some im) => some (u, .funds (.cw20 ⟨caller, amt⟩), im.toExec)
  | .receiveNft (.valid u) tid (some im) => some (u, .nft ⟨caller, tid⟩, im.toExec)
  | .receive .. | .receiveNft .. => none
  | msg => some (caller, .funds (.native funds), msg)

theorem ExecMsg.unwrap_cases {msg msg' : ExecMsg} {s u : Nat} {f : List Coin} {a : Asset}
    (h : msg.unwrap s f = some (u, a, msg')) :
    (∃ amt im, msg = .receive (.valid u) amt (some im) ∧ a = .funds (.cw20 ⟨s, amt⟩) ∧
      msg' = im.toExec) ∨
    (∃ tid im, msg = .receiveNft (.valid u) tid (some im) ∧ a = .nft ⟨s, tid⟩ ∧ msg' = im.toExec) ∨
    (msg' = msg ∧ u = s ∧ a = .funds (.native f)) := by
  cases msg with
  | receive sender amt inner =>
    cases sender <;> cases inner <;> cases h
    exact .inl ⟨_, _, rfl, rfl, rfl⟩
  | receiveNft sender tid inner =>
    cases sender <;> cases inner <;> cases h
    exact .inr (.inl ⟨_, _, rfl, rfl, rfl⟩)
  | _ =>
    cases h
    exact .inr (.inr ⟨rfl, rfl, rfl⟩)

theorem ExecMsg.unwrap_direct {msg msg' : ExecMsg} {s u : Nat} {f : List Coin} {a : Asset}
    (h : msg.unwrap s f = some (u, a, msg')) (hk : msg'.takesCoins = false) : msg = msg' ∧ s = u := by
  rcases ExecMsg.unwrap_cases h with ⟨_, im, _, _, rfl⟩ | ⟨_, im, _, _, rfl⟩ | ⟨rfl, rfl, _⟩
  · cases im <;> cases hk
  · cases im <;> cases hk
  · exact ⟨rfl, rfl⟩

theorem Inner.unwrap_toExec (i : Inner) (s : Nat) (f : List Coin) :
    i.toExec.unwrap s f = some (s, .funds (.native f), i.toExec) := by
  cases i <;> rfl

/-- the handler a deposit message reaches, for wallet `u` bringing `a`: the four arms that the `match`
    in each of `execute`, `execute_receive` and `execute_receive_nft` (contract.rs) has for deposits, as
    one function of asset and message.  `ExecMsg.unwrap` names the wallet and the asset of a path but
    not the handler; the acceptance conditions of C12 are stated per handler, and `handleDeposit` is how
    the three `step_deposit_*_iff` (Lemmas/WorldLemmas.lean) take them (`hP`) for any `i` on any
    path. -/
def handleDeposit (m : Market) (u : Nat) : Asset → Inner → HRes
  | .funds F, .createListing id c => createListing m u F c id
  | .funds F, .addToListing id => addToListing m F u id
  | .funds F, .createBucket id => createBucket m F u id
  | .funds F, .addToBucket id => addToBucket m F u id
  | .nft n, .createListing id c => createListingNft m u n c id
  | .nft n, .addToListing id => addToListingNft m u n id
  | .nft n, .createBucket id => createBucketNft m u n id
  | .nft n, .addToBucket id => addToBucketNft m u n id

section
variable (m : Market) (env : Env) (x : Nat) (i : Inner)

theorem execute_toExec_eq (f : List Coin) :
    execute m env x f i.toExec = handleDeposit m x (.funds (.native f)) i := by
  cases i with
  | createListing id c => exact execute_createListing ..
  | addToListing id => exact execute_addToListing ..
  | createBucket id => exact execute_createBucket ..
  | addToBucket id => exact execute_addToBucket ..

theorem execute_receive_eq (t amount : Nat) :
    execute m env t [] (.receive (.valid x) amount (some i)) =
      if !env.isToken20 t then .error .badToken
      else handleDeposit m x (.funds (.cw20 ⟨t, amount⟩)) i := by
  cases i <;> rfl

theorem execute_receiveNft_eq (c tid : Nat) :
    execute m env c [] (.receiveNft (.valid x) tid (some i)) =
      if !env.isContract c then .error .notContract else handleDeposit m x (.nft ⟨c, tid⟩) i := by
  cases i <;> rfl

end

/-- the tests of the entry point and of the two hooks that come before the handler, except that the
    hook's sender validates and its payload parses: those are `unwrap = some` -/
def ExecMsg.admitted (env : Env) (caller : Nat) (funds : List Coin) : ExecMsg → Prop
  | .receive .. => funds = [] ∧ env.isToken20 caller = true
  | .receiveNft .. => funds = [] ∧ env.isContract caller = true
  | msg => msg.takesCoins = true ∨ funds = []

/-- `Effect m env u a msg m' out`: the handler of the direct message `msg`, run for wallet `u`
    with deposit `a`, accepts in state `m` and returns `m'` and `out`.  Only the four deposit
    messages read `a`.  For a message that deposits nothing (`buy` above all) `a` is arbitrary: the
    constructor and its `X_effect` leave it free, `execute_effect` gives `.funds (.native f)`, and
    a use that has to name one may name any.

    Where `msg`, `m'` and `out` are variables the case analysis is written `induction e with`
    (`Effect` is not recursive, so no hypothesis appears): `cases e with` solves an equation for
    each index and is slow to check. -/
inductive Effect (m : Market) (env : Env) (u : Nat) (a : Asset) : ExecMsg → Market → List OutMsg → Prop
  | createListing {id : Nat} {c : CreateMsg} {wl : Option Nat} {ask : GBal}
      (hid : id < MAX_SAFE_INT) (ha : a.ok = true) (hfresh : id ∉ m.listingUsed)
      (hnew : findById id m.listings = none) (hwl : checkWhitelist u c.whitelist = some wl)
      (hask : validateAsk c.ask = some ask) :
      Effect m env u a (.createListing id c)
        { m with listings := ainsert (u, id) (newListing u id wl a.bal ask) m.listings,
                 listingUsed := id :: m.listingUsed } []
  | addToListing {id : Nat} {l : Listing} {nf : GBal}
      (ha : a.ok = true) (hl : alookup (u, id) m.listings = some l) (ho : u = l.creator)
      (hst : l.status = .preparing) (hcl : l.claimant = none) (hnf : a.addTo l.forSale = some nf)
      (hch : genbalCmp l.forSale nf = false) (hv : a.listingOk nf = true) :
      Effect m env u a (.addToListing id)
        { m with listings := ainsert (u, id) { l with forSale := nf } m.listings } []
  | changeAsk {id : Nat} {raw : RawGBal} {l : Listing} {ask : GBal}
      (hl : alookup (u, id) m.listings = some l) (ho : u = l.creator)
      (hfin : l.finalizedAt = none) (hst : l.status = .preparing) (hcl : l.claimant = none)
      (hask : validateAsk raw = some ask) :
      Effect m env u a (.changeAsk id raw)
        { m with listings := ainsert (u, id) { l with ask := ask } m.listings } []
  | finalize {id secs : Nat} {l : Listing}
      (hl : alookup (u, id) m.listings = some l) (ho : u = l.creator)
      (hfin : l.finalizedAt = none) (hst : l.status = .preparing) (hcl : l.claimant = none)
      (hmin : MIN_LIFE ≤ secs) (hmax : secs ≤ TWO_WEEKS) :
      Effect m env u a (.finalize id secs)
        { m with
          listings := ainsert (u, id)
            { l with finalizedAt := some env.nowNs, expiresAt := some (env.nowNs + secs * NS),
                     status := .finalized } m.listings } []
  | deleteListing {id : Nat} {l : Listing}
      (hl : alookup (u, id) m.listings = some l) (ho : u = l.creator) (hcl : l.claimant = none)
      (hexp : ∀ e, l.expiresAt = some e → e ≤ env.nowNs) :
      Effect m env u a (.deleteListing id)
        { m with listings := aerase (u, id) m.listings } (sendTokens l.creator l.forSale)
  | createBucket {id : Nat}
      (hid : id < MAX_SAFE_INT) (hfresh : id ∉ m.bucketUsed)
      (hnew : alookup (u, id) m.buckets = none) (ha : a.ok = true) :
      Effect m env u a (.createBucket id)
        { m with buckets := ainsert (u, id) ⟨u, a.bal, none⟩ m.buckets,
                 bucketUsed := id :: m.bucketUsed } []
  | addToBucket {id : Nat} {b : Bucket} {nf : GBal}
      (ha : a.ok = true) (hb : alookup (u, id) m.buckets = some b) (ho : u = b.owner)
      (hnf : a.addTo b.funds = some nf) (hch : genbalCmp b.funds nf = false)
      (hv : checkValid nf = true) :
      Effect m env u a (.addToBucket id)
        { m with buckets := ainsert (u, id) { b with funds := nf } m.buckets } []
  | removeBucket {id : Nat} {b : Bucket}
      (hb : alookup (u, id) m.buckets = some b) (ho : b.owner = u) :
      Effect m env u a (.removeBucket id)
        { m with buckets := aerase (u, id) m.buckets } (withdrawMsgs env.self b.owner b.funds b.fee)
  -- `buy`, `withdrawPurchased`: the key `k` the id index returns is not the key that is erased, see
  -- `buy_ok_iff` and `withdrawPurchased_ok_iff`
  | buy {lid bid : Nat} {k : Nat × Nat} {l : Listing} {b : Bucket} {lfee bfee : Option Coin}
      {lbal bbal fb fl : GBal} {ra s1 s2 : Nat} {msgs1 msgs2 : List OutMsg}
      (hb : alookup (u, bid) m.buckets = some b) (hl : findById lid m.listings = some (k, l))
      (ho : b.owner = u) (hcmp : genbalCmp b.funds l.ask = true) (hst : l.status = .finalized)
      (hwl : ∀ x, l.whitelist = some x → x = u) (hcl : l.claimant = none)
      (hexp : ∀ e, l.expiresAt = some e → env.nowNs ≤ e)
      (hlfee : calcFeeCoin (feeDenomOf env m.feeKind) l.forSale = some (lfee, lbal))
      (hbfee : calcFeeCoin (feeDenomOf env m.feeKind) b.funds = some (bfee, bbal))
      (hra : m.registry = some ra)
      (hr1 : sideRoyalties env ra (collections l.forSale) bbal = .ok fb msgs1 s1)
      (hr2 : sideRoyalties env ra (collections b.funds) lbal = .ok fl msgs2 s2) :
      Effect m env u a (.buy lid bid)
        { m with
          listings := ainsert (u, lid)
            { l with creator := u, claimant := some u, status := .closed, fee := lfee, forSale := fl }
            (aerase (l.creator, lid) m.listings),
          buckets := ainsert (l.creator, bid) ⟨l.creator, fb, bfee⟩ (aerase (u, bid) m.buckets) }
        (pendingFeeMsgs env.self b.fee ++ msgs1 ++ msgs2)
  | withdrawPurchased {lid : Nat} {k : Nat × Nat} {l : Listing}
      (hl : findById lid m.listings = some (k, l)) (hcl : l.claimant = some u)
      (hst : l.status = .closed) :
      Effect m env u a (.withdrawPurchased lid)
        { m with listings := aerase (u, lid) m.listings } (withdrawMsgs env.self u l.forSale l.fee)
  | feeCycle (hdue : min (m.feeSince + WEEK) U64MAX < env.nowNs / NS) :
      Effect m env u a .feeCycle { m with feeKind := m.feeKind.other, feeSince := env.nowNs / NS } []

section
variable {m m' : Market} {env : Env} {out : List OutMsg}

theorem createListing_effect {u : Nat} {funds : Funds} {c : CreateMsg} {id : Nat}
    (h : createListing m u funds c id = .ok (m', out)) :
    Effect m env u (.funds funds) (.createListing id c) m' out := by
  obtain ⟨wl, ask, hid, ha, hfresh, hnew, hwl, hask, rfl, rfl⟩ := createListing_ok_iff.1 h
  exact .createListing hid ha hfresh hnew hwl hask

theorem createListingNft_effect {u : Nat} {nft : Nft} {c : CreateMsg} {id : Nat}
    (h : createListingNft m u nft c id = .ok (m', out)) :
    Effect m env u (.nft nft) (.createListing id c) m' out := by
  obtain ⟨wl, ask, hid, hfresh, hnew, hwl, hask, rfl, rfl⟩ := createListingNft_ok_iff.1 h
  exact .createListing hid rfl hfresh hnew hwl hask

theorem addToListing_effect {funds : Funds} {u id : Nat}
    (h : addToListing m funds u id = .ok (m', out)) :
    Effect m env u (.funds funds) (.addToListing id) m' out := by
  obtain ⟨l, nf, ha, hl, ho, hst, hcl, hnf, hch, hv, rfl, rfl⟩ := addToListing_ok_iff.1 h
  exact .addToListing ha hl ho hst hcl hnf hch (decide_eq_true hv)

theorem addToListingNft_effect {u : Nat} {nft : Nft} {id : Nat}
    (h : addToListingNft m u nft id = .ok (m', out)) :
    Effect m env u (.nft nft) (.addToListing id) m' out := by
  obtain ⟨l, hl, ho, hst, hcl, hch, hv, rfl, rfl⟩ := addToListingNft_ok_iff.1 h
  exact .addToListing rfl hl ho hst hcl rfl hch hv

theorem changeAsk_effect {u id : Nat} {raw : RawGBal} {a : Asset}
    (h : changeAsk m u id raw = .ok (m', out)) : Effect m env u a (.changeAsk id raw) m' out := by
  obtain ⟨l, ask, hl, ho, hfin, hst, hcl, hask, rfl, rfl⟩ := changeAsk_ok_iff.1 h
  exact .changeAsk hl ho hfin hst hcl hask

theorem finalize_effect {u id secs : Nat} {a : Asset}
    (h : finalize m env u id secs = .ok (m', out)) : Effect m env u a (.finalize id secs) m' out := by
  obtain ⟨l, hl, ho, hfin, hst, hcl, hmin, hmax, rfl, rfl⟩ := finalize_ok_iff.1 h
  exact .finalize hl ho hfin hst hcl hmin hmax

theorem deleteListing_effect {u id : Nat} {a : Asset}
    (h : deleteListing m env u id = .ok (m', out)) : Effect m env u a (.deleteListing id) m' out := by
  obtain ⟨l, hl, ho, hcl, hexp, rfl, rfl⟩ := deleteListing_ok_iff.1 h
  exact .deleteListing hl ho hcl hexp

theorem createBucket_effect {funds : Funds} {u id : Nat}
    (h : createBucket m funds u id = .ok (m', out)) :
    Effect m env u (.funds funds) (.createBucket id) m' out := by
  obtain ⟨hid, hfresh, hnew, ha, rfl, rfl⟩ := createBucket_ok_iff.1 h
  exact .createBucket hid hfresh hnew ha

theorem createBucketNft_effect {u : Nat} {nft : Nft} {id : Nat}
    (h : createBucketNft m u nft id = .ok (m', out)) :
    Effect m env u (.nft nft) (.createBucket id) m' out := by
  obtain ⟨hid, hfresh, hnew, rfl, rfl⟩ := createBucketNft_ok_iff.1 h
  exact .createBucket hid hfresh hnew rfl

theorem addToBucket_effect {funds : Funds} {u id : Nat}
    (h : addToBucket m funds u id = .ok (m', out)) :
    Effect m env u (.funds funds) (.addToBucket id) m' out := by
  obtain ⟨b, nf, ha, hb, ho, hnf, hch, hv, rfl, rfl⟩ := addToBucket_ok_iff.1 h
  exact .addToBucket ha hb ho hnf hch hv

theorem addToBucketNft_effect {u : Nat} {nft : Nft} {id : Nat}
    (h : addToBucketNft m u nft id = .ok (m', out)) :
    Effect m env u (.nft nft) (.addToBucket id) m' out := by
  obtain ⟨b, hb, ho, hch, hv, rfl, rfl⟩ := addToBucketNft_ok_iff.1 h
  exact .addToBucket rfl hb ho rfl hch hv

theorem withdrawBucket_effect {u id : Nat} {a : Asset}
    (h : withdrawBucket m env u id = .ok (m', out)) : Effect m env u a (.removeBucket id) m' out := by
  obtain ⟨b, hb, ho, rfl, rfl⟩ := withdrawBucket_ok_iff.1 h
  exact .removeBucket hb ho

theorem buy_effect {u lid bid : Nat} {a : Asset}
    (h : buy m env u lid bid = .ok (m', out)) : Effect m env u a (.buy lid bid) m' out := by
  obtain ⟨k, l, b, lfee, lbal, bfee, bbal, ra, fb, msgs1, s1, fl, msgs2, s2, hb, hl, ho, hcmp, hst,
    hwl, hcl, hexp, hlfee, hbfee, hra, hr1, hr2, rfl, rfl⟩ := buy_ok_iff.1 h
  exact .buy hb hl ho hcmp hst hwl hcl hexp hlfee hbfee hra hr1 hr2

theorem withdrawPurchased_effect {u lid : Nat} {a : Asset}
    (h : withdrawPurchased m env u lid = .ok (m', out)) :
    Effect m env u a (.withdrawPurchased lid) m' out := by
  obtain ⟨k, l, hl, hcl, hst, rfl, rfl⟩ := withdrawPurchased_ok_iff.1 h
  exact .withdrawPurchased hl hcl hst

theorem cycleFee_effect {u : Nat} {a : Asset} (h : cycleFee m env = .ok (m', out)) :
    Effect m env u a .feeCycle m' out := by
  obtain ⟨hdue, rfl, rfl⟩ := cycleFee_ok_iff.1 h
  exact .feeCycle hdue

theorem execute_effect {s : Nat} {f : List Coin} {msg : ExecMsg}
    (h : execute m env s f msg = .ok (m', out)) :
    msg.admitted env s f ∧
    ∃ u a msg', msg.unwrap s f = some (u, a, msg') ∧ Effect m env u a msg' m' out := by
  unfold execute at h
  obtain ⟨hadm, h⟩ := ite_error_ok.1 h
  have hadm' : msg.takesCoins = true ∨ f = [] := by
    cases ht : msg.takesCoins with
    | true => exact .inl rfl
    | false => exact .inr (by simpa [ht] using hadm)
  cases msg with
  | receive sender amount inner =>
    unfold receive at h
    obtain ⟨h1, h⟩ := ite_error_ok.1 h
    obtain ⟨h2, h⟩ := ite_error_ok.1 h
    refine ⟨⟨by simpa using h1, by simpa using h2⟩, ?_⟩
    cases inner with
    | none => cases h
    | some im =>
      cases sender with
      | invalid => cases h
      | valid u =>
        cases im with
        | createListing id c => exact ⟨u, _, _, rfl, createListing_effect h⟩
        | addToListing id => exact ⟨u, _, _, rfl, addToListing_effect h⟩
        | createBucket id => exact ⟨u, _, _, rfl, createBucket_effect h⟩
        | addToBucket id => exact ⟨u, _, _, rfl, addToBucket_effect h⟩
  | receiveNft sender tid inner =>
    unfold receiveNft at h
    obtain ⟨h1, h⟩ := ite_error_ok.1 h
    obtain ⟨h2, h⟩ := ite_error_ok.1 h
    refine ⟨⟨by simpa using h1, by simpa using h2⟩, ?_⟩
    cases inner with
    | none => cases h
    | some im =>
      cases sender with
      | invalid => cases h
      | valid u =>
        cases im with
        | createListing id c => exact ⟨u, _, _, rfl, createListingNft_effect h⟩
        | addToListing id => exact ⟨u, _, _, rfl, addToListingNft_effect h⟩
        | createBucket id => exact ⟨u, _, _, rfl, createBucketNft_effect h⟩
        | addToBucket id => exact ⟨u, _, _, rfl, addToBucketNft_effect h⟩
  | createListing id c => exact ⟨hadm', s, _, _, rfl, createListing_effect h⟩
  | addToListing id => exact ⟨hadm', s, _, _, rfl, addToListing_effect h⟩
  | createBucket id => exact ⟨hadm', s, _, _, rfl, createBucket_effect h⟩
  | addToBucket id => exact ⟨hadm', s, _, _, rfl, addToBucket_effect h⟩
  | changeAsk id raw => exact ⟨hadm', s, _, _, rfl, changeAsk_effect h⟩
  | finalize id secs => exact ⟨hadm', s, _, _, rfl, finalize_effect h⟩
  | deleteListing id => exact ⟨hadm', s, _, _, rfl, deleteListing_effect h⟩
  | removeBucket id => exact ⟨hadm', s, _, _, rfl, withdrawBucket_effect h⟩
  | buy lid bid => exact ⟨hadm', s, _, _, rfl, buy_effect h⟩
  | withdrawPurchased lid => exact ⟨hadm', s, _, _, rfl, withdrawPurchased_effect h⟩
  | feeCycle => exact ⟨hadm', s, _, _, rfl, cycleFee_effect h⟩

/-- `execute_effect` with `unwrap` resolved into its three cases and `admitted` dropped -/
theorem execute_effect_cases {s : Nat} {f : List Coin} {msg : ExecMsg}
    (h : execute m env s f msg = .ok (m', out)) :
    (∃ u amt im, msg = .receive (.valid u) amt (some im) ∧
      Effect m env u (.funds (.cw20 ⟨s, amt⟩)) im.toExec m' out) ∨
    (∃ u tid im, msg = .receiveNft (.valid u) tid (some im) ∧
      Effect m env u (.nft ⟨s, tid⟩) im.toExec m' out) ∨
    Effect m env s (.funds (.native f)) msg m' out := by
  obtain ⟨_, u, a, msg', hu, e⟩ := execute_effect h
  rcases ExecMsg.unwrap_cases hu with ⟨amt, im, rfl, rfl, rfl⟩ | ⟨tid, im, rfl, rfl, rfl⟩ | ⟨rfl, rfl, rfl⟩
  · exact .inl ⟨u, amt, im, rfl, e⟩
  · exact .inr (.inl ⟨u, tid, im, rfl, e⟩)
  · exact .inr (.inr e)

end
end Fuzion
