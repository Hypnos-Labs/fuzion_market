/-
  Fuzion.Lemmas.ClosedLemmas — what the restatements of property theorems for reached states
  (Props/CxxReach.lean, Props/CxxClosed.lean, the two summaries) need besides `C09_reach` and
  `C12_reach`: `WFInv` for the reached world's own denominations; the clock along a history and the
  world predicate `TimeOk` (block time in nanoseconds is a `u64`), with the fee time stamp never
  ahead of the clock; and 128-bit amounts as an invariant (`Op.fits128`, `BoundedInv`).
-/
import Fuzion.Props.C09
import Fuzion.Props.C12
import Fuzion.Props.C13
namespace Fuzion

variable {w0 : World} {t : Nat} {r : Option Nat}

/-- `WFInv` for the denominations of the reached world; `C12_reach` has those of the first.  The
    base theorems about a handler take `WFInv j u m` for the denominations of an arbitrary `env`:
    their restatements assume `env.junoD = w0.junoD`, `env.usdcD = w0.usdcD` and use `C12_reach`.
    The base theorems about `step` take the world's own denominations: use this one. -/
theorem closed_wf (h0 : w0.mkt = instantiate t r) (ops : List Op) :
    WFInv (run w0 ops).junoD (run w0 ops).usdcD (run w0 ops).mkt :=
  C12_inv_run (h0 ▸ WFInv.init _ _ t r) ops

/-- the id of a listing that is live at some point of a history from instantiation is in the log
    at every later point -/
theorem reach_found_used (h0 : w0.mkt = instantiate t r) (ops₁ ops₂ : List Op) {lid : Nat}
    {k : Nat × Nat} {l : Listing} (hf : findById lid (run w0 ops₁).mkt.listings = some (k, l)) :
    lid ∈ (run w0 (ops₁ ++ ops₂)).mkt.listingUsed := by
  rw [run_append]
  exact (C09_used_run _ ops₂).1 _ ((C09_reach h0 ops₁).findById_used hf)

/-! ## the clock -/

/-- total nanoseconds by which a history advances the block time -/
def closed_elapsed (ops : List Op) : Nat := (ops.map Op.elapseNs).sum

theorem closed_elapsed_nil : closed_elapsed [] = 0 := rfl

theorem closed_elapsed_cons (op : Op) (ops : List Op) :
    closed_elapsed (op :: ops) = op.elapseNs + closed_elapsed ops := by
  simp [closed_elapsed]

theorem closed_elapsed_append (a b : List Op) :
    closed_elapsed (a ++ b) = closed_elapsed a + closed_elapsed b := by
  simp [closed_elapsed]

theorem closed_run_nowNs (w : World) (ops : List Op) :
    (run w ops).nowNs = w.nowNs + closed_elapsed ops := by
  induction ops generalizing w with
  | nil => rfl
  | cons op ops ih =>
    show (run (stepF noFault w op).1 ops).nowNs = _  -- `step` is `stepF noFault` by definition
    rw [ih, stepF_nowNs, closed_elapsed_cons, Nat.add_assoc]

theorem closed_nowNs_mono (w : World) (ops : List Op) : w.nowNs ≤ (run w ops).nowNs := by
  rw [closed_run_nowNs]; exact Nat.le_add_right _ _

/-- **the block time is a `u64` number of nanoseconds** (cosmwasm `Timestamp(Uint64)`).  The
    model's clock is an unbounded natural, so this is a predicate on worlds. -/
def TimeOk (w : World) : Prop := w.nowNs ≤ U64MAX

instance (w : World) : Decidable (TimeOk w) := by unfold TimeOk; exact inferInstance

/-- then the block time in seconds is a `u64` too (the Rust's `env.block.time.seconds()`) -/
theorem TimeOk.secs {w : World} (h : TimeOk w) : w.nowNs / NS ≤ U64MAX :=
  Nat.le_trans (Nat.div_le_self _ _) h

/-- `TimeOk` is preserved by an operation that keeps the clock within a `u64`; every operation
    other than `advance` does (`elapseNs = 0`) -/
theorem TimeOk_step {w : World} (op : Op) (h : w.nowNs + op.elapseNs ≤ U64MAX) :
    TimeOk (step w op).1 := by
  show (stepF noFault w op).1.nowNs ≤ U64MAX
  rw [stepF_nowNs]; exact h

theorem TimeOk_step_of_not_advance {w : World} (op : Op) (hw : TimeOk w) (h : op.elapseNs = 0) :
    TimeOk (step w op).1 :=
  TimeOk_step op (by rw [h]; exact hw)

/-- `TimeOk` along a history whose `advance` operations keep the clock within a `u64` (an
    input-side condition: the model's `advance` is unbounded) -/
theorem TimeOk_run {w : World} (ops : List Op) (h : w.nowNs + closed_elapsed ops ≤ U64MAX) :
    TimeOk (run w ops) := by
  show (run w ops).nowNs ≤ U64MAX
  rw [closed_run_nowNs]; exact h

/-- the hypothesis of `TimeOk_run` in the per-operation form "every `advance` keeps the clock
    within a `u64`": it is equivalent to `TimeOk` of every intermediate state. -/
theorem TimeOk_run_iff {w : World} (ops : List Op) :
    w.nowNs + closed_elapsed ops ≤ U64MAX ↔ ∀ k, TimeOk (run w (ops.take k)) := by
  constructor
  · intro h k
    rw [← List.take_append_drop k ops, closed_elapsed_append] at h
    exact TimeOk_run _ (by omega)
  · intro h
    have := h ops.length
    rwa [List.take_length, TimeOk, closed_run_nowNs] at this

/-- **the fee time stamp never runs ahead of the clock**: `instantiate t r` stamps `t / NS`
    (Model/Market.lean), `cycleFee` stamps the current block second, nothing else writes the
    stamp, and the clock only moves forward.  `ht`: the contract was not instantiated in the
    future of the initial world (the model leaves `t` free). -/
theorem closed_since_le (h0 : w0.mkt = instantiate t r) (ht : t ≤ w0.nowNs) (ops : List Op) :
    t / NS ≤ (run w0 ops).mkt.feeSince ∧
    (run w0 ops).mkt.feeSince ≤ (run w0 ops).nowNs / NS := by
  have hs : w0.mkt.feeSince = t / NS := by rw [h0]; rfl
  have := C13_monotone_since (w := w0) (hs ▸ Nat.div_le_div_right ht) ops
  rwa [hs] at this

/-- under `TimeOk` and `feeSince ≤ now` none of the saturating `u64` additions around the fee
    stamp saturates: the block second is at most ⌊(2⁶⁴ − 1) / 10⁹⌋ = 18 446 744 073, so adding a week
    (604 800 s) and 1 stays far below 2⁶⁴ -/
theorem closed_no_saturation {w : World} (hT : TimeOk w) (hs : w.mkt.feeSince ≤ w.nowNs / NS) :
    w.mkt.feeSince + WEEK + 1 ≤ U64MAX := by
  simp only [TimeOk, NS, WEEK, U64MAX] at *
  omega

/-! ## 128-bit amounts

The model's amounts are unbounded naturals; the Rust's are `Uint128`s.  `GBal.bounded`
(Lemmas/Arith.lean) says that a stored balance holds 128-bit amounts only; the purchase theorems of
C06 assume it of every stored record.  It is an invariant of every history whose *operations*
carry 128-bit amounts only (`Op.fits128`: in the Rust this is the type of the `amount` fields of
`Coin` and `Cw20ReceiveMsg`, so it cannot be violated by any message) — creations store the
deposit, top-ups abort on overflow (`add_tokens`), and a purchase only subtracts. -/

/-- every amount of a deposit is a `Uint128` (an NFT carries none) -/
def Asset.fits128 : Asset → Prop
  | .funds (.native cs) => ∀ c ∈ cs, c.amount ≤ U128MAX
  | .funds (.cw20 c) => c.amount ≤ U128MAX
  | .nft _ => True

/-- the amount a `Receive` hook message reports is a `Uint128` (no other message carries an amount
    that is stored as goods; asks are not goods) -/
def ExecMsg.fits128 : ExecMsg → Prop
  | .receive _ amount _ => amount ≤ U128MAX
  | _ => True

/-- every amount the operation carries — attached coins, the amount of a CW20 `Send`, the amount
    a (possibly forged) `Receive` hook call reports — is a `Uint128` -/
def Op.fits128 : Op → Prop
  | .exec _ funds msg => (∀ c ∈ funds, c.amount ≤ U128MAX) ∧ msg.fits128
  | .send20 _ _ amount _ => amount ≤ U128MAX
  | _ => True

instance (msg : ExecMsg) : Decidable msg.fits128 := by
  cases msg <;> simp only [ExecMsg.fits128] <;> exact inferInstance

instance (op : Op) : Decidable op.fits128 := by
  cases op <;> simp only [Op.fits128] <;> exact inferInstance

/-- every stored balance — the goods of every listing, the funds of every bucket — holds 128-bit
    amounts only -/
structure BoundedInv (m : Market) : Prop where
  lb : ∀ p ∈ m.listings, p.2.forSale.bounded
  bb : ∀ p ∈ m.buckets, p.2.funds.bounded

theorem BoundedInv.init (t : Nat) (r : Option Nat) : BoundedInv (instantiate t r) :=
  ⟨List.forall_mem_nil _, List.forall_mem_nil _⟩

theorem Asset.bal_bounded : ∀ {a : Asset}, a.fits128 → a.bal.bounded
  | .funds (.native _), h => ⟨h, List.forall_mem_nil _⟩
  | .funds (.cw20 _), h => ⟨List.forall_mem_nil _, List.forall_mem_singleton.2 h⟩
  | .nft _, _ => ⟨List.forall_mem_nil _, List.forall_mem_nil _⟩

/-- a top-up keeps 128-bit amounts: `add_tokens` aborts on overflow -/
theorem Asset.addTo_bounded {a : Asset} {g nf : GBal} (ha : a.fits128) (hg : g.bounded)
    (h : a.addTo g = some nf) : nf.bounded := by
  rcases a with (cs | c) | n
  · obtain ⟨n, hn, rfl⟩ := addTokens_native_iff.1 h
    exact ⟨addCoins_bounded hn hg.1 ha, hg.2⟩
  · obtain ⟨n, hn, rfl⟩ := addTokens_cw20_iff.1 h
    exact ⟨hg.1, addCoin_bounded hn hg.2 ha⟩
  · cases h
    exact hg

theorem Effect.bounded {m m' : Market} {env : Env} {u : Nat} {a : Asset} {msg : ExecMsg}
    {out : List OutMsg} (e : Effect m env u a msg m' out) (hB : BoundedInv m) (ha : a.fits128) :
    BoundedInv m' := by
  induction e with
  | createListing => exact ⟨forall_mem_ainsert hB.lb (Asset.bal_bounded ha), hB.bb⟩
  | addToListing _ hl _ _ _ hnf =>
    exact ⟨forall_mem_ainsert hB.lb (Asset.addTo_bounded ha (hB.lb _ (alookup_some_mem hl)) hnf), hB.bb⟩
  | changeAsk hl | finalize hl =>
    have := hB.lb _ (alookup_some_mem hl)
    exact ⟨forall_mem_ainsert hB.lb this, hB.bb⟩
  | deleteListing | withdrawPurchased => exact ⟨forall_mem_aerase hB.lb _, hB.bb⟩
  | createBucket => exact ⟨hB.lb, forall_mem_ainsert hB.bb (Asset.bal_bounded ha)⟩
  | addToBucket _ hb _ hnf =>
    exact ⟨hB.lb, forall_mem_ainsert hB.bb (Asset.addTo_bounded ha (hB.bb _ (alookup_some_mem hb)) hnf)⟩
  | removeBucket => exact ⟨hB.lb, forall_mem_aerase hB.bb _⟩
  | buy hb hl _ _ _ _ _ _ hlfee hbfee _ hr1 hr2 =>
    -- a purchase only subtracts: each side's fee split (`hlfee`, `hbfee`), then the royalty pass
    -- over what is left of it (`hr2` the listing's goods, `hr1` the bucket's)
    exact ⟨forall_mem_ainsert (forall_mem_aerase hB.lb _)
        (C17_roy_bounded (C17_fee_bounded (hB.lb _ (findById_some hl).2) hlfee).1
          (sideRoyalties_ok_royalties hr2)).1,
      forall_mem_ainsert (forall_mem_aerase hB.bb _)
        (C17_roy_bounded (C17_fee_bounded (hB.bb _ (alookup_some_mem hb)) hbfee).1
          (sideRoyalties_ok_royalties hr1)).1⟩
  | feeCycle => exact ⟨hB.lb, hB.bb⟩

theorem closed_bounded_execute {m m' : Market} {env : Env} {s : Nat} {f : List Coin}
    {msg : ExecMsg} {out : List OutMsg} (h : execute m env s f msg = .ok (m', out))
    (hB : BoundedInv m) (hf : ∀ c ∈ f, c.amount ≤ U128MAX) (hmsg : msg.fits128) :
    BoundedInv m' := by
  -- the deposit is the amount a CW20 hook reports, the NFT of a CW721 hook, or the attached coins
  rcases execute_effect_cases h with ⟨_, _, _, rfl, e⟩ | ⟨_, _, _, rfl, e⟩ | e
  · exact e.bounded hB hmsg
  · exact e.bounded hB trivial
  · exact e.bounded hB hf

theorem closed_fits128_asExec {op : Op} {c : Nat} {f : List Coin} {msg : ExecMsg}
    (hop : op.fits128) (ho : op.asExec = some (c, f, msg)) :
    (∀ x ∈ f, x.amount ≤ U128MAX) ∧ msg.fits128 := by
  cases op <;> cases ho
  · exact hop
  · exact ⟨List.forall_mem_nil _, hop⟩
  · exact ⟨List.forall_mem_nil _, trivial⟩

theorem closed_bounded_step {w : World} (op : Op) (hB : BoundedInv w.mkt) (hop : op.fits128) :
    BoundedInv (step w op).1.mkt := by
  rcases stepF_mkt_cases noFault w op with ⟨h, _⟩ | ⟨c, f, msg, ho, _, hx, _⟩
  · exact h ▸ hB
  · obtain ⟨h1, h2⟩ := closed_fits128_asExec hop ho
    exact closed_bounded_execute hx hB h1 h2

theorem closed_bounded_run {w : World} (hB : BoundedInv w.mkt) (ops : List Op)
    (hops : ∀ op ∈ ops, op.fits128) : BoundedInv (run w ops).mkt :=
  run_induct (P := fun w => BoundedInv w.mkt) (fun _ op hq h => closed_bounded_step op h hq) ops
    hops hB

theorem closed_bounded (h0 : w0.mkt = instantiate t r) (ops : List Op)
    (hops : ∀ op ∈ ops, op.fits128) : BoundedInv (run w0 ops).mkt :=
  closed_bounded_run (h0 ▸ BoundedInv.init t r) ops hops

end Fuzion
