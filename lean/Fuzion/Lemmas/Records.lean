/-
  Fuzion.Lemmas.Records — what the storage invariants `IdsInv` (C09) and `WFInv` (C12) say about
  one stored record: the predicates of `Inv/Defs.lean` as propositions, the two halves of `IdsInv`
  under insert / erase (`WFInv` under the same writes is `Shape` in `InvLemmas`), and lookups by id.
-/
import Fuzion.Inv.MInv
import Fuzion.Lemmas.AListBasic
namespace Fuzion

theorem wfFee_some {j u : Nat} {c : Coin} :
    wfFee j u (some c) = true ↔ c.amount ≠ 0 ∧ (c.key = j ∨ c.key = u) := by
  simp [wfFee]

theorem wfTimes_iff {fin exp : Option Nat} : wfTimes fin exp = true ↔
    ∃ f e, fin = some f ∧ exp = some e ∧ f ≤ e ∧ (e - f) % NS = 0 ∧ MIN_LIFE ≤ (e - f) / NS ∧
      (e - f) / NS ≤ TWO_WEEKS := by
  constructor
  · intro h
    cases fin <;> cases exp <;> first | cases h | skip
    simp only [wfTimes, Bool.and_eq_true, decide_eq_true_eq, and_assoc] at h
    exact ⟨_, _, rfl, rfl, h⟩
  · rintro ⟨f, e, rfl, rfl, h⟩
    simpa only [wfTimes, Bool.and_eq_true, decide_eq_true_eq, and_assoc] using h

theorem wfTimes_spec {fin exp : Option Nat} (h : wfTimes fin exp = true) :
    ∃ f e, fin = some f ∧ exp = some e ∧ f ≤ e :=
  let ⟨f, e, h1, h2, h3, _⟩ := wfTimes_iff.1 h
  ⟨f, e, h1, h2, h3⟩

theorem wfTimes_finalize (now s : Nat) (h1 : MIN_LIFE ≤ s) (h2 : s ≤ TWO_WEEKS) :
    wfTimes (some now) (some (now + s * NS)) = true := by
  refine wfTimes_iff.2 ⟨_, _, rfl, rfl, Nat.le_add_right _ _, ?_⟩
  rw [Nat.add_sub_cancel_left, Nat.mul_div_cancel _ (by decide : 0 < NS)]
  exact ⟨Nat.mul_mod_left _ _, h1, h2⟩

theorem wfBucket_iff {j u : Nat} {k : Nat × Nat} {b : Bucket} :
    wfBucket j u k b = true ↔ k.1 = b.owner ∧ wfBal b.funds = true ∧ wfFee j u b.fee = true := by
  simp only [wfBucket, Bool.and_eq_true, decide_eq_true_eq, and_assoc]

theorem wfBucket_fee {j u : Nat} {k : Nat × Nat} {b : Bucket} {c : Coin}
    (h : wfBucket j u k b = true) (hf : b.fee = some c) : c.amount ≠ 0 ∧ (c.key = j ∨ c.key = u) :=
  wfFee_some.1 (hf ▸ (wfBucket_iff.1 h).2.2)

theorem wfListing_iff {j u : Nat} {k : Nat × Nat} {l : Listing} :
    wfListing j u k l = true ↔
      k = (l.creator, l.id) ∧ wfBal l.forSale = true ∧ wfAsk l.ask = true ∧
      (l.status = .preparing →
        l.finalizedAt = none ∧ l.expiresAt = none ∧ l.claimant = none ∧ l.fee = none) ∧
      (l.status = .finalized →
        wfTimes l.finalizedAt l.expiresAt = true ∧ l.claimant = none ∧ l.fee = none) ∧
      (l.status = .closed →
        wfTimes l.finalizedAt l.expiresAt = true ∧ l.claimant = some l.creator ∧
        wfFee j u l.fee = true) := by
  cases h : l.status <;>
    simp only [wfListing, h, Bool.and_eq_true, decide_eq_true_eq, Option.isNone_iff_eq_none,
      and_assoc, reduceCtorEq, false_implies, forall_const, and_true, true_and]

section
variable {j u : Nat} {k : Nat × Nat} {l : Listing} (h : wfListing j u k l = true)
include h

theorem wfListing_preparing (hs : l.status = .preparing) :
    l.finalizedAt = none ∧ l.expiresAt = none ∧ l.claimant = none ∧ l.fee = none :=
  (wfListing_iff.1 h).2.2.2.1 hs

theorem wfListing_finalized (hs : l.status = .finalized) :
    wfTimes l.finalizedAt l.expiresAt = true ∧ l.claimant = none ∧ l.fee = none :=
  (wfListing_iff.1 h).2.2.2.2.1 hs

theorem wfListing_closed (hs : l.status = .closed) :
    wfTimes l.finalizedAt l.expiresAt = true ∧ l.claimant = some l.creator ∧
    wfFee j u l.fee = true :=
  (wfListing_iff.1 h).2.2.2.2.2 hs

theorem wfListing_claimant {c : Nat} (hc : l.claimant = some c) :
    l.status = .closed ∧ c = l.creator := by
  cases hs : l.status
  · cases (wfListing_preparing h hs).2.2.1.symm.trans hc
  · cases (wfListing_finalized h hs).2.1.symm.trans hc
  · exact ⟨rfl, Option.some.inj (hc.symm.trans (wfListing_closed h hs).2.1)⟩

theorem wfListing_fee {c : Coin} (hf : l.fee = some c) :
    c.amount ≠ 0 ∧ (c.key = j ∨ c.key = u) ∧ l.status = .closed := by
  cases hs : l.status
  · cases (wfListing_preparing h hs).2.2.2.symm.trans hf
  · cases (wfListing_finalized h hs).2.2.symm.trans hf
  · have := wfFee_some.1 (hf ▸ (wfListing_closed h hs).2.2)
    exact ⟨this.1, this.2, rfl⟩

theorem wfListing_fee_none (hc : l.claimant = none) : l.fee = none :=
  Option.eq_none_iff_forall_ne_some.2 fun _ hf =>
    nomatch hc.symm.trans (wfListing_closed h (wfListing_fee h hf).2.2).2.1

theorem wfListing_wfFee : wfFee j u l.fee = true := by
  cases hs : l.status
  · rw [(wfListing_preparing h hs).2.2.2]; rfl
  · rw [(wfListing_finalized h hs).2.2]; rfl
  · exact (wfListing_closed h hs).2.2

end

theorem WFInv.listing {j u : Nat} {m : Market} (hW : WFInv j u m) {k : Nat × Nat} {l : Listing}
    (h : alookup k m.listings = some l) : wfListing j u k l = true :=
  -- the pair is written out: left to unification, `?p.1 =?= k` unfolds `wfListing` first (slow)
  hW.lwf (k, l) (alookup_some_mem h)

theorem WFInv.bucket {j u : Nat} {m : Market} (hW : WFInv j u m) {k : Nat × Nat} {b : Bucket}
    (h : alookup k m.buckets = some b) : wfBucket j u k b = true :=
  hW.bwf (k, b) (alookup_some_mem h)

theorem WFInv.preparing {j u : Nat} {m : Market} (hW : WFInv j u m) {x id : Nat} {l : Listing}
    (hl : alookup (x, id) m.listings = some l) (hs : l.status = .preparing) :
    x = l.creator ∧ l.claimant = none ∧ wfBal l.forSale = true :=
  have h := hW.listing hl
  ⟨congrArg Prod.fst (wfListing_iff.1 h).1, (wfListing_preparing h hs).2.2.1, (wfListing_iff.1 h).2.1⟩

theorem checkIds_iff (m : Market) : checkIds m = true ↔
    (akeys m.listings).Nodup ∧ (akeys m.buckets).Nodup ∧ (listingIds m).Nodup ∧
    (bucketIds m).Nodup ∧ (∀ i ∈ listingIds m, i ∈ m.listingUsed) ∧
    (∀ i ∈ bucketIds m, i ∈ m.bucketUsed) ∧ 0 ∈ m.listingUsed ∧ 0 ∈ m.bucketUsed := by
  simp only [checkIds, Bool.and_eq_true, decide_eq_true_eq, List.all_eq_true, and_assoc]

/-- the listing half of `IdsInv` (`IdsInv_iff`).  An accepted message writes one of the two tables,
    or both in different ways (the purchase), so each half is taken through insert and erase on its
    own below; `Shape.ids` in `InvLemmas` puts them together.  `us` is the id log `listingUsed`, a
    parameter because creation extends it apart from the table (`LIds.log`). -/
structure LIds (ls : List ((Nat × Nat) × Listing)) (us : List Nat) : Prop where
  keys : (akeys ls).Nodup
  filed : ∀ p ∈ ls, p.1 = (p.2.creator, p.2.id)
  inj : ∀ p ∈ ls, ∀ q ∈ ls, p.2.id = q.2.id → p.1 = q.1
  used : ∀ p ∈ ls, p.2.id ∈ us
  zero : 0 ∈ us

structure BIds (bs : List ((Nat × Nat) × Bucket)) (us : List Nat) : Prop where
  keys : (akeys bs).Nodup
  filed : ∀ p ∈ bs, p.1.1 = p.2.owner
  inj : ∀ p ∈ bs, ∀ q ∈ bs, p.1.2 = q.1.2 → p.1 = q.1
  used : ∀ p ∈ bs, p.1.2 ∈ us
  zero : 0 ∈ us

theorem IdsInv_iff (m : Market) :
    IdsInv m ↔ LIds m.listings m.listingUsed ∧ BIds m.buckets m.bucketUsed :=
  ⟨fun h => ⟨⟨h.lkeys, h.lfiled, h.lidInj, h.lused, h.zeroL⟩,
      ⟨h.bkeys, h.bfiled, h.bidInj, h.bused, h.zeroB⟩⟩,
   fun ⟨hl, hb⟩ =>
    ⟨hl.keys, hb.keys, hl.filed, hb.filed, hl.inj, hb.inj, hl.used, hb.used, hl.zero, hb.zero⟩⟩

section
variable {ls : List ((Nat × Nat) × Listing)} {bs : List ((Nat × Nat) × Bucket)} {us : List Nat}
  {k : Nat × Nat}

theorem LIds.log (h : LIds ls us) (i : Nat) : LIds ls (i :: us) :=
  ⟨h.keys, h.filed, h.inj, fun p hp => .tail _ (h.used p hp), .tail _ h.zero⟩

theorem LIds.erase (h : LIds ls us) (k : Nat × Nat) : LIds (aerase k ls) us :=
  ⟨nodup_akeys_aerase _ h.keys, forall_mem_aerase h.filed k,
   fun p hp q hq => h.inj p (mem_aerase.1 hp).1 q (mem_aerase.1 hq).1, forall_mem_aerase h.used k,
   h.zero⟩

/-- a record may be stored under its own key if its id is logged and no record under another key
    carries that id -/
theorem LIds.put (h : LIds ls us) {l : Listing} (hk : k = (l.creator, l.id)) (hu : l.id ∈ us)
    (hn : ∀ p ∈ ls, p.2.id = l.id → p.1 = k) : LIds (ainsert k l ls) us :=
  ⟨nodup_akeys_ainsert _ _ h.keys, forall_mem_ainsert h.filed hk,
   inj_ainsert (f := fun p : (Nat × Nat) × Listing => p.2.id) h.inj hn, forall_mem_ainsert h.used hu, h.zero⟩

theorem LIds.insert (h : LIds ls us) {c id : Nat} {l : Listing} (hf : id ∉ us) (hc : l.creator = c)
    (hid : l.id = id) : LIds (ainsert (c, id) l ls) (id :: us) :=
  (h.log id).put (by rw [hc, hid]) (by rw [hid]; exact .head _)
    fun p hp e => absurd (hid ▸ e ▸ h.used p hp) hf

/-- the purchase: erase the record's key, re-file it (same id) under a new owner -/
theorem LIds.move (h : LIds ls us) {l l' : Listing} {c : Nat} (hm : (k, l) ∈ ls)
    (hc : l'.creator = c) (hid : l'.id = l.id) : LIds (ainsert (c, l.id) l' (aerase k ls)) us :=
  (h.erase k).put (by rw [hc, hid]) (hid ▸ h.used _ hm) fun p hp e =>
    absurd (h.inj p (mem_aerase.1 hp).1 _ hm (e.trans hid)) (mem_aerase.1 hp).2

theorem LIds.replace {ls : List ((Nat × Nat) × Listing)} {us : List Nat} (h : LIds ls us)
    {k : Nat × Nat} {l l' : Listing} (hl : alookup k ls = some l) (hc : l'.creator = l.creator)
    (hid : l'.id = l.id) : LIds (ainsert k l' ls) us :=
  have hm := alookup_some_mem hl
  h.put (by rw [hc, hid]; exact h.filed _ hm) (hid ▸ h.used _ hm)
    fun p hp e => h.inj p hp _ hm (e.trans hid)

theorem BIds.log (h : BIds bs us) (i : Nat) : BIds bs (i :: us) :=
  ⟨h.keys, h.filed, h.inj, fun p hp => .tail _ (h.used p hp), .tail _ h.zero⟩

theorem BIds.erase (h : BIds bs us) (k : Nat × Nat) : BIds (aerase k bs) us :=
  ⟨nodup_akeys_aerase _ h.keys, forall_mem_aerase h.filed k,
   fun p hp q hq => h.inj p (mem_aerase.1 hp).1 q (mem_aerase.1 hq).1, forall_mem_aerase h.used k,
   h.zero⟩

theorem BIds.put (h : BIds bs us) {b : Bucket} (hk : k.1 = b.owner) (hu : k.2 ∈ us)
    (hn : ∀ p ∈ bs, p.1.2 = k.2 → p.1 = k) : BIds (ainsert k b bs) us :=
  ⟨nodup_akeys_ainsert _ _ h.keys, forall_mem_ainsert h.filed hk,
   inj_ainsert (f := fun p : (Nat × Nat) × Bucket => p.1.2) h.inj hn, forall_mem_ainsert h.used hu, h.zero⟩

theorem BIds.insert (h : BIds bs us) {c id : Nat} {b : Bucket} (hf : id ∉ us) (hc : b.owner = c) :
    BIds (ainsert (c, id) b bs) (id :: us) :=
  (h.log id).put hc.symm (.head _) fun p hp (e : p.1.2 = id) => absurd (e ▸ h.used p hp) hf

theorem BIds.move (h : BIds bs us) {b b' : Bucket} {c : Nat} (hm : (k, b) ∈ bs) (hc : b'.owner = c) :
    BIds (ainsert (c, k.2) b' (aerase k bs)) us :=
  (h.erase k).put hc.symm (h.used _ hm) fun p hp e =>
    absurd (h.inj p (mem_aerase.1 hp).1 _ hm e) (mem_aerase.1 hp).2

theorem BIds.replace {bs : List ((Nat × Nat) × Bucket)} {us : List Nat} (h : BIds bs us)
    {k : Nat × Nat} {b b' : Bucket} (hl : alookup k bs = some b) (hc : b'.owner = b.owner) :
    BIds (ainsert k b' bs) us :=
  have hm := alookup_some_mem hl
  h.put ((h.filed _ hm).trans hc.symm) (h.used _ hm) fun p hp e => h.inj p hp _ hm e

end

section
variable {id : Nat} {ls : List ((Nat × Nat) × Listing)} {us : List Nat}

theorem findById_some {p : (Nat × Nat) × Listing} (h : findById id ls = some p) :
    p.2.id = id ∧ p ∈ ls :=
  ⟨by simpa using List.find?_some h, List.mem_of_find?_eq_some h⟩

theorem findById_cons_self {k : Nat × Nat} {v : Listing} (h : v.id = id) :
    findById id ((k, v) :: ls) = some (k, v) := by
  simp [findById, List.find?, h]

theorem findById_eq_none_iff : findById id ls = none ↔ ∀ p ∈ ls, p.2.id ≠ id := by
  simp only [findById, List.find?_eq_none, decide_eq_true_eq, ne_eq]

theorem findById_ainsert (key : Nat × Nat) (v : Listing) :
    findById id (ainsert key v ls) =
      if v.id = id then some (key, v) else findById id (aerase key ls) := by
  simp only [findById, ainsert, List.find?_cons]
  split <;> simp_all

theorem LIds.findById_iff (h : LIds ls us) {p : (Nat × Nat) × Listing} :
    findById id ls = some p ↔ p ∈ ls ∧ p.2.id = id :=
  ⟨fun hf => (findById_some hf).symm, fun ⟨hm, hid⟩ =>
    find?_eq_some_of_unique hm (decide_eq_true hid) fun q hq hqid =>
      eq_of_nodup_map h.keys hq hm (h.inj q hq p hm ((of_decide_eq_true hqid).trans hid.symm))⟩

theorem LIds.findById_aerase (h : LIds ls us) {k : Nat × Nat} {l : Listing}
    (hf : findById id ls = some (k, l)) (key : Nat × Nat) :
    findById id (aerase key ls) = if key = k then none else some (k, l) := by
  obtain ⟨hid, hm⟩ := findById_some hf
  split
  · next e =>
    exact findById_eq_none_iff.2 fun p hp hpid =>
      (mem_aerase.1 hp).2 (e ▸ h.inj p (mem_aerase.1 hp).1 _ hm (hpid.trans hid.symm))
  · next hne => exact (h.erase key).findById_iff.2 ⟨mem_aerase.2 ⟨hm, Ne.symm hne⟩, hid⟩

end

section
variable {m : Market} (hI : IdsInv m)
include hI

theorem IdsInv.lids : LIds m.listings m.listingUsed := ((IdsInv_iff m).1 hI).1

theorem IdsInv.findById_iff {id : Nat} {p : (Nat × Nat) × Listing} :
    findById id m.listings = some p ↔ p ∈ m.listings ∧ p.2.id = id :=
  hI.lids.findById_iff

theorem IdsInv.findById_key {id : Nat} {k : Nat × Nat} {l : Listing}
    (h : findById id m.listings = some (k, l)) :
    k = (l.creator, id) ∧ l.id = id ∧ alookup k m.listings = some l :=
  have ⟨hid, hm⟩ := findById_some h
  ⟨hid ▸ hI.lfiled _ hm, hid, mem_nodup_alookup hI.lkeys hm⟩

theorem IdsInv.findById_used {id : Nat} {p : (Nat × Nat) × Listing}
    (h : findById id m.listings = some p) : id ∈ m.listingUsed :=
  (findById_some h).1 ▸ hI.lused _ (findById_some h).2

/-- an id that is not in the log is not in the tables: the storage-key tests of the creation
    handlers are implied by their log tests -/
theorem IdsInv.listing_fresh {id : Nat} (h : id ∉ m.listingUsed) : findById id m.listings = none :=
  Option.eq_none_iff_forall_ne_some.2 fun _ hf => h (hI.findById_used hf)

theorem IdsInv.bucket_fresh {id : Nat} (h : id ∉ m.bucketUsed) (u : Nat) :
    alookup (u, id) m.buckets = none :=
  Option.eq_none_iff_forall_ne_some.2 fun _ hl => h (hI.bused _ (alookup_some_mem hl))

theorem IdsInv.findById_of_alookup {u id : Nat} {l : Listing}
    (h : alookup (u, id) m.listings = some l) :
    findById id m.listings = some ((u, id), l) ∧ u = l.creator ∧ l.id = id :=
  have hm := alookup_some_mem h
  have hk := Prod.mk.inj (hI.lfiled _ hm)
  ⟨hI.findById_iff.2 ⟨hm, hk.2.symm⟩, hk.1, hk.2.symm⟩

theorem IdsInv.findById_eq_none_iff {id : Nat} :
    findById id m.listings = none ↔ ∀ u, alookup (u, id) m.listings = none := by
  refine ⟨fun h u => Option.eq_none_iff_forall_ne_some.2 fun l hl => ?_, fun h => ?_⟩
  · cases h.symm.trans (hI.findById_of_alookup hl).1
  · refine Option.eq_none_iff_forall_ne_some.2 fun ⟨k, l⟩ hf => ?_
    obtain ⟨rfl, _, hl⟩ := hI.findById_key hf
    cases (h _).symm.trans hl

theorem IdsInv.lkeyInj : ∀ p ∈ m.listings, ∀ q ∈ m.listings, p.1.2 = q.1.2 → p.1 = q.1 :=
  fun p hp q hq e => hI.lidInj p hp q hq <| by
    rwa [hI.lfiled p hp, hI.lfiled q hq] at e

theorem IdsInv.alookup_other_none {id s : Nat} {k : Nat × Nat} {l : Listing}
    (h : findById id m.listings = some (k, l)) (hs : s ≠ l.creator) :
    alookup (s, id) m.listings = none :=
  Option.eq_none_iff_forall_ne_some.2 fun x hx => by
    cases h.symm.trans (hI.findById_of_alookup hx).1
    exact hs (hI.findById_of_alookup hx).2.1

theorem IdsInv.bucket_owner {a b bid : Nat} {x y : Bucket}
    (h1 : alookup (a, bid) m.buckets = some x) (h2 : alookup (b, bid) m.buckets = some y) : a = b :=
  (Prod.mk.inj (hI.bidInj _ (alookup_some_mem h1) _ (alookup_some_mem h2) rfl)).1

theorem IdsInv.bucket_other_none {k : Nat × Nat} {b : Bucket} (hb : (k, b) ∈ m.buckets) {s : Nat}
    (hs : s ≠ k.1) : alookup (s, k.2) m.buckets = none :=
  Option.eq_none_iff_forall_ne_some.2 fun _ hx =>
    hs (congrArg Prod.fst (hI.bidInj _ (alookup_some_mem hx) _ hb rfl))

theorem IdsInv.bucket_erased {x id : Nat} {b : Bucket}
    (hb : alookup (x, id) m.buckets = some b) (who : Nat) :
    alookup (who, id) (aerase (x, id) m.buckets) = none := by
  rw [alookup_aerase]
  split
  · rfl
  · next hne =>
    exact hI.bucket_other_none (alookup_some_mem hb) fun e => hne (by rw [e])

end

end Fuzion
