/-
  Fuzion.Lemmas.TradeLemmas — the cost of a trade (C06: "exactly the 0.5 % fee plus registered
  royalties, nothing more") written DECLARATIVELY, without reference to the model's code
  (`sideEntries`, `sentNative`, `sentCw20` here, over the formulas of `Lemmas/Arith.lean` for one
  balance), and an accepted purchase in that vocabulary: what each side keeps, what the royalty
  messages pay out per key and per payout address, as a handler call (`buy_closed`) and as a
  transaction.
-/
import Fuzion.Lemmas.BuyLemmas
import Fuzion.Lemmas.AcctLemmas
namespace Fuzion

/-- the registered entries of the DISTINCT collections of a side, in `collections` order -/
def sideEntries (env : Env) (g : GBal) : List RoyaltyInfo :=
  ((collections g).map env.regLookup).filterMap id

def sentNative (ms : List OutMsg) (p d : Nat) : Nat :=
  (ms.map fun m => match m with
    | .bankSend to cs => if to = p then coinAmt cs d else 0
    | _ => 0).sum

def sentCw20 (ms : List OutMsg) (p t : Nat) : Nat :=
  (ms.map fun m => match m with
    | .cw20Transfer t' to a => if to = p ∧ t' = t then a else 0
    | _ => 0).sum

theorem bpsOf_eq_sideEntries (env : Env) (g : GBal) :
    bpsOf env (collections g) = ((sideEntries env g).map (·.bps)).sum := rfl

theorem collections_spec (g : GBal) :
    (collections g).Nodup ∧ ∀ c, c ∈ collections g ↔ ∃ n ∈ g.nfts, n.coll = c := by
  refine ⟨nodup_eraseDups _, fun c => ?_⟩
  unfold collections
  rw [List.mem_eraseDups, List.mem_map]

theorem mem_sideEntries {env : Env} {g : GBal} {e : RoyaltyInfo} :
    e ∈ sideEntries env g ↔ ∃ n ∈ g.nfts, env.regLookup n.coll = some e := by
  unfold sideEntries
  rw [List.filterMap_map, List.mem_filterMap]
  constructor
  · rintro ⟨c, hc, he⟩
    obtain ⟨n, hn, rfl⟩ := ((collections_spec g).2 c).1 hc
    exact ⟨n, hn, he⟩
  · rintro ⟨n, hn, he⟩
    exact ⟨n.coll, ((collections_spec g).2 n.coll).2 ⟨n, hn, rfl⟩, he⟩

/-- `royalties_spec` for the call `buy` makes: the registry's answers for the collections of `g`
    are `sideEntries env g` -/
theorem sideRoyalties_spec {env : Env} {ra : Nat} {g bal fb : GBal} {ms : List OutMsg} {s : Nat}
    (hb : bal.bounded) (h : sideRoyalties env ra (collections g) bal = .ok fb ms s) :
    fb = afterRoyalty (sideEntries env g) bal ∧ ms = royaltyMsgs (sideEntries env g) bal ∧
    ((sideEntries env g).map (·.bps)).sum ≤ 5000 := by
  obtain ⟨h1, h2, h3, h4⟩ := royalties_spec hb (sideRoyalties_ok_royalties h)
  exact ⟨h1, h2, h3 ▸ h4⟩

/-- every message of a royalty pass is a bank or CW20 transfer to the payout address of one of
    the side's registered entries (no bound on the amounts needed) -/
theorem sideRoyalties_recipients {env : Env} {ra : Nat} {g bal fb : GBal} {ms : List OutMsg}
    {s : Nat} (h : sideRoyalties env ra (collections g) bal = .ok fb ms s) :
    ∀ x ∈ ms, ∃ e ∈ sideEntries env g,
      (∃ cs, x = .bankSend e.payout cs) ∨ (∃ t a, x = .cw20Transfer t e.payout a) := by
  intro x hx
  obtain ⟨_, _, r, hr, _, rfl⟩ | ⟨_, _, r, hr, _, rfl⟩ :=
    (mem_royalties (sideRoyalties_ok_royalties h)).1 hx
  · exact ⟨r, List.mem_filterMap.2 ⟨some r, hr, rfl⟩, .inl ⟨_, rfl⟩⟩
  · exact ⟨r, List.mem_filterMap.2 ⟨some r, hr, rfl⟩, .inr ⟨_, _, rfl⟩⟩

/-! ### what the royalty messages pay out: totals per key and per payout address -/

/-- the per-message summands of `sentNative` / `sentCw20` under names (`sentNative_eq`,
    `sentCw20_eq`), so that the `outBy` lemmas of `Lemmas/Arith.lean` apply to them -/
def fSentN (p d : Nat) : OutMsg → Nat := fun m => match m with
  | .bankSend to cs => if to = p then coinAmt cs d else 0
  | _ => 0
def fSentC (p t : Nat) : OutMsg → Nat := fun m => match m with
  | .cw20Transfer t' to a => if to = p ∧ t' = t then a else 0
  | _ => 0

theorem sentNative_eq (ms : List OutMsg) (p d : Nat) : sentNative ms p d = outBy (fSentN p d) ms := rfl
theorem sentCw20_eq (ms : List OutMsg) (p t : Nat) : sentCw20 ms p t = outBy (fSentC p t) ms := rfl

theorem sentNative_append (a b : List OutMsg) (p d : Nat) :
    sentNative (a ++ b) p d = sentNative a p d + sentNative b p d := outBy_append _ a b
theorem sentCw20_append (a b : List OutMsg) (p t : Nat) :
    sentCw20 (a ++ b) p t = sentCw20 a p t + sentCw20 b p t := outBy_append _ a b

theorem fSentN_mkBank (p d key to amt : Nat) :
    fSentN p d (mkBank key to amt) = if to = p ∧ key = d then amt else 0 := by
  simp only [fSentN, mkBank, coinAmt_single]
  by_cases h1 : to = p <;> by_cases h2 : key = d <;> simp [h1, h2]

/-- what the royalty payouts charged to a balance `g` of distinct denominations / tokens pay out
    per denomination or token `k`: the royalty total on what `g` holds of `k` -/
theorem outNative_royaltyMsgs {es : List RoyaltyInfo} {g : GBal} (nd : (keys g.native).Nodup)
    (k : Nat) : outNative (royaltyMsgs es g) k = royaltyOn es (coinAmt g.native k) := by
  rw [outNative_eq, royaltyMsgs_eq, outBy_append, outBy_flatMap_payMsgs_zero (fNative_mkCw20 k),
    Nat.add_zero]
  exact outBy_flatMap_key (T := royaltyOn es) (outBy_payMsgs_key (fNative_mkBank k) _ es)
    (royaltyOn_zero es) nd

theorem outCw20_royaltyMsgs {es : List RoyaltyInfo} {g : GBal} (nd : (keys g.cw20).Nodup) (k : Nat) :
    outCw20 (royaltyMsgs es g) k = royaltyOn es (coinAmt g.cw20 k) := by
  rw [outCw20_eq, royaltyMsgs_eq, outBy_append, outBy_flatMap_payMsgs_zero (fCw20_mkBank k),
    Nat.zero_add]
  exact outBy_flatMap_key (T := royaltyOn es) (outBy_payMsgs_key (fCw20_mkCw20 k) _ es)
    (royaltyOn_zero es) nd

theorem sentNative_royaltyMsgs {es : List RoyaltyInfo} {g : GBal} (nd : (keys g.native).Nodup)
    (p k : Nat) :
    sentNative (royaltyMsgs es g) p k =
      royaltyOn (es.filter fun e => decide (e.payout = p)) (coinAmt g.native k) := by
  rw [sentNative_eq, royaltyMsgs_eq, outBy_append,
    outBy_flatMap_payMsgs_zero (f := fSentN p k) (mk := mkCw20) (fun _ _ _ => rfl), Nat.add_zero]
  exact outBy_flatMap_key (T := royaltyOn (es.filter fun e => decide (e.payout = p)))
    (outBy_payMsgs (fSentN_mkBank p k) _ es) (royaltyOn_zero _) nd

theorem sentCw20_royaltyMsgs {es : List RoyaltyInfo} {g : GBal} (nd : (keys g.cw20).Nodup)
    (p k : Nat) :
    sentCw20 (royaltyMsgs es g) p k =
      royaltyOn (es.filter fun e => decide (e.payout = p)) (coinAmt g.cw20 k) := by
  rw [sentCw20_eq, royaltyMsgs_eq, outBy_append,
    outBy_flatMap_payMsgs_zero (f := fSentC p k) (mk := mkBank) (fun _ _ _ => rfl), Nat.zero_add]
  exact outBy_flatMap_key (T := royaltyOn (es.filter fun e => decide (e.payout = p)))
    (outBy_payMsgs (f := fSentC p k) (mk := mkCw20) (fun _ _ _ => rfl) _ es) (royaltyOn_zero _) nd

/-! ### one side of a purchase after fee and royalties, per key

`g` = the side before, `es` = the entries charged to it; `afterRoyalty es (afterFee fd g)` is
what is stored, `royaltyMsgs es (afterFee fd g)` what is sent. -/

section
variable {fd : Nat} {g : GBal} {es : List RoyaltyInfo}

theorem side_kept_native (nd : (keys g.native).Nodup) (k : Nat) :
    coinAmt (afterRoyalty es (afterFee fd g)).native k =
      afterFeeAmt fd g k - royaltyOn es (afterFeeAmt fd g k) := by
  rw [← afterFee_amt]; exact coinAmt_lessRoyalty (afterFee_keys_nodup nd) es k

theorem side_kept_cw20 (nd : (keys g.cw20).Nodup) (k : Nat) :
    coinAmt (afterRoyalty es (afterFee fd g)).cw20 k =
      coinAmt g.cw20 k - royaltyOn es (coinAmt g.cw20 k) := by
  rw [← afterFee_cw20 fd g] at nd ⊢; exact coinAmt_lessRoyalty nd es k

theorem side_outNative (nd : (keys g.native).Nodup) (k : Nat) :
    outNative (royaltyMsgs es (afterFee fd g)) k = royaltyOn es (afterFeeAmt fd g k) := by
  rw [outNative_royaltyMsgs (afterFee_keys_nodup nd), afterFee_amt]

theorem side_outCw20 (nd : (keys g.cw20).Nodup) (k : Nat) :
    outCw20 (royaltyMsgs es (afterFee fd g)) k = royaltyOn es (coinAmt g.cw20 k) := by
  rw [← afterFee_cw20 fd g] at nd ⊢; exact outCw20_royaltyMsgs nd k

theorem side_sentNative (nd : (keys g.native).Nodup) (p k : Nat) :
    sentNative (royaltyMsgs es (afterFee fd g)) p k =
      royaltyOn (es.filter fun e => decide (e.payout = p)) (afterFeeAmt fd g k) := by
  rw [sentNative_royaltyMsgs (afterFee_keys_nodup nd), afterFee_amt]

theorem side_sentCw20 (nd : (keys g.cw20).Nodup) (p k : Nat) :
    sentCw20 (royaltyMsgs es (afterFee fd g)) p k =
      royaltyOn (es.filter fun e => decide (e.payout = p)) (coinAmt g.cw20 k) := by
  rw [← afterFee_cw20 fd g] at nd ⊢; exact sentCw20_royaltyMsgs nd p k

theorem side_conserve_native (nd : (keys g.native).Nodup) (hs : (es.map (·.bps)).sum ≤ 5000)
    (k : Nat) :
    coinAmt g.native k = coinAmt (afterRoyalty es (afterFee fd g)).native k +
      feeAmt (feeOf fd g) k + outNative (royaltyMsgs es (afterFee fd g)) k := by
  rw [side_kept_native nd, side_outNative nd, Nat.add_right_comm,
    Nat.sub_add_cancel (royaltyOn_le hs _), afterFeeAmt_add_fee]

theorem side_conserve_cw20 (nd : (keys g.cw20).Nodup) (hs : (es.map (·.bps)).sum ≤ 5000)
    (k : Nat) :
    coinAmt g.cw20 k = coinAmt (afterRoyalty es (afterFee fd g)).cw20 k +
      outCw20 (royaltyMsgs es (afterFee fd g)) k := by
  rw [side_kept_cw20 nd, side_outCw20 nd, Nat.sub_add_cancel (royaltyOn_le hs _)]

end

/-- a dispatched message list credits an account `p` other than the marketplace and the pool
    with exactly what it sends to `p`: coins of bank transfers, units of honest CW20 tokens -/
theorem dispatchAll_credit {fail : Nat → Bool} {msgs : List OutMsg} {w w' : World} {i : Nat}
    (h : dispatchAll fail w msgs i = some w') {p : Nat} (hs : p ≠ w.self) (hp : p ≠ w.pool) :
    (∀ d, lget w'.bank (p, d) = lget w.bank (p, d) + sentNative msgs p d) ∧
    (∀ t, w.isHonest20 t = true →
      lget w'.cw20 (t, p) = lget w.cw20 (t, p) + sentCw20 msgs p t) := by
  refine ⟨fun d => ?_, fun t ht => ?_⟩
  · -- `rNat pool p d` is what one message gives `p` in denomination `d`, a deposit to the pool
    -- included when `p` is the pool: for any other `p` it is the summand of `sentNative`
    have e : rNat w.pool p d = fSentN p d :=
      funext fun x => by cases x <;> simp [rNat, fSentN, hp, eq_comm]
    have := dispatchAll_bank h p d
    rwa [if_neg hs, Nat.add_zero, e] at this
  · -- `r20 p t`, what one message gives `p` of token `t`, is the summand of `sentCw20`
    have e : r20 p t = fSentC p t :=
      funext fun x => by cases x <;> simp [r20, fSentC, and_comm, eq_comm]
    have := (dispatchAll_cw20 h t p).1 ht
    rwa [if_neg hs, Nat.add_zero, e] at this

/-- the re-filed listing of a purchase, declaratively: new owner and claimant, closed, the fee
    of the goods recorded, the goods reduced by the fee and then by the royalties of the
    collections the buyer pays with -/
def tradedListing (env : Env) (fd buyer : Nat) (l : Listing) (b : Bucket) : Listing :=
  { l with creator := buyer, claimant := some buyer, status := .closed,
           fee := feeOf fd l.forSale,
           forSale := afterRoyalty (sideEntries env b.funds) (afterFee fd l.forSale) }

/-- the re-filed bucket of a purchase, declaratively: owned by the seller, the fee of the funds
    recorded, the funds reduced by the fee and then by the royalties of the collections the
    seller sells -/
def tradedBucket (env : Env) (fd : Nat) (l : Listing) (b : Bucket) : Bucket :=
  ⟨l.creator, afterRoyalty (sideEntries env l.forSale) (afterFee fd b.funds), feeOf fd b.funds⟩

/-- What every C06 theorem about the handler is read off from: `buy_effect` with `calcFeeCoin` and
    `sideRoyalties` replaced by the declarative formulas (`calcFeeCoin_spec`, `sideRoyalties_spec`),
    which takes duplicate-free denominations (from `WFInv`) and 128-bit amounts.  Besides what
    `C06_buy_closed_form` states it returns the owner of the bucket and `wfBal` of both traded
    balances, whose duplicate-free keys the per-key lemmas `side_*` ask for.  In order, after
    `k l b`: the two lookups, the owner, `wfBal` of goods and of funds, the rate sum charged to the
    funds and to the goods, `m'`, `out`. -/
theorem buy_closed {j u : Nat} {m m' : Market} {env : Env} {buyer lid bid : Nat} {out : List OutMsg}
    (hW : WFInv j u m) (hbl : ∀ p ∈ m.listings, p.2.forSale.bounded)
    (hbb : ∀ p ∈ m.buckets, p.2.funds.bounded) (h : buy m env buyer lid bid = .ok (m', out)) :
    ∃ k l b, findById lid m.listings = some (k, l) ∧ alookup (buyer, bid) m.buckets = some b ∧
      b.owner = buyer ∧ wfBal l.forSale = true ∧ wfBal b.funds = true ∧
      ((sideEntries env l.forSale).map (·.bps)).sum ≤ 5000 ∧
      ((sideEntries env b.funds).map (·.bps)).sum ≤ 5000 ∧
      m' = { m with
        listings := ainsert (buyer, lid) (tradedListing env (feeDenomOf env m.feeKind) buyer l b)
          (aerase (l.creator, lid) m.listings),
        buckets := ainsert (l.creator, bid) (tradedBucket env (feeDenomOf env m.feeKind) l b)
          (aerase (buyer, bid) m.buckets) } ∧
      out = pendingFeeMsgs env.self b.fee ++
        royaltyMsgs (sideEntries env l.forSale) (afterFee (feeDenomOf env m.feeKind) b.funds) ++
        royaltyMsgs (sideEntries env b.funds) (afterFee (feeDenomOf env m.feeKind) l.forSale) := by
  -- skipped fields of `Effect.buy`: the five acceptance tests, and the registry address
  cases buy_effect (a := .funds (.native [])) h with
  | buy hb hl ho _ _ _ _ _ hlfee hbfee _ hr1 hr2 =>
  have hlm := (findById_some hl).2
  have hbm := alookup_some_mem hb
  have wl := (wfListing_iff.1 (hW.lwf _ hlm)).2.1
  have wb := (wfBucket_iff.1 (hW.bwf _ hbm)).2.1
  have ndl := (wfBal_keys wl).1
  have ndb := (wfBal_keys wb).1
  rw [calcFeeCoin_spec ndl] at hlfee
  rw [calcFeeCoin_spec ndb] at hbfee
  cases hlfee
  cases hbfee
  obtain ⟨rfl, rfl, h1⟩ := sideRoyalties_spec (afterFee_bounded ndb (hbb _ hbm)) hr1
  obtain ⟨rfl, rfl, h2⟩ := sideRoyalties_spec (afterFee_bounded ndl (hbl _ hlm)) hr2
  exact ⟨_, _, _, hl, hb, ho, wl, wb, h1, h2, rfl, rfl⟩

/-- every message of an accepted purchase goes to the community pool or to the payout address
    of a registered entry of one of the two sides, and none is a CW721 transfer -/
theorem buy_recipients {m m' : Market} {env : Env} {buyer lid bid : Nat} {out : List OutMsg}
    {k : Nat × Nat} {l : Listing} {b : Bucket} (h : buy m env buyer lid bid = .ok (m', out))
    (hl : findById lid m.listings = some (k, l)) (hb : alookup (buyer, bid) m.buckets = some b)
    (pool : Nat) :
    ∀ x ∈ out, (x.dest pool = pool ∨
        ∃ e ∈ sideEntries env l.forSale ++ sideEntries env b.funds, x.dest pool = e.payout) ∧
      ∀ c t to, x ≠ .nftTransfer c t to := by
  cases buy_effect (a := .funds (.native [])) h with
  | buy hb' hl' _ _ _ _ _ _ _ _ _ hr1 hr2 =>
  rw [hl] at hl'; cases hl'
  rw [hb] at hb'; cases hb'
  intro x hx
  simp only [List.mem_append, ← feeMsg_eq_pendingFeeMsgs, mem_feeMsg] at hx
  obtain (⟨c, -, rfl⟩ | hx) | hx := hx
  · exact ⟨.inl rfl, nofun⟩
  · obtain ⟨e, he, ⟨cs, rfl⟩ | ⟨t, a, rfl⟩⟩ := sideRoyalties_recipients hr1 x hx <;>
      exact ⟨.inr ⟨e, List.mem_append_left _ he, rfl⟩, nofun⟩
  · obtain ⟨e, he, ⟨cs, rfl⟩ | ⟨t, a, rfl⟩⟩ := sideRoyalties_recipients hr2 x hx <;>
      exact ⟨.inr ⟨e, List.mem_append_right _ he, rfl⟩, nofun⟩

/-- the purchase transaction moves no NFT, and touches the coins and CW20 units of nobody but the
    marketplace, the community pool and the payout addresses of the two sides' entries -/
theorem stepF_buy_untouched (fail : Nat → Bool) (w : World) (buyer lid bid : Nat) {k : Nat × Nat}
    {l : Listing} {b : Bucket} (hl : findById lid w.mkt.listings = some (k, l))
    (hb : alookup (buyer, bid) w.mkt.buckets = some b) :
    (stepF fail w (.exec buyer [] (.buy lid bid))).1.nft = w.nft ∧
    ∀ y, y ≠ w.self → y ≠ w.pool →
      (∀ e ∈ sideEntries w.env l.forSale ++ sideEntries w.env b.funds, e.payout ≠ y) →
      (∀ d, lget (stepF fail w (.exec buyer [] (.buy lid bid))).1.bank (y, d) = lget w.bank (y, d)) ∧
      (∀ t, lget (stepF fail w (.exec buyer [] (.buy lid bid))).1.cw20 (t, y) = lget w.cw20 (t, y)) := by
  rcases stepF_exec_nil fail w buyer (.buy lid bid) with ⟨e, hs⟩ | ⟨m', msgs, w2, hx, hdd, hs⟩
  · rw [hs]; exact ⟨rfl, fun y _ _ _ => ⟨fun _ => rfl, fun _ => rfl⟩⟩
  · rw [hs]
    have hrec := buy_recipients hx hl hb w.pool
    refine ⟨dispatchAll_nft_eq (w := { w with mkt := m' }) hdd (fun x hx' => (hrec x hx').2),
      fun y hy hp hr => dispatchAll_other (w := { w with mkt := m' }) hdd hy (fun x hx' => ?_)⟩
    show x.dest w.pool ≠ y
    rcases (hrec x hx').1 with e | ⟨e, he, e'⟩
    · rw [e]; exact Ne.symm hp
    · rw [e']; exact hr e he

/-- An accepted purchase transaction dispatched every message of `buy` in that same
    transaction, and every account other than the marketplace and the pool was credited with
    exactly what those messages send it. -/
theorem stepF_buy_credit {fail : Nat → Bool} {w : World} {buyer lid bid : Nat}
    (hok : (stepF fail w (.exec buyer [] (.buy lid bid))).2.ok = true) :
    ∃ m' out, buy w.mkt w.env buyer lid bid = .ok (m', out) ∧
      (stepF fail w (.exec buyer [] (.buy lid bid))).2.msgs = out ∧
      (stepF fail w (.exec buyer [] (.buy lid bid))).1.mkt = m' ∧
      ∀ p, p ≠ w.self → p ≠ w.pool →
        (∀ d, lget (stepF fail w (.exec buyer [] (.buy lid bid))).1.bank (p, d) =
          lget w.bank (p, d) + sentNative out p d) ∧
        (∀ t, w.isHonest20 t = true →
          lget (stepF fail w (.exec buyer [] (.buy lid bid))).1.cw20 (t, p) =
            lget w.cw20 (t, p) + sentCw20 out p t) := by
  rcases stepF_exec_nil fail w buyer (.buy lid bid) with ⟨e, hs⟩ | ⟨m', msgs, w2, hx, hdd, hs⟩
  · rw [hs] at hok; cases hok
  · rw [hs]
    exact ⟨m', msgs, hx, rfl, (dispatchAll_frame hdd).2,
      fun p h1 h2 => dispatchAll_credit hdd (w := { w with mkt := m' }) h1 h2⟩

end Fuzion
