/-
  Fuzion.Lemmas.QueryLemmas — the queries of `Fuzion.Model.Query` (property C16).  An owner's
  buckets and an owner's listings are one generic sorted list, `ownerRecs`; the filter `listable`
  of the market and whitelist queries is set against `purchasable` of `Inv/Defs`.
-/
import Fuzion.Model.Query
import Fuzion.Inv.Defs
import Fuzion.Lemmas.Records
namespace Fuzion

section paging
variable {α : Type}

theorem pageOf_succ (l : List α) (k : Nat) : pageOf l (k + 1) = (l.drop (20 * k)).take 20 := by
  rw [pageOf, Nat.add_sub_cancel, Nat.mul_comm]

theorem pages_flatMap (l : List α) (k : Nat) :
    ((List.range k).flatMap fun i => pageOf l (i + 1)) = l.take (20 * k) := by
  induction k with
  | zero => simp
  | succ k ih =>
    rw [List.range_succ, List.flatMap_append, ih, List.flatMap_singleton, pageOf_succ,
      Nat.mul_succ, List.take_add]

theorem pageOf_beyond (l : List α) (p : Nat) (h : (p - 1) * 20 ≥ l.length) : pageOf l p = [] := by
  rw [pageOf, List.drop_eq_nil_of_le h]
  rfl

theorem mem_of_mem_pageOf {l : List α} {p : Nat} {x : α} (h : x ∈ pageOf l p) : x ∈ l :=
  List.mem_of_mem_drop (List.mem_of_mem_take h)

theorem length_pageOf_le (l : List α) (p : Nat) : (pageOf l p).length ≤ 20 :=
  List.length_take_le _ _

theorem mem_pageOf_of_mem {l : List α} {x : α} (h : x ∈ l) :
    ∃ p, 1 ≤ p ∧ (p - 1) * 20 < l.length ∧ x ∈ pageOf l p := by
  -- the first `l.length` pages are the whole list, and a page starting beyond the end is empty
  have hx : x ∈ (List.range l.length).flatMap fun i => pageOf l (i + 1) := by
    rwa [pages_flatMap, List.take_of_length_le (by omega)]
  obtain ⟨i, _, hi⟩ := List.mem_flatMap.1 hx
  refine ⟨i + 1, Nat.succ_pos _, Nat.lt_of_not_ge fun hge => ?_, hi⟩
  rw [pageOf_beyond l (i + 1) hge] at hi
  cases hi

end paging

section owner
variable {ν : Type}

/-- the shape shared by `ownerBuckets` and `ownerListings` -/
def ownerRecs (l : List ((Nat × Nat) × ν)) (o : Nat) : List (Nat × ν) :=
  ((l.filter (fun p => decide (p.1.1 = o))).map (fun p => (p.1.2, p.2))).mergeSort
    (fun a b => decide (a.1 ≤ b.1))

theorem ownerRecs_perm (l : List ((Nat × Nat) × ν)) (o : Nat) :
    (ownerRecs l o).Perm ((l.filter (fun p => decide (p.1.1 = o))).map (fun p => (p.1.2, p.2))) :=
  List.mergeSort_perm _ _

theorem ownerRecs_sorted (l : List ((Nat × Nat) × ν)) (o : Nat) :
    (ownerRecs l o).Pairwise (fun a b => a.1 ≤ b.1) := by
  have h := List.pairwise_mergeSort (le := fun (a b : Nat × ν) => decide (a.1 ≤ b.1))
    (trans := by intro a b c h1 h2; simp only [decide_eq_true_eq] at *; omega)
    (total := by intro a b; simp only [Bool.or_eq_true, decide_eq_true_eq]; omega)
    ((l.filter (fun p => decide (p.1.1 = o))).map (fun p => (p.1.2, p.2)))
  exact h.imp (by intro a b hab; simpa using hab)

theorem ownerRecs_mem (l : List ((Nat × Nat) × ν)) (o : Nat) (x : Nat × ν) :
    x ∈ ownerRecs l o ↔ ((o, x.1), x.2) ∈ l := by
  simp only [ownerRecs, List.mem_mergeSort, List.mem_map, List.mem_filter, decide_eq_true_eq]
  constructor
  · rintro ⟨⟨⟨_, i⟩, v⟩, ⟨hm, rfl⟩, rfl⟩
    exact hm
  · intro h
    exact ⟨((o, x.1), x.2), ⟨h, rfl⟩, rfl⟩

theorem ownerRecs_ids_nodup (l : List ((Nat × Nat) × ν)) (o : Nat) (h : (akeys l).Nodup) :
    ((ownerRecs l o).map (·.1)).Nodup := by
  refine ((ownerRecs_perm l o).map _).nodup_iff.2 ?_
  rw [List.map_map]
  have hk := (nodup_akeys_iff.1 h).filter fun p => decide (p.1.1 = o)
  -- both pass the filter, so they have the owner in common: with equal ids the keys are equal
  refine (hk.imp_of_mem fun {a b} ha hb hab (e : a.1.2 = b.1.2) => hab ?_).map _ fun _ _ h => h
  have ha := of_decide_eq_true (List.mem_filter.1 ha).2
  have hb := of_decide_eq_true (List.mem_filter.1 hb).2
  exact Prod.ext (ha.trans hb.symm) e

theorem ownerRecs_nodup (l : List ((Nat × Nat) × ν)) (o : Nat) (h : (akeys l).Nodup) :
    (ownerRecs l o).Nodup :=
  List.Pairwise.of_map (Prod.fst : Nat × ν → Nat) (fun _ _ hab e => hab (e ▸ rfl))
    (ownerRecs_ids_nodup l o h)

theorem ownerRecs_strict (l : List ((Nat × Nat) × ν)) (o : Nat) (h : (akeys l).Nodup) :
    (ownerRecs l o).Pairwise (fun a b => a.1 < b.1) :=
  ((ownerRecs_sorted l o).and (List.Pairwise.of_map (Prod.fst : Nat × ν → Nat) (fun _ _ h => h)
    (ownerRecs_ids_nodup l o h))).imp fun ⟨hle, hne⟩ => Nat.lt_of_le_of_ne hle hne

end owner

theorem ownerBuckets_eq (m : Market) (o : Nat) : ownerBuckets m o = ownerRecs m.buckets o := rfl
theorem ownerListings_eq (m : Market) (o : Nat) : ownerListings m o = ownerRecs m.listings o := rfl

theorem wfListing_key {j u : Nat} {k : Nat × Nat} {l : Listing}
    (hwf : wfListing j u k l = true) : k = (l.creator, l.id) :=
  (wfListing_iff.1 hwf).1

/-- `hkey` is the field `lfiled` ("listings are filed under creator and id") of `IdsInv`, and a
    consequence of `wfListing` (`wfListing_key`) -/
theorem ownerListings_id {m : Market} {o : Nat}
    (hkey : ∀ p ∈ m.listings, p.1 = (p.2.creator, p.2.id)) {p : Nat × Listing}
    (hp : p ∈ ownerListings m o) : p.1 = p.2.id :=
  congrArg Prod.snd (hkey _ ((ownerRecs_mem _ _ _).1 hp))

/-- the per-owner listing query drops the ids; the listings alone are still distinct -/
theorem ownerListings_vals_nodup (m : Market) (o : Nat) (hk : (akeys m.listings).Nodup)
    (hkey : ∀ p ∈ m.listings, p.1 = (p.2.creator, p.2.id)) :
    ((ownerListings m o).map (·.2)).Nodup :=
  nodup_map_of_inj (ownerRecs_ids_nodup m.listings o hk) fun _ hp _ hq e =>
    (ownerListings_id hkey hp).trans ((congrArg Listing.id e).trans (ownerListings_id hkey hq).symm)

theorem purchasable_iff {l : Listing} {nowNs : Nat} :
    purchasable nowNs l = true ↔
      l.status = .finalized ∧ l.claimant = none ∧ ∃ e, l.expiresAt = some e ∧ nowNs ≤ e := by
  unfold purchasable
  cases he : l.expiresAt <;> simp [Option.isNone_iff_eq_none, and_assoc]

theorem listable_iff {l : Listing} {nowNs : Nat} :
    listable nowNs l = true ↔ l.status ≠ .closed ∧ ∃ e, l.expiresAt = some e ∧ nowNs ≤ e := by
  unfold listable
  cases he : l.expiresAt <;> simp [and_comm]

theorem purchasable_listable {l : Listing} {nowNs : Nat}
    (hp : purchasable nowNs l = true) : listable nowNs l = true :=
  let ⟨hs, _, he⟩ := purchasable_iff.1 hp
  listable_iff.2 ⟨fun hc => Status.noConfusion (hs.symm.trans hc), he⟩

theorem qBuckets_valid (m : Market) (o p : Nat) :
    qBuckets m (.valid o) p = some (pageOf (ownerBuckets m o) p) := rfl

theorem qBuckets_invalid (m : Market) (p : Nat) : qBuckets m .invalid p = none := rfl

theorem qListingsByOwner_valid (m : Market) (o p : Nat) :
    qListingsByOwner m (.valid o) p = some ((pageOf (ownerListings m o) p).map (·.2)) := rfl

theorem qListingsByOwner_invalid (m : Market) (p : Nat) : qListingsByOwner m .invalid p = none := rfl

theorem qWhitelisted_valid (m : Market) (nowNs o : Nat) :
    qWhitelisted m nowNs (.valid o) =
      some ((((m.listings.filter (fun p => decide (p.2.whitelist = some o))).map (·.2)).mergeSort
        (fun a b => decide (a.id ≤ b.id))).filter (listable nowNs)) := rfl

theorem qWhitelisted_invalid (m : Market) (nowNs : Nat) : qWhitelisted m nowNs .invalid = none := rfl

theorem qFeeDenom_kind (m : Market) (env : Env) : (qFeeDenom m env).kind = m.feeKind := rfl

theorem qFeeDenom_denom (m : Market) (env : Env) :
    (qFeeDenom m env).denom = feeDenomOf env m.feeKind := rfl

/-- the reported second is the first one after the week, as long as neither `u64` sum saturates -/
theorem qFeeDenom_nextChange (m : Market) (env : Env) (h : m.feeSince + WEEK + 1 ≤ U64MAX) :
    (qFeeDenom m env).nextChange = m.feeSince + WEEK + 1 := by
  rw [qFeeDenom, Nat.min_eq_left (Nat.le_of_succ_le h), Nat.min_eq_left h]

theorem mem_marketWindow {m : Market} {nowNs : Nat} {l : Listing} :
    l ∈ marketWindow m nowNs ↔
      ∃ k, (k, l) ∈ m.listings ∧ finSecs l ≥ nowNs / NS - TWO_WEEKS := by
  simp only [marketWindow, List.mem_map, List.mem_mergeSort, List.mem_filter, decide_eq_true_eq]
  constructor
  · rintro ⟨⟨k, _⟩, h, rfl⟩
    exact ⟨k, h⟩
  · rintro ⟨k, h⟩
    exact ⟨(k, l), h, rfl⟩

theorem qMarket_eq_some {m : Market} {nowNs page : Nat} {r : List Listing} :
    qMarket m nowNs page = some r ↔
      TWO_WEEKS ≤ nowNs / NS ∧ r = (pageOf (marketWindow m nowNs) page).filter (listable nowNs) := by
  unfold qMarket
  split
  · exact ⟨fun h => (nomatch h), fun h => absurd h.1 (by omega)⟩
  · exact ⟨fun h => ⟨by omega, (Option.some.inj h).symm⟩, fun h => congrArg some h.2.symm⟩

/-- `mergeSort` on a two-element list, for evaluating the queries on concrete data: kernel `decide`
    cannot unfold the well-founded `List.mergeSort` -/
theorem mergeSort_pair {α : Type} (le : α → α → Bool) (a b : α) :
    [a, b].mergeSort le = if le a b then [a, b] else [b, a] := by
  rw [List.mergeSort]
  simp [List.MergeSort.Internal.splitInTwo, List.merge]

end Fuzion
