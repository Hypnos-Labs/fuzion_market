/-
  Fuzion.Lemmas.ForgeReachLemmas — forged hook calls along histories (for Props/C18Reach.lean): a
  relation `ForgeRel P20 P721` between markets, "the same records, plus junk keyed by the forgers",
  that is reflexive, transitive and established by every direct hook call whose caller is in `P20`,
  resp. `P721`.
-/
import Fuzion.Lemmas.ForgeLemmas
import Fuzion.Props.C09
namespace Fuzion

/-- `op` is a direct call of the CW20 hook by a caller in `P20` or of the CW721 hook by a caller in
    `P721`, coins attached or not -/
def Op.forgedBy (P20 P721 : Nat → Prop) : Op → Prop
  | .exec c _ (.receive _ _ _) => P20 c
  | .exec c _ (.receiveNft _ _ _) => P721 c
  | _ => False

/-- `g'` is `g` plus, possibly, CW20 amounts of tokens in `P20` and NFTs of collections in `P721`.
    `cw20_le` is not implied by `cw20_same`: it says that the amounts of the tokens IN `P20` are never
    reduced either.  CW20 is tracked by amount because `addCoin` raises an entry in place or appends
    one; `addNft` appends, so the NFTs are tracked as a list with a suffix. -/
structure GBalExt (P20 P721 : Nat → Prop) (g g' : GBal) : Prop where
  native : g'.native = g.native
  cw20_same : ∀ t, ¬ P20 t → coinAmt g'.cw20 t = coinAmt g.cw20 t
  cw20_le : ∀ t, coinAmt g.cw20 t ≤ coinAmt g'.cw20 t
  nfts : ∃ extra, g'.nfts = g.nfts ++ extra ∧ ∀ n ∈ extra, P721 n.coll

theorem GBalExt.refl (P20 P721 : Nat → Prop) (g : GBal) : GBalExt P20 P721 g g :=
  ⟨rfl, fun _ _ => rfl, fun _ => Nat.le_refl _, [], by simp, by simp⟩

theorem GBalExt.trans {P20 P721 : Nat → Prop} {a b c : GBal} (h1 : GBalExt P20 P721 a b)
    (h2 : GBalExt P20 P721 b c) : GBalExt P20 P721 a c := by
  obtain ⟨e1, he1, hp1⟩ := h1.nfts
  obtain ⟨e2, he2, hp2⟩ := h2.nfts
  refine ⟨h2.native.trans h1.native, fun t ht => (h2.cw20_same t ht).trans (h1.cw20_same t ht),
    fun t => Nat.le_trans (h1.cw20_le t) (h2.cw20_le t), e1 ++ e2, ?_, ?_⟩
  · rw [he2, he1, List.append_assoc]
  · intro n hn
    rcases List.mem_append.1 hn with h | h
    · exact hp1 n h
    · exact hp2 n h

theorem GBalExt.mem_nfts {P20 P721 : Nat → Prop} {g g' : GBal} (h : GBalExt P20 P721 g g') {n : Nft}
    (hn : ¬ P721 n.coll) : n ∈ g'.nfts ↔ n ∈ g.nfts := by
  obtain ⟨extra, e, hx⟩ := h.nfts
  rw [e, List.mem_append]
  exact ⟨fun h => h.resolve_right fun h' => hn (hx n h'), .inl⟩

structure ListingExt (P20 P721 : Nat → Prop) (l l' : Listing) : Prop where
  frozen : l.status ≠ .preparing → l' = l
  creator : l'.creator = l.creator
  id : l'.id = l.id
  status : l'.status = l.status
  ask : l'.ask = l.ask
  whitelist : l'.whitelist = l.whitelist
  claimant : l'.claimant = l.claimant
  finalizedAt : l'.finalizedAt = l.finalizedAt
  expiresAt : l'.expiresAt = l.expiresAt
  fee : l'.fee = l.fee
  goods : GBalExt P20 P721 l.forSale l'.forSale

theorem ListingExt.refl (P20 P721 : Nat → Prop) (l : Listing) : ListingExt P20 P721 l l :=
  ⟨fun _ => rfl, rfl, rfl, rfl, rfl, rfl, rfl, rfl, rfl, rfl, GBalExt.refl _ _ _⟩

theorem ListingExt.trans {P20 P721 : Nat → Prop} {a b c : Listing} (h1 : ListingExt P20 P721 a b)
    (h2 : ListingExt P20 P721 b c) : ListingExt P20 P721 a c := by
  refine ⟨?_, h2.creator.trans h1.creator, h2.id.trans h1.id, h2.status.trans h1.status,
    h2.ask.trans h1.ask, h2.whitelist.trans h1.whitelist, h2.claimant.trans h1.claimant,
    h2.finalizedAt.trans h1.finalizedAt, h2.expiresAt.trans h1.expiresAt, h2.fee.trans h1.fee,
    h1.goods.trans h2.goods⟩
  intro hs
  have e1 := h1.frozen hs
  subst e1
  exact h2.frozen hs

structure BucketExt (P20 P721 : Nat → Prop) (b b' : Bucket) : Prop where
  owner : b'.owner = b.owner
  fee : b'.fee = b.fee
  funds : GBalExt P20 P721 b.funds b'.funds

theorem BucketExt.refl (P20 P721 : Nat → Prop) (b : Bucket) : BucketExt P20 P721 b b :=
  ⟨rfl, rfl, GBalExt.refl _ _ _⟩

theorem BucketExt.trans {P20 P721 : Nat → Prop} {a b c : Bucket} (h1 : BucketExt P20 P721 a b)
    (h2 : BucketExt P20 P721 b c) : BucketExt P20 P721 a c :=
  ⟨h2.owner.trans h1.owner, h2.fee.trans h1.fee, h1.funds.trans h2.funds⟩

/-- `m'` may hold further records -/
structure ForgeRel (P20 P721 : Nat → Prop) (m m' : Market) : Prop where
  feeKind : m'.feeKind = m.feeKind
  feeSince : m'.feeSince = m.feeSince
  registry : m'.registry = m.registry
  listing : ∀ k l, alookup k m.listings = some l →
    ∃ l', alookup k m'.listings = some l' ∧ ListingExt P20 P721 l l'
  bucket : ∀ k b, alookup k m.buckets = some b →
    ∃ b', alookup k m'.buckets = some b' ∧ BucketExt P20 P721 b b'

theorem ForgeRel.refl (P20 P721 : Nat → Prop) (m : Market) : ForgeRel P20 P721 m m :=
  ⟨rfl, rfl, rfl, fun _ l h => ⟨l, h, ListingExt.refl _ _ _⟩,
    fun _ b h => ⟨b, h, BucketExt.refl _ _ _⟩⟩

theorem ForgeRel.trans {P20 P721 : Nat → Prop} {a b c : Market} (h1 : ForgeRel P20 P721 a b)
    (h2 : ForgeRel P20 P721 b c) : ForgeRel P20 P721 a c := by
  refine ⟨h2.feeKind.trans h1.feeKind, h2.feeSince.trans h1.feeSince,
    h2.registry.trans h1.registry, ?_, ?_⟩
  · intro k l hl
    obtain ⟨l1, hl1, r1⟩ := h1.listing k l hl
    obtain ⟨l2, hl2, r2⟩ := h2.listing k l1 hl1
    exact ⟨l2, hl2, r1.trans r2⟩
  · intro k x hx
    obtain ⟨b1, hb1, r1⟩ := h1.bucket k x hx
    obtain ⟨b2, hb2, r2⟩ := h2.bucket k b1 hb1
    exact ⟨b2, hb2, r1.trans r2⟩

/-- what `ForgeRel` says about the assets nobody in `P20` / `P721` issues (`Q20`, `Q721`): every
    record keeps exactly its amount of such a token and exactly its NFTs of such a collection -/
theorem ForgeRel.outside {P20 P721 Q20 Q721 : Nat → Prop} {m m' : Market}
    (rel : ForgeRel P20 P721 m m') (h20 : ∀ t, Q20 t → ¬ P20 t) (h721 : ∀ c, Q721 c → ¬ P721 c) :
    (∀ k l, alookup k m.listings = some l → ∃ l', alookup k m'.listings = some l' ∧
      l'.creator = l.creator ∧ l'.status = l.status ∧ l'.forSale.native = l.forSale.native ∧
      (∀ t, Q20 t → coinAmt l'.forSale.cw20 t = coinAmt l.forSale.cw20 t) ∧
      (∀ n : Nft, Q721 n.coll → (n ∈ l'.forSale.nfts ↔ n ∈ l.forSale.nfts))) ∧
    (∀ k b, alookup k m.buckets = some b → ∃ b', alookup k m'.buckets = some b' ∧
      b'.owner = b.owner ∧ b'.funds.native = b.funds.native ∧
      (∀ t, Q20 t → coinAmt b'.funds.cw20 t = coinAmt b.funds.cw20 t) ∧
      (∀ n : Nft, Q721 n.coll → (n ∈ b'.funds.nfts ↔ n ∈ b.funds.nfts))) := by
  constructor
  · intro k l h
    obtain ⟨l', e, x⟩ := rel.listing k l h
    exact ⟨l', e, x.creator, x.status, x.goods.native, fun t ht => x.goods.cw20_same t (h20 t ht),
      fun n hn => x.goods.mem_nfts (h721 _ hn)⟩
  · intro k b h
    obtain ⟨b', e, x⟩ := rel.bucket k b h
    exact ⟨b', e, x.owner, x.funds.native, fun t ht => x.funds.cw20_same t (h20 t ht),
      fun n hn => x.funds.mem_nfts (h721 _ hn)⟩

theorem GBalExt.addTokens {P20 P721 : Nat → Prop} {g nf : GBal} {t a : Nat} (hP : P20 t)
    (h : addTokens g (.cw20 ⟨t, a⟩) = some nf) : GBalExt P20 P721 g nf := by
  obtain ⟨t1, t3, t2⟩ := addTokens_cw20_spec h
  refine ⟨t1, fun k hk => ?_, fun k => by rw [t3]; omega, [], by simp [t2], by simp⟩
  rw [t3, if_neg fun e : t = k => hk (e ▸ hP)]; rfl

theorem GBalExt.addNft {P20 P721 : Nat → Prop} (g : GBal) {n : Nft} (hP : P721 n.coll) :
    GBalExt P20 P721 g (addNft g n) :=
  ⟨rfl, fun _ _ => rfl, fun _ => Nat.le_refl _, [n], rfl, fun x hx => by
    rw [List.mem_singleton.1 hx]; exact hP⟩

theorem HookChange.forgeRel {P20 P721 : Nat → Prop} {m m' : Market} {user : Nat} {fresh : GBal}
    {top : GBal → GBal → Prop} (hI : IdsInv m) (hc : HookChange m user fresh top m')
    (htop : ∀ g nf, top g nf → GBalExt P20 P721 g nf) : ForgeRel P20 P721 m m' := by
  obtain ⟨c1, c2, c3, _⟩ := hc.cfg
  refine ⟨c1, c2, c3, fun k l hl => ?_, fun k b hb => ?_⟩
  · rcases hc.listing hI hl with e | ⟨_, hst, _, nf, ht, e⟩
    · exact ⟨l, e, .refl ..⟩
    · exact ⟨_, e, fun hne => absurd hst hne, rfl, rfl, rfl, rfl, rfl, rfl, rfl, rfl, rfl,
        htop _ _ ht⟩
  · rcases hc.bucket hb with e | ⟨_, nf, ht, e⟩
    · exact ⟨b, e, .refl ..⟩
    · exact ⟨_, e, rfl, rfl, htop _ _ ht⟩

theorem forged_step_rel {P20 P721 : Nat → Prop} (w : World) (hI : IdsInv w.mkt) (op : Op)
    (h : op.forgedBy P20 P721) :
    (step w op).1 = { w with mkt := (step w op).1.mkt } ∧
    ForgeRel P20 P721 w.mkt (step w op).1.mkt := by
  cases hok : (step w op).2.ok with
  | false =>
    rw [show (step w op).1 = w from stepF_failed_noop noFault w op hok]
    exact ⟨rfl, .refl ..⟩
  | true =>
    cases op with
    | exec c f msg =>
      cases msg with
      | receive s x i =>
        obtain ⟨_, _, m', _, hc, hs⟩ := forged_step_accepted (.inl ⟨rfl, rfl⟩) hok
        rw [hs]
        exact ⟨rfl, hc.forgeRel hI fun _ _ => GBalExt.addTokens h⟩
      | receiveNft s x i =>
        obtain ⟨_, _, m', _, hc, hs⟩ := forged_step_accepted (.inr ⟨rfl, rfl⟩) hok
        rw [hs]
        exact ⟨rfl, hc.forgeRel hI fun g _ e => Option.some.inj e ▸ GBalExt.addNft g h⟩
      | _ => exact h.elim
    | _ => exact h.elim

theorem forged_run_rel {P20 P721 : Nat → Prop} (w : World) (hI : IdsInv w.mkt) (ops : List Op)
    (h : ∀ op ∈ ops, op.forgedBy P20 P721) :
    run w ops = { w with mkt := (run w ops).mkt } ∧ ForgeRel P20 P721 w.mkt (run w ops).mkt :=
  (run_induct
    (P := fun w' => IdsInv w'.mkt ∧ w' = { w with mkt := w'.mkt } ∧ ForgeRel P20 P721 w.mkt w'.mkt)
    (fun w' op hq h =>
      have s := forged_step_rel w' h.1 op hq
      ⟨C09_inv_step op h.1,
        s.1.trans (congrArg (fun x : World => { x with mkt := (step w' op).1.mkt }) h.2.1),
        h.2.2.trans s.2⟩)
    ops h ⟨hI, rfl, .refl _ _ _⟩).2

end Fuzion
